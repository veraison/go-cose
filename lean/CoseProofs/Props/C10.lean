/-
  C10 — countersignatures sign the RFC 9338 structure and bind to their exact parent.
  Here: which parents `countersignToBeSigned` refuses, and what it does not depend on.  The
  equality with the RFC structure for each kind of parent (`ctbs_eq_rfc_*`) and the separation
  from message ToBeSigned and between full and abbreviated form are in Deep/Tbs; that a
  countersignature verifies against one COSE_Sign1 parent only (`csig_binds_*`) in Deep/Tamper.
-/
import CoseSpec
import CoseModel.Messages
open CoseModel CoseSpec
namespace C10

theorem ctx_model :
    ctxCounterSignature0 = utf8 "CounterSignature0" ∧ ctxCounterSignature = utf8 "CounterSignature" ∧
    ctxCounterSignature0V2 = utf8 "CounterSignature0V2" ∧ ctxCounterSignatureV2 = utf8 "CounterSignatureV2" :=
  ⟨rfl, rfl, rfl, rfl⟩

theorem refuses_unsupported (abbr : Bool) (sp : Bytes) (ext : Option Bytes) :
    countersignToBeSigned abbr .unsupported sp ext = .err .other := rfl

theorem refuses_unsigned_sign1 (abbr : Bool) (m : Sign1Msg) (sp : Bytes) (ext : Option Bytes)
    (h : blen m.sig = 0) : ∀ t, countersignToBeSigned abbr (.sign1 m) sp ext ≠ .ok t := by
  intro t; simp [countersignToBeSigned, h]

theorem refuses_unsigned_sign (abbr : Bool) (m : SignMsg) (sp : Bytes) (ext : Option Bytes)
    (h : m.sigs = []) : ∀ t, countersignToBeSigned abbr (.sign m) sp ext ≠ .ok t := by
  intro t; simp [countersignToBeSigned, h]

/-- a COSE_Sign with signer slots is unsigned as long as one slot holds no signature (the code's
    own `Sign` fills all slots or none, but a caller can assemble anything) -/
theorem refuses_unsigned_slot_sign (abbr : Bool) (m : SignMsg) (sp : Bytes) (ext : Option Bytes)
    (s : SigV) (hs : s ∈ m.sigs) (h : blen s.sig = 0) :
    ∀ t, countersignToBeSigned abbr (.sign m) sp ext ≠ .ok t := by
  intro t
  have hany : m.sigs.any (fun s => blen s.sig = 0) = true :=
    List.any_eq_true.mpr ⟨s, hs, by simpa using h⟩
  simp only [countersignToBeSigned]
  by_cases he : m.sigs.isEmpty
  · simp [he]
  · simp [he, hany]

/-- … and conversely a COSE_Sign parent is accepted only when every slot is signed -/
theorem sign_parent_ok_all_signed (abbr : Bool) (m : SignMsg) (sp : Bytes) (ext : Option Bytes)
    (t : Bytes) (h : countersignToBeSigned abbr (.sign m) sp ext = .ok t) :
    m.sigs ≠ [] ∧ ∀ s ∈ m.sigs, blen s.sig ≠ 0 := by
  refine ⟨fun he => refuses_unsigned_sign abbr m sp ext he t h, fun s hs hz => ?_⟩
  exact refuses_unsigned_slot_sign abbr m sp ext s hs hz t h

theorem refuses_unsigned_signature (abbr : Bool) (s : SigV) (sp : Bytes) (ext : Option Bytes)
    (h : blen s.sig = 0) : ∀ t, countersignToBeSigned abbr (.signature s) sp ext ≠ .ok t := by
  intro t
  simp only [countersignToBeSigned]
  cases marshalProtected s.h <;> simp [h]

theorem refuses_unsigned_countersignature (abbr : Bool) (s : SigV) (sp : Bytes) (ext : Option Bytes)
    (h : blen s.sig = 0) : ∀ t, countersignToBeSigned abbr (.countersignature s) sp ext ≠ .ok t := by
  intro t
  simp only [countersignToBeSigned]
  cases marshalProtected s.h <;> simp [h]

theorem refuses_detached_sign1 (abbr : Bool) (m : Sign1Msg) (sp : Bytes) (ext : Option Bytes)
    (h : m.payload = none) : ∀ t, countersignToBeSigned abbr (.sign1 m) sp ext ≠ .ok t := by
  intro t
  simp only [countersignToBeSigned]
  by_cases hs : blen m.sig = 0
  · simp [hs]
  · cases marshalProtected m.h <;> simp [hs, h]

theorem refuses_detached_sign (abbr : Bool) (m : SignMsg) (sp : Bytes) (ext : Option Bytes)
    (h : m.payload = none) : ∀ t, countersignToBeSigned abbr (.sign m) sp ext ≠ .ok t := by
  intro t
  simp only [countersignToBeSigned]
  by_cases hs : m.sigs.isEmpty
  · simp [hs]
  · by_cases hu : m.sigs.any (fun s => blen s.sig = 0)
    · simp [hs, hu]
    · cases marshalProtected m.h <;> simp [hs, hu, h]

/-- the parent's unprotected headers are not covered -/
theorem indep_parent_unprotected (abbr : Bool) (m : Sign1Msg) (sp : Bytes) (ext : Option Bytes)
    (ru : Option Bytes) (u : GoMap) :
    countersignToBeSigned abbr (.sign1 { m with h := { m.h with rawU := ru, u := u } }) sp ext =
    countersignToBeSigned abbr (.sign1 m) sp ext :=
  rfl

/-- nil and empty external data are equivalent -/
theorem ext_nil_eq_empty (abbr : Bool) (p : Parent) (sp : Bytes) :
    countersignToBeSigned abbr p sp none = countersignToBeSigned abbr p sp (some []) := rfl

end C10
