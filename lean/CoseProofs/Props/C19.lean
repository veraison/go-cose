/-
  C19 — decoding depends only on the input bytes: atomic and history-free.
  `decodeInto dec dst` is `dst.UnmarshalCBOR` for any decoder `dec`: every statement here holds of
  every decoder; `decode_atomic` is also named for the five of the library.
  (No-aliasing is a property of Go memory; the model's values are immutable, and the
  correspondence check scribbles over every input and output buffer to tie that to the code.)
-/
import CoseModel.State
open CoseModel
namespace C19

variable {α : Type}

/-- a failed decode leaves the destination exactly as it was -/
theorem decode_atomic (dec : Bytes → Out α) (dst : α) (b : Bytes)
    (h : (decodeInto dec dst b).2 ≠ .ok ()) : (decodeInto dec dst b).1 = dst := by
  revert h
  unfold decodeInto
  cases dec b with
  | ok a => exact fun h => absurd rfl h
  | err e => exact fun _ => rfl
  | panic => exact fun _ => rfl
  | unmodelled => exact fun _ => rfl

/-- a successful decode yields a value that is a function of the bytes alone: the same for every
    previous content of the destination -/
theorem decode_history_free (dec : Bytes → Out α) (dst dst' : α) (b : Bytes)
    (h : (decodeInto dec dst b).2 = .ok ()) :
    (decodeInto dec dst' b).2 = .ok () ∧ (decodeInto dec dst b).1 = (decodeInto dec dst' b).1 := by
  revert h
  unfold decodeInto
  cases dec b with
  | ok a => exact fun _ => ⟨rfl, rfl⟩
  | err e => nofun
  | panic => nofun
  | unmodelled => nofun

/-- the verdict itself never depends on the destination -/
theorem decode_verdict_indep (dec : Bytes → Out α) (dst dst' : α) (b : Bytes) :
    (decodeInto dec dst b).2 = (decodeInto dec dst' b).2 := by
  unfold decodeInto
  cases dec b <;> rfl

/-- the last input that decodes successfully, if any -/
def lastOk (dec : Bytes → Out α) : List Bytes → Option α
  | [] => none
  | b :: r =>
    match lastOk dec r with
    | some a => some a
    | none => (match dec b with | .ok a => some a | _ => none)

theorem history_snoc (dec : Bytes → Out α) (dst : α) (l : List Bytes) (b : Bytes) :
    decodeHistory dec dst (l ++ [b]) = (decodeInto dec (decodeHistory dec dst l) b).1 := by
  simp [decodeHistory, List.foldl_append]

theorem lastOk_snoc (dec : Bytes → Out α) (l : List Bytes) (b : Bytes) :
    lastOk dec (l ++ [b]) = (match dec b with | .ok a => some a | _ => lastOk dec l) := by
  induction l with
  | nil => simp [lastOk]
  | cons x r ih =>
    simp only [List.cons_append, lastOk, ih]
    cases hb : dec b <;> simp

/-- Invariant over every history (any number of successful and failing decodes, in any order):
    the variable holds the fresh decoding of the last input that decoded successfully, or its
    initial value when none did. -/
theorem histories (dec : Bytes → Out α) (dst : α) (inputs : List Bytes) :
    decodeHistory dec dst inputs = (lastOk dec inputs).getD dst := by
  induction inputs generalizing dst with
  | nil => simp [decodeHistory, lastOk]
  | cons b r ih =>
    have hstep : decodeHistory dec dst (b :: r) = decodeHistory dec (decodeInto dec dst b).1 r := by
      simp [decodeHistory]
    rw [hstep, ih]
    simp only [lastOk]
    cases hl : lastOk dec r with
    | some a => simp
    | none =>
      simp only [Option.getD_none]
      unfold decodeInto
      cases dec b <;> simp

/-- in particular, decoding into a used variable equals decoding into a fresh one -/
theorem used_eq_fresh (dec : Bytes → Out α) (dst fresh : α) (hist : List Bytes) (b : Bytes) (a : α)
    (h : dec b = .ok a) :
    decodeHistory dec dst (hist ++ [b]) = a ∧ (decodeInto dec fresh b).1 = a := by
  rw [histories, lastOk_snoc]
  simp [h, decodeInto]

/-! ### `decode_atomic` for the message decoders of the library -/

theorem sign1_atomic (tagged : Bool) (dst : Sign1Msg) (b : Bytes)
    (h : (decodeInto (Sign1.unmarshal tagged) dst b).2 ≠ .ok ()) :
    (decodeInto (Sign1.unmarshal tagged) dst b).1 = dst := decode_atomic _ _ _ h
theorem sign_atomic (dst : SignMsg) (b : Bytes)
    (h : (decodeInto Sign.unmarshal dst b).2 ≠ .ok ()) :
    (decodeInto Sign.unmarshal dst b).1 = dst := decode_atomic _ _ _ h
theorem signature_atomic (dst : SigV) (b : Bytes)
    (h : (decodeInto Signature.unmarshal dst b).2 ≠ .ok ()) :
    (decodeInto Signature.unmarshal dst b).1 = dst := decode_atomic _ _ _ h
theorem protected_atomic (dst : GoMap) (b : Bytes)
    (h : (decodeInto Protected.unmarshal dst b).2 ≠ .ok ()) :
    (decodeInto Protected.unmarshal dst b).1 = dst := decode_atomic _ _ _ h
theorem unprotected_atomic (dst : GoMap) (b : Bytes)
    (h : (decodeInto Unprotected.unmarshal dst b).2 ≠ .ok ()) :
    (decodeInto Unprotected.unmarshal dst b).1 = dst := decode_atomic _ _ _ h

/-- non-vacuity: a concrete failing input -/
example : (decodeInto (Sign1.unmarshal true) ({} : Sign1Msg) [0xd2]).2 ≠ .ok () := by
  simp [decodeInto, Sign1.unmarshal]

end C19
