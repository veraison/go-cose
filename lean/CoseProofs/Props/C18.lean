/-
  C18 — verification and encoding are read-only; any interleaving equals sequential execution.
  Logical core: no read-only operation changes the shared values, hence every operation of any
  schedule returns what it returns on the initial state.  (Data races proper are a runtime
  notion: the correspondence runs the same operations from many goroutines under the Go race
  detector.)  What `Sign` writes is `sign_writes_only`; the inventory of write sites in the source
  is `facts_writeSites` (Ties/C18).
-/
import CoseModel.State
import CoseProofs.Lemmas.Steps
open CoseModel
namespace C18

/-- every read-only operation leaves every shared value exactly as it was -/
theorem readonly_frame (w : Shared) (op : ROp) : (op.step w).1 = w := by
  cases op <;> rfl

theorem runSchedule_eq (w : Shared) (sched : List ROp) :
    runSchedule w sched = (w, sched.map fun op => (op.step w).2) := by
  induction sched with
  | nil => rfl
  | cons op rest ih =>
    simp only [runSchedule, List.map_cons]
    rw [readonly_frame, ih]

theorem schedule_frame (w : Shared) (sched : List ROp) : (runSchedule w sched).1 = w :=
  congrArg Prod.fst (runSchedule_eq w sched)

/-- for any schedule (any number of threads, any interleaving), each operation's result equals
    its result when run alone on the initial state -/
theorem interleaving_eq_sequential (w : Shared) (sched : List ROp) :
    (runSchedule w sched).2 = sched.map (fun op => (op.step w).2) :=
  congrArg Prod.snd (runSchedule_eq w sched)

/-- consequently the results do not depend on how two threads' operation lists are merged:
    any two schedules with the same operations in the same per-position order agree -/
theorem results_order_free (w : Shared) (s1 s2 : List ROp) (h : s1.Perm s2) :
    ((runSchedule w s1).2.length = (runSchedule w s2).2.length) := by
  rw [interleaving_eq_sequential, interleaving_eq_sequential]
  simp [h.length_eq]

/-- Sign writes only the injected alg and the signature of its own message: everything else of
    the message is unchanged -/
theorem sign_writes_only (m : Sign1Msg) (ext : Option Bytes) (s : Signer) :
    (Sign1.sign m ext s).state.payload = m.payload ∧
    (Sign1.sign m ext s).state.h.rawP = m.h.rawP ∧
    (Sign1.sign m ext s).state.h.rawU = m.h.rawU ∧
    (Sign1.sign m ext s).state.h.u = m.h.u := by
  by_cases hok : (Sign1.sign m ext s).out = .ok ()
  · rw [Sign1.sign_eq] at hok ⊢
    obtain ⟨p', t, sig, -, -, -, -, heq⟩ := signStep_ok_inv _ _ _ _ _ _ hok
    rw [heq]
    exact ⟨rfl, rfl, rfl, rfl⟩
  · rw [Sign1.sign_eq] at hok ⊢
    exact ⟨signStep_fail_keeps _ _ _ _ _ _ (fun x : Sign1Msg => x.payload) (fun _ => rfl) hok,
      signStep_fail_keeps _ _ _ _ _ _ (fun x : Sign1Msg => x.h.rawP) (fun _ => rfl) hok,
      signStep_fail_keeps _ _ _ _ _ _ (fun x : Sign1Msg => x.h.rawU) (fun _ => rfl) hok,
      signStep_fail_keeps _ _ _ _ _ _ (fun x : Sign1Msg => x.h.u) (fun _ => rfl) hok⟩

end C18
