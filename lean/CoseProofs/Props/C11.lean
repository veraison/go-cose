/-
  C11 — COSE_Sign verification is positional and all-or-nothing; signing fills every slot or
  reports an error; no COSE_Sign with zero or empty signatures on the wire.
  `SignMessage.Sign` / `Verify` are their argument checks (`Sign.gate`, Lemmas/Steps) in front of
  the loops; what the signing loop returns is `C20.signLoop_spec`.  That a decoded COSE_Sign has
  no empty signature either (`decoded_no_empty_signature`) is in Deep/SignMsg.
-/
import CoseModel.Messages
import CoseProofs.Lemmas.Steps
import CoseProofs.Props.C20
open CoseModel
namespace C11

/-- one turn of the verification loop -/
theorem verifyLoop_cons_ok_iff (bprot : Bytes) (payload ext : Option Bytes) (sg : SigV)
    (sgs : List SigV) (v : Verifier) (vs : List Verifier) :
    (verifyLoop bprot payload ext (sg :: sgs) (v :: vs)).1 = .ok () ↔
      (Signature.verify sg v bprot payload ext).1 = .ok () ∧
      (verifyLoop bprot payload ext sgs vs).1 = .ok () := by
  rw [verifyLoop]
  generalize Signature.verify sg v bprot payload ext = r
  obtain ⟨o, calls⟩ := r
  cases o <;> simp

/-- the verification loop over any number of signatures: success iff every signature verifies
    under the verifier at the same position (lists of equal length) -/
theorem verifyLoop_ok_iff (bprot : Bytes) (payload ext : Option Bytes) :
    ∀ (sgs : List SigV) (vs : List Verifier), sgs.length = vs.length →
      ((verifyLoop bprot payload ext sgs vs).1 = .ok () ↔
        ∀ i (h1 : i < sgs.length) (h2 : i < vs.length),
          (Signature.verify sgs[i] vs[i] bprot payload ext).1 = .ok ())
  | [], [], _ => ⟨fun _ i h1 => absurd h1 (Nat.not_lt_zero i), fun _ => rfl⟩
  | sg :: sgs, v :: vs, hl => by
    rw [verifyLoop_cons_ok_iff, verifyLoop_ok_iff bprot payload ext sgs vs (Nat.succ.inj hl)]
    constructor
    · rintro ⟨h0, ht⟩ i h1 h2
      cases i with
      | zero => exact h0
      | succ j => exact ht j (Nat.lt_of_succ_lt_succ h1) (Nat.lt_of_succ_lt_succ h2)
    · intro h
      exact ⟨h 0 (Nat.zero_lt_succ _) (Nat.zero_lt_succ _),
        fun i h1 h2 => h (i + 1) (Nat.succ_lt_succ h1) (Nat.succ_lt_succ h2)⟩
  | [], _ :: _, hl => nomatch hl
  | _ :: _, [], hl => nomatch hl

/-- `SignMessage.Verify`: nil iff payload present, at least one signature, as many verifiers as
    signatures, the body protected header encodes, and every signature verifies positionally -/
theorem signmsg_verify_iff (m : SignMsg) (ext : Option Bytes) (vs : List Verifier) :
    (Sign.verify m ext vs).1 = .ok () ↔
      m.payload.isSome ∧ m.sigs ≠ [] ∧ m.sigs.length = vs.length ∧
      ∃ bprot, marshalProtected m.h = .ok bprot ∧
        ∀ i (h1 : i < m.sigs.length) (h2 : i < vs.length),
          (Signature.verify m.sigs[i] vs[i] bprot m.payload ext).1 = .ok () := by
  rw [Sign.verify_ok_iff]
  constructor
  · rintro ⟨bprot, hg, h⟩
    obtain ⟨hp, he, hl, hb⟩ := Sign.gate_eq_ok.mp hg
    exact ⟨Option.isNone_eq_false_iff.mp hp, List.isEmpty_eq_false_iff.mp he, hl, bprot, hb,
      (verifyLoop_ok_iff _ _ _ _ _ hl).mp h⟩
  · rintro ⟨hp, he, hl, bprot, hb, h⟩
    exact ⟨bprot, Sign.gate_eq_ok.mpr ⟨Option.isNone_eq_false_iff.mpr hp,
      List.isEmpty_eq_false_iff.mpr he, hl, hb⟩, (verifyLoop_ok_iff _ _ _ _ _ hl).mpr h⟩

/-- a surplus or missing verifier fails the whole verification -/
theorem signmsg_verify_count (m : SignMsg) (ext : Option Bytes) (vs : List Verifier)
    (h : m.sigs.length ≠ vs.length) : (Sign.verify m ext vs).1 ≠ .ok () := by
  intro hc
  exact h ((signmsg_verify_iff m ext vs).mp hc).2.2.1

/-- zero signatures can be neither verified nor encoded -/
theorem signmsg_no_signatures (m : SignMsg) (h : m.sigs = []) :
    Sign.marshal m = .err .noSignatures ∧ ∀ ext vs, (Sign.verify m ext vs).1 ≠ .ok () := by
  constructor
  · simp [Sign.marshal, h]
  · intro ext vs hc
    exact ((signmsg_verify_iff m ext vs).mp hc).2.1 h

/-- an empty signature anywhere makes the message unencodable -/
theorem marshalSigs_empty_sig : ∀ (l : List SigV) (s : SigV), s ∈ l → blen s.sig = 0 →
    ∀ b, marshalSigs l ≠ .ok b
  | x :: r, s, hm, he, b, hc => by
    obtain ⟨_, hx, hc⟩ := Out.bind_eq_ok.mp hc
    obtain ⟨bb, hr, -⟩ := Out.bind_eq_ok.mp hc
    rcases List.mem_cons.mp hm with rfl | hm
    · rw [C20.no_empty_signature_emitted_sig _ he] at hx
      cases hx
    · exact marshalSigs_empty_sig r s hm he bb hr

theorem signmsg_no_empty_on_wire (m : SignMsg) (s : SigV) (hm : s ∈ m.sigs) (he : blen s.sig = 0) :
    ∀ b, Sign.marshal m ≠ .ok b := by
  intro b hc
  unfold Sign.marshal at hc
  split at hc
  · cases hc
  · obtain ⟨⟨_, _⟩, -, hc⟩ := Out.bind_eq_ok.mp hc
    obtain ⟨ss, hs, -⟩ := Out.bind_eq_ok.mp hc
    exact marshalSigs_empty_sig m.sigs s hm he ss hs

/-- "Signing either fills every signature slot or reports an error" — for every list of signers
    (repair 9ac6635: a signer that answers with no error and no bytes makes `Signature.Sign`
    return `ErrEmptySignature`; before, `SignMessage.Sign` went on to the next signer and
    returned nil with that slot unsigned).  No hypothesis on the signers, none on the message:
    `Sign` itself checks that there are as many signers as slots. -/
theorem signmsg_sign_ok_all_filled (m : SignMsg) (ext : Option Bytes) (signers : List Signer)
    (hok : (Sign.sign m ext signers).out = .ok ()) :
    ∀ sg ∈ (Sign.sign m ext signers).state.sigs, blen sg.sig ≠ 0 := by
  rcases Sign.sign_cases m ext signers with ⟨bprot, hg, heq⟩ | ⟨hne, -⟩
  · rw [heq] at hok ⊢
    exact C20.signLoop_ok_all_filled bprot m.payload ext m.sigs signers
      (Sign.gate_eq_ok.mp hg).2.2.1 hok
  · exact absurd hok hne

/-- … and there is at least one slot, and as many as signers -/
theorem signmsg_sign_ok_slots (m : SignMsg) (ext : Option Bytes) (signers : List Signer)
    (hok : (Sign.sign m ext signers).out = .ok ()) :
    (Sign.sign m ext signers).state.sigs ≠ [] ∧
    (Sign.sign m ext signers).state.sigs.length = signers.length := by
  rcases Sign.sign_cases m ext signers with ⟨bprot, hg, heq⟩ | ⟨hne, -⟩
  · obtain ⟨-, he, hl, -⟩ := Sign.gate_eq_ok.mp hg
    rw [heq] at hok ⊢
    rcases C20.signLoop_spec bprot m.payload ext m.sigs signers with
      ⟨-, hlen, -⟩ | ⟨k, _, _, -, kf, ko, -, -⟩
    · refine ⟨fun hn => List.isEmpty_eq_false_iff.mp he ?_, hlen.trans hl⟩
      have h0 := congrArg List.length hn
      exact List.eq_nil_of_length_eq_zero (hlen ▸ h0)
    · exact absurd (ko ▸ hok) kf
  · exact absurd hok hne

end C11
