/-
  C02 — the byte string handed to the signer / verifier is exactly the RFC 9052 Sig_structure.
  Here: what ToBeSigned does not depend on (unprotected headers, signature field, tag, nil against
  empty external data).  The equality with the RFC structure of `CoseSpec` (`tbs1_eq_rfc`,
  `tbsSig_eq_rfc`) and the separation of the contexts (`kinds_separated`) are in Deep/Tbs.
-/
import CoseSpec
import CoseModel.Messages
open CoseModel CoseSpec
namespace C02

theorem ctx_model_sign1 : ctxSignature1 = utf8 "Signature1" := rfl
theorem ctx_model_signature : ctxSignature = utf8 "Signature" := rfl

/-- nil and empty external data are equivalent -/
theorem tbs_ext_nil_eq_empty (m : Sign1Msg) : Sign1.toBeSigned m none = Sign1.toBeSigned m (some []) := rfl

theorem tbsSig_ext_nil_eq_empty (s : SigV) (bp : Bytes) (pl : Option Bytes) :
    Signature.toBeSigned s bp pl none = Signature.toBeSigned s bp pl (some []) := rfl

theorem tbs_indep_unprotected (m : Sign1Msg) (ext : Option Bytes) (ru : Option Bytes) (u : GoMap) :
    Sign1.toBeSigned { m with h := { m.h with rawU := ru, u := u } } ext = Sign1.toBeSigned m ext := rfl

theorem tbs_indep_signature (m : Sign1Msg) (ext : Option Bytes) (sig : Option Bytes) :
    Sign1.toBeSigned { m with sig := sig } ext = Sign1.toBeSigned m ext := rfl

/-- ToBeSigned is computed from the decoded message, and the CBOR tag is no part of that value:
    tagged and untagged decoding of the same array yield the same message -/
theorem tbs_indep_tag (r : Bytes) :
    Sign1.unmarshal true (0xd2 :: 0x84 :: r) = Sign1.unmarshal false (0x84 :: r) := rfl

end C02
