/-
  C01 — every signed message verifies, in memory and after a wire round trip.
  Crypto is a parameter: `MatchesCore s v` says the verifier accepts what the signer produces
  (what the Go standard library's primitives provide for matching keys); `Matches` adds that
  signatures are non-empty.  Here: the header the signing gate leaves passes the verification gate
  (`gate_after_sign`), hence COSE_Sign1 sign-then-verify in memory.
  COSE_Signature, COSE_Sign and countersignatures in memory, and COSE_Sign1 after a wire round
  trip given that the decoded header passes the algorithm gate (`sign1_wire_partial`), are in
  Deep/Chain; that it does, by header content (`*_wire_flat`, `*_wire_nested`, `*_wire_csig`), in
  Deep/WireClosure, SignWireClosure, NestedBuckets, NestedClosures, CsigRoundTrip, CsigClosures;
  the built-in algorithms as matching pairs in Deep/Signers.
-/
import CoseModel.Messages
import CoseProofs.Props.C03
import CoseProofs.Props.C04
open CoseModel
namespace C01

/-- `Algorithm()` finds nothing only if no entry sits under the key int64(1) itself -/
theorem lookup_of_notFound {p : GoMap} (h : algorithmOf p = .notFound) :
    p.lookup (lbl 1) = none := by
  cases hl : p.lookup (lbl 1) with
  | none => rfl
  | some v =>
    rw [algorithmOf, lookupLabel, hl] at h
    cases v with
    | int k n => dsimp only at h; split at h <;> cases h
    | _ => cases h

/-- so the assignment `h[HeaderLabelAlgorithm] = alg` of `SetAlgorithm` appends -/
theorem set_lbl1_of_notFound (p : GoMap) (v : GoVal) (h : algorithmOf p = .notFound) :
    p.set (lbl 1) v = p ++ [(lbl 1, v)] := by
  rw [GoMap.set, GoMap.has, lookup_of_notFound h]
  rfl

/-- and the alg inserted is the alg found afterwards -/
theorem algorithmOf_set (p : GoMap) (alg : Int) (h : algorithmOf p = .notFound) :
    algorithmOf (p.set (lbl 1) (.alg alg)) = .found alg := by
  have hl := lookup_of_notFound h
  rw [set_lbl1_of_notFound p _ h, algorithmOf, lookupLabel]
  rw [GoMap.lookup] at hl ⊢
  rw [List.find?_append]
  split at hl
  · cases hl
  · rename_i hf
    rw [hf]
    rfl

/-- the gate passes after signing: the alg consulted by Verify is the one Sign checked or inserted -/
theorem gate_after_sign (rawP : Option Bytes) (p p' : GoMap) (alg : Int) (ext : Option Bytes)
    (h : ensureSigningAlgorithm rawP p alg ext = .ok p') :
    ensureVerificationAlgorithm p' alg ext = .ok () := by
  rw [C04.verify_gate_iff]
  rcases C04.sign_gate_cases rawP p p' alg ext h with ⟨hf, rfl⟩ | ⟨hn, he, rfl⟩ | ⟨hn, _, _, rfl⟩
  · exact .inl hf
  · exact .inr ⟨hn, he⟩
  · exact .inl (algorithmOf_set p alg hn)

/-- signer / verifier pair with matching keys.  Nothing is assumed about the length of signatures:
    every Sign refuses an empty one itself (repair 9ac6635), so sign-then-verify needs no more. -/
structure MatchesCore (s : Signer) (v : Verifier) : Prop where
  alg : v.alg = s.alg
  correct : ∀ tbs sig, s.sign tbs = .ok sig → v.verify tbs sig = .ok ()

/-- `MatchesCore`, and the signer never returns an empty signature -/
structure Matches (s : Signer) (v : Verifier) : Prop where
  alg : v.alg = s.alg
  correct : ∀ tbs sig, s.sign tbs = .ok sig → v.verify tbs sig = .ok ()
  nonempty : ∀ tbs sig, s.sign tbs = .ok sig → sig ≠ []

theorem Matches.core {s : Signer} {v : Verifier} (h : Matches s v) : MatchesCore s v :=
  ⟨h.alg, h.correct⟩

theorem blen_some_ne {sig : Bytes} (h : sig ≠ []) : blen (some sig) ≠ 0 :=
  fun hz => h (List.eq_nil_of_length_eq_zero hz)

/-- COSE_Sign1 in memory, no assumption on signature lengths -/
theorem sign1_then_verify_core (m : Sign1Msg) (ext : Option Bytes) (s : Signer) (v : Verifier)
    (hm : MatchesCore s v) (hok : (Sign1.sign m ext s).out = .ok ()) :
    (Sign1.verify (Sign1.sign m ext s).state ext v).1 = .ok () := by
  rw [Sign1.sign_eq] at hok ⊢
  obtain ⟨p', t, sig, hg, ht, hsg, hne, heq⟩ := signStep_ok_inv _ _ _ _ _ _ hok
  obtain ⟨hp, -, hgate⟩ := Sign1.signGate_eq_ok.mp hg
  rw [heq, C03.verify1_iff, hm.alg]
  exact ⟨Option.isNone_eq_false_iff.mp hp, blen_some_ne hne,
    gate_after_sign _ _ _ _ _ hgate, t, ht, hm.correct t sig hsg⟩

/-- COSE_Sign1, in memory: whenever Sign succeeds, Verify with the matching verifier and the same
    external data succeeds — for every header content, payload and external data -/
theorem sign1_then_verify (m : Sign1Msg) (ext : Option Bytes) (s : Signer) (v : Verifier)
    (hm : Matches s v) (hok : (Sign1.sign m ext s).out = .ok ()) :
    (Sign1.verify (Sign1.sign m ext s).state ext v).1 = .ok () :=
  sign1_then_verify_core m ext s v hm.core hok

/-- non-vacuity: the transparent scheme of the harness is a matching pair -/
example : Matches { alg := -7, sign := fun t => .ok (1 :: 1 :: t) }
    { alg := -7, verify := fun t sg => if sg = 1 :: 1 :: t then .ok () else .err .verification } where
  alg := rfl
  correct := by intro tbs sig h; cases h; simp
  nonempty := by intro tbs sig h; cases h; simp

end C01
