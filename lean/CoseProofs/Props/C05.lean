/-
  C05 — decoders accept only well-formed COSE of their own type.
  Backbone: the parser is sound (`parseTop_sound`: accepted bytes are exactly the bytes of the
  returned wire tree, definite lengths, every head well-formed, within the nesting limits) and,
  in tag-forbidding mode, the tree contains no tag anywhere (`parseTop_noTag`).  Here: the envelope
  of an accepted COSE_Sign1 and the first bytes that keep the four decoders apart.
  The exact languages (`sign1_accept_iff`, `signature_accept_iff`) and the rules of every layer
  are in Deep/Accept; the envelopes of COSE_Signature and COSE_Sign in Deep/Reencode and
  Deep/SignMsg; distinct map keys in Deep/NestedRoundTrip; the tag scan of header labels in
  Deep/TagScan.
-/
import CoseModel.Messages
import CoseProofs.Lemmas.Parse
import CoseProofs.Lemmas.Out
open CoseModel
namespace C05

theorem decHeaders_ok {p u : Wire} {h : Hdrs} (hd : decHeaders p u = .ok h) :
    decProtected p = .ok h.p ∧ decUnprot u = .ok h.u ∧
      h.rawP = some p.bytes ∧ h.rawU = some u.bytes := by
  obtain ⟨pm, hp, hd⟩ := Out.bind_eq_ok.mp hd
  obtain ⟨um, hu, hd⟩ := Out.bind_eq_ok.mp hd
  split at hd
  · cases hd
  · cases hd
    exact ⟨hp, hu, rfl, rfl⟩

theorem decodeArr_accept {arr : Bytes} {m : Sign1Msg} (hd : Sign1.decodeArr arr = .ok m) :
    ∃ (hw : HW) (p u pl sg : Wire),
      arr = (Wire.arr hw [p, u, pl, sg]).bytes ∧ (Wire.arr hw [p, u, pl, sg]).wf = true ∧
      (Wire.arr hw [p, u, pl, sg]).hasTag = false ∧
      decByteString pl = .ok m.payload ∧ decByteString sg = .ok m.sig ∧ blen m.sig ≠ 0 ∧
      decProtected p = .ok m.h.p ∧ decUnprot u = .ok m.h.u ∧
      m.h.rawP = some p.bytes ∧ m.h.rawU = some u.bytes := by
  unfold Sign1.decodeArr at hd
  split at hd
  · rename_i hw p u pl sg hpt
    have hs := parseTop_sound hpt
    obtain ⟨payload, hpl, hd⟩ := Out.bind_eq_ok.mp hd
    obtain ⟨sig, hsg, hd⟩ := Out.bind_eq_ok.mp hd
    split at hd
    · cases hd
    · rename_i hz
      obtain ⟨h, hh, hd⟩ := Out.bind_eq_ok.mp hd
      cases hd
      exact ⟨hw, p, u, pl, sg, hs.1, hs.2.1, parseTop_noTag hpt, hpl, hsg, hz, decHeaders_ok hh⟩
  · cases hd

/-- both `UnmarshalCBOR` of COSE_Sign1 check their prefix and hand the 4-array to `decodeArr` -/
theorem unmarshal_arr {tagged : Bool} {b : Bytes} {m : Sign1Msg}
    (h : Sign1.unmarshal tagged b = .ok m) :
    ∃ r, b = (if tagged then 0xd2 :: 0x84 :: r else 0x84 :: r) ∧
      Sign1.decodeArr (0x84 :: r) = .ok m := by
  unfold Sign1.unmarshal at h
  cases tagged
  all_goals
    simp only [Bool.false_eq_true, ↓reduceIte] at h ⊢
    split at h
    · exact ⟨_, rfl, h⟩
    · cases h

/-- the envelope of an accepted COSE_Sign1: exactly one definite-length 4-array (after tag 18 when
    tagged), nothing after it, no tag inside, payload a byte string or null, signature a
    non-empty byte string, protected bucket a byte string, unprotected bucket a map -/
theorem sign1_accept_envelope (tagged : Bool) (b : Bytes) (m : Sign1Msg)
    (h : Sign1.unmarshal tagged b = .ok m) :
    ∃ (hw : HW) (p u pl sg : Wire) (arr : Bytes),
      b = (if tagged then 0xd2 :: arr else arr) ∧
      arr = (Wire.arr hw [p, u, pl, sg]).bytes ∧ (Wire.arr hw [p, u, pl, sg]).wf = true ∧
      (Wire.arr hw [p, u, pl, sg]).hasTag = false ∧
      decByteString pl = .ok m.payload ∧ decByteString sg = .ok m.sig ∧ blen m.sig ≠ 0 ∧
      decProtected p = .ok m.h.p ∧ decUnprot u = .ok m.h.u ∧
      m.h.rawP = some p.bytes ∧ m.h.rawU = some u.bytes := by
  obtain ⟨r, hb, hd⟩ := unmarshal_arr h
  obtain ⟨hw, p, u, pl, sg, rest⟩ := decodeArr_accept hd
  exact ⟨hw, p, u, pl, sg, 0x84 :: r, hb, rest⟩

/-- payload is a byte string or `null` (f6) — never `undefined`, text, … -/
theorem payload_shape (w : Wire) (o : Option Bytes) (h : decByteString w = .ok o) :
    (w = .prim .imm 22 ∧ o = none) ∨ ∃ hw b, w = .bstr hw b ∧ o = some b := by
  unfold decByteString at h
  split at h
  · left; cases h; exact ⟨rfl, rfl⟩
  · right; cases h; exact ⟨_, _, rfl, rfl⟩
  · cases h

/-- no decoder accepts the encoding of another structure kind: the accepted byte languages
    start with different bytes -/
theorem shapes_disjoint_first_byte (b : Bytes) :
    (∀ m, Sign1.unmarshal true b = .ok m → b.head? = some 0xd2) ∧
    (∀ m, Sign1.unmarshal false b = .ok m → b.head? = some 0x84) ∧
    (∀ m, Sign.unmarshal b = .ok m → b.head? = some 0xd8) ∧
    (∀ s, Signature.unmarshal b = .ok s → b.head? = some 0x83) := by
  refine ⟨fun m h => ?_, fun m h => ?_, fun m h => ?_, fun s h => ?_⟩
  · obtain ⟨r, rfl, -⟩ := unmarshal_arr h
    rfl
  · obtain ⟨r, rfl, -⟩ := unmarshal_arr h
    rfl
  · unfold Sign.unmarshal at h
    split at h
    · rfl
    · cases h
  · unfold Signature.unmarshal at h
    split at h
    · rfl
    · cases h

end C05
