/-
  C07 — any valid encoding of a conforming message is accepted.
  Backbone: parser completeness — every wire tree with fitting head widths (any width the sender
  chose, any key order), within the documented limits, is parsed back to exactly that tree.
  That a conforming COSE_Sign1 is accepted with the message it denotes is `wf_sign1_accepted`
  (Deep/Accept); that it, a COSE_Signature and a COSE_Sign then verify is `wf_*_verifies`
  (Deep/Verifies); that the tag scan of header labels passes is `scan_accepts` (Deep/TagScan).
-/
import CoseModel.Messages
import CoseProofs.Lemmas.Parse
open CoseModel
namespace C07

/-- whatever head widths and key order the peer chose, the well-formedness pass accepts the
    bytes and recovers exactly the tree that was sent -/
theorem any_encoding_parses (tagsOk : Bool) (w : Wire) (hwf : w.wf = true) (hl : w.inLimits tagsOk 0 = true) :
    parseTop tagsOk w.bytes = some w := parseTop_complete hwf hl

/-- parsing is a bijection between accepted byte strings and well-formed trees in the limits -/
theorem parse_iff (tagsOk : Bool) (bs : Bytes) (w : Wire) :
    parseTop tagsOk bs = some w ↔ bs = w.bytes ∧ w.wf = true ∧ w.inLimits tagsOk 0 = true := by
  constructor
  · exact parseTop_sound
  · rintro ⟨rfl, hwf, hl⟩; exact parseTop_complete hwf hl

/-- both spellings of the empty protected header decode to the empty map -/
theorem empty_protected_both_spellings (hw : HW) :
    decProtected (.bstr hw []) = .ok [] ∧ decProtected (.bstr hw [0xa0]) = .ok [] := by
  constructor
  · rfl
  · have hp : parseTop true [0xa0] = some (.map .imm []) :=
      parseTop_complete (w := .map .imm []) rfl rfl
    rw [decProtected, decProtectedContent, if_neg (by decide), hp]
    rfl

/-- a payload of any head width is accepted -/
theorem payload_any_width (hw : HW) (b : Bytes) : decByteString (.bstr hw b) = .ok (some b) := rfl
theorem payload_nil : decByteString (.prim .imm 22) = .ok none := rfl

end C07
