/-
  C14 — COSE_Key conversion keeps EC2 coordinates at full length on the wire and round-trips
  every key.  `big.Int.Bytes()` is `natBytes`, `FillBytes` is `fillBytes`, `SetBytes` is `os2ip`,
  the left padding of `Key.MarshalCBOR` (key.go:609-617) is `leftPad`, the constructor's
  `ec2Coordinate(v, size)` (key.go:415) is `ec2Coordinate` (`v.Bytes()`, except that 0 is `size`
  zero octets); for every curve size and all coordinate values (no bound, 0 included).
  Here: one coordinate.  The parameter map `MarshalCBOR` builds and the keys the constructors
  return (`ec2_marshal_fullwidth`, `keyFromEC_*`) are in Deep/Keys; the round trip of whole keys
  through the wire (`key_marshal_unmarshal`, `ec2_key_wire_roundtrip`) in Deep/KeyRoundTrip.
-/
import CoseProofs.Lemmas.Ecdsa
import CoseModel.Key
open CoseModel
namespace C14

/-- a serialised coordinate is exactly the curve size: the value left-padded with zeros -/
theorem coord_fullwidth (size x : Nat) (hx : 0 < x) (h : x < 256 ^ size) :
    leftPad size (natBytes x) = fillBytes size x ∧ (leftPad size (natBytes x)).length = size :=
  ⟨CoseModel.leftPad_natBytes size x hx h, CoseModel.leftPad_natBytes_length size x hx h⟩

/-- converting back (`SetBytes`) yields the same number: leading zeros are preserved on the wire
    and ignored on the way back -/
theorem coord_roundtrip (size x : Nat) : os2ip (leftPad size (natBytes x)) = x := by
  rw [CoseModel.os2ip_leftPad, CoseModel.os2ip_natBytes]

/-- a coordinate read from the wire at any accepted length denotes the same number after
    re-serialisation -/
theorem coord_reencode (size : Nat) (b : Bytes) : os2ip (leftPad size b) = os2ip b :=
  CoseModel.os2ip_leftPad size b

/-! ### the constructor's coordinate (`NewKeyFromPublic` / `NewKeyFromPrivate`) -/

/-- the zero coordinate: `size` zero octets, not the empty string of `big.Int.Bytes()` -/
theorem ec2Coordinate_zero (size : Nat) : ec2Coordinate 0 size = List.replicate size 0 :=
  if_pos rfl

/-- every other coordinate is `big.Int.Bytes()`: minimal length, no leading zero octet -/
theorem ec2Coordinate_nonzero (size x : Nat) (hx : x ≠ 0) : ec2Coordinate x size = natBytes x :=
  if_neg hx

/-- the round trip of the constructor's coordinate through `SetBytes`, for every value -/
theorem ec2Coordinate_roundtrip (size x : Nat) : os2ip (ec2Coordinate x size) = x := by
  by_cases hx : x = 0
  · subst hx
    rw [ec2Coordinate_zero, ← CoseModel.fillBytes_zero]
    exact CoseModel.os2ip_fillBytes size 0 (Nat.pow_pos (by decide))
  · rw [ec2Coordinate_nonzero size x hx, CoseModel.os2ip_natBytes]

/-- the stored coordinate is never the empty string (on a curve, `size > 0`) — an empty x or y
    is what `validate` / `PublicKey()` read as "coordinate missing" -/
theorem ec2Coordinate_length_pos (size x : Nat) (hs : 0 < size) : 0 < (ec2Coordinate x size).length := by
  by_cases hx : x = 0
  · subst hx
    rw [ec2Coordinate_zero, List.length_replicate]
    exact hs
  · rw [ec2Coordinate_nonzero size x hx]
    exact CoseModel.natBytes_length_pos x (Nat.pos_of_ne_zero hx)

theorem ec2Coordinate_nonempty (size x : Nat) (hs : 0 < size) : ec2Coordinate x size ≠ [] := by
  intro h
  have := ec2Coordinate_length_pos size x hs
  rw [h] at this
  exact Nat.lt_irrefl 0 this

/-- the stored coordinate passes the length check of `validate` exactly when the value fits the
    field -/
theorem ec2Coordinate_length_le_iff (size x : Nat) :
    (ec2Coordinate x size).length ≤ size ↔ x < 256 ^ size := by
  by_cases hx : x = 0
  · subst hx
    rw [ec2Coordinate_zero, List.length_replicate]
    exact ⟨fun _ => Nat.pow_pos (by decide), fun _ => Nat.le_refl _⟩
  · rw [ec2Coordinate_nonzero size x hx]
    exact CoseModel.natBytes_length_le_iff x size

/-- what `MarshalCBOR` makes of the stored coordinate (left padding) is
    `FillBytes` at the field size, for every value that fits — 0 included, no `0 < x` -/
theorem leftPad_ec2Coordinate (size x : Nat) (h : x < 256 ^ size) :
    leftPad size (ec2Coordinate x size) = fillBytes size x := by
  by_cases hx : x = 0
  · subst hx
    rw [ec2Coordinate_zero, ← CoseModel.fillBytes_zero]
    exact CoseModel.leftPad_fillBytes size 0
  · rw [ec2Coordinate_nonzero size x hx]
    exact CoseModel.leftPad_natBytes size x (Nat.pos_of_ne_zero hx) h

/-- so the serialised coordinate has exactly the field size -/
theorem leftPad_ec2Coordinate_length (size x : Nat) (h : x < 256 ^ size) :
    (leftPad size (ec2Coordinate x size)).length = size := by
  rw [leftPad_ec2Coordinate size x h, CoseModel.fillBytes_length]

/-- in memory a small non-zero value stays short (`big.Int.Bytes()`): the full width is a fact
    about the wire, not about the stored parameter -/
theorem ec2Coordinate_one (size : Nat) : ec2Coordinate 1 size = [1] := by
  rw [ec2Coordinate_nonzero size 1 (by decide)]; simp [natBytes]

/-- serialising pads nothing more: a full-width coordinate is emitted as it is -/
theorem coord_fullwidth_fill (size x : Nat) :
    leftPad size (fillBytes size x) = fillBytes size x ∧ (leftPad size (fillBytes size x)).length = size := by
  rw [CoseModel.leftPad_fillBytes]
  exact ⟨rfl, CoseModel.fillBytes_length size x⟩

theorem curveSize_values : curveSize 1 = 32 ∧ curveSize 2 = 48 ∧ curveSize 3 = 66 := by decide

example : leftPad 4 (natBytes 258) = [0, 0, 1, 2] := by simp [natBytes, leftPad]
example : ec2Coordinate 258 4 = [1, 2] := by simp [ec2Coordinate, natBytes]
example : leftPad 4 (ec2Coordinate 258 4) = [0, 0, 1, 2] := by simp [ec2Coordinate, natBytes, leftPad]
example : ec2Coordinate 0 4 = [0, 0, 0, 0] := by decide
example : leftPad 4 (ec2Coordinate 0 4) = [0, 0, 0, 0] := by decide
example : ec2Coordinate 65536 2 = [1, 0, 0] := by simp [ec2Coordinate, natBytes]

end C14
