/-
  C09 — re-encoding a decoded message preserves the header bytes.
  Here: a decoded header retains the bytes of its two wire items, which the encoder emits
  verbatim.  Whole messages (`reencode_sign1`, `reencode_signature`, `reencode_sign`: only the
  heads of payload, signature and signatures array may change; identity on deterministic input;
  idempotent cycles) are in Deep/Reencode and Deep/SignMsg; what happens once the caller discards
  the retained bytes (`*clear_raw*`) in Deep/ClearRaw, NestedClosures, CsigClosures, SignClear.
-/
import CoseModel.Messages
import CoseProofs.Lemmas.Out
import CoseProofs.Lemmas.Headers
open CoseModel

/-! every item is a head (major type, width, argument) followed by a body -/
namespace Reencode

def whw : Wire → HW
  | .uint w _ | .nint w _ | .bstr w _ | .tstr w _ | .arr w _ | .map w _ | .tag w _ _
  | .prim w _ => w

def warg : Wire → Nat
  | .uint _ n | .nint _ n | .prim _ n => n
  | .bstr _ b | .tstr _ b => b.length
  | .arr _ xs => xs.length
  | .map _ kvs => kvs.length
  | .tag _ t _ => t

def wbody : Wire → Bytes
  | .bstr _ b | .tstr _ b => b
  | .arr _ xs => Wire.bytesList xs
  | .map _ kvs => Wire.bytesPairs kvs
  | .tag _ _ x => x.bytes
  | _ => []

theorem bytes_decomp (x : Wire) : x.bytes = headBytes x.major (whw x) (warg x) ++ wbody x := by
  cases x <;> simp [Wire.bytes, Wire.major, whw, warg, wbody]

end Reencode

namespace C09

theorem bytes_cons (w : Wire) : ∃ x xs, w.bytes = x :: xs := by
  rw [Reencode.bytes_decomp]
  cases Reencode.whw w <;> exact ⟨_, _, rfl⟩

/-- retained raw bytes are emitted verbatim, whatever the parsed map holds -/
theorem bucket_verbatim (prot : Bool) (b : UInt8) (bs : Bytes) (m : GoMap) :
    encodeBucket encCfg prot (some (b :: bs)) m = some (b :: bs) :=
  encodeBucket_raw encCfg prot b bs m

/-- a header set that retained the bytes of a wire item (never empty) emits them verbatim, whatever
    the parsed map holds, provided the map is in the modelled region -/
theorem marshalProtected_raw {h : Hdrs} {p : Wire} (hrp : h.rawP = some p.bytes)
    (hm : GoVal.modelledPairs h.p = true) : marshalProtected h = .ok p.bytes := by
  obtain ⟨x, xs, hx⟩ := bytes_cons p
  simp [marshalProtected, hm, hrp, hx, bucket_verbatim]

theorem marshalUnprotected_raw {h : Hdrs} {u : Wire} (hru : h.rawU = some u.bytes)
    (hm : GoVal.modelledPairs h.u = true) : marshalUnprotected h = .ok u.bytes := by
  obtain ⟨x, xs, hx⟩ := bytes_cons u
  simp [marshalUnprotected, hm, hru, hx, bucket_verbatim]

/-- every decoded header bucket retains the exact bytes of its wire item, and these are
    non-empty, so re-encoding reproduces both buckets byte for byte -/
theorem decoded_headers_verbatim (p u : Wire) (h : Hdrs) (hd : decHeaders p u = .ok h) :
    marshalProtected h = .ok p.bytes ∧ marshalUnprotected h = .ok u.bytes ∨
    marshalProtected h = .unmodelled ∨ marshalUnprotected h = .unmodelled := by
  unfold decHeaders at hd
  simp only [Out.bind_eq_ok, Out.guard_eq_ok] at hd
  obtain ⟨pm, -, um, -, -, hh⟩ := hd
  cases hh
  by_cases hm1 : GoVal.modelledPairs pm = true
  · by_cases hm2 : GoVal.modelledPairs um = true
    · exact .inl ⟨marshalProtected_raw rfl hm1, marshalUnprotected_raw rfl hm2⟩
    · right; right; simp [marshalUnprotected, hm2]
  · right; left; simp [marshalProtected, hm1]

/-- the re-encoder emits payload and signature with shortest heads -/
theorem payload_reencoded_shortest (b : Bytes) : optBytesEnc (some b) = encHead 2 b.length ++ b := rfl
theorem payload_nil_reencoded : optBytesEnc none = [0xf6] := rfl

end C09
