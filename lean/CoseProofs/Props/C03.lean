/-
  C03 — Verify accepts exactly the signatures the verifier accepts over the ToBeSigned computed
  from the received bytes (C02 shows those bytes are the RFC Sig_structure): each Verify
  (`Sign1Message.Verify`; `Signature.Verify`, one signer of a COSE_Sign; `Countersignature.Verify`;
  `VerifyCountersign0`) is its argument checks and the algorithm gate, then the key on ToBeSigned
  (`callKey`, Lemmas/Steps).
  That a change to any signed part is rejected by a verifier accepting a signature for one
  ToBeSigned only (`Unique`, `tamper_*`) is in Deep/Tamper; the built-in verifiers are in
  Deep/Signers.
-/
import CoseModel.Messages
import CoseProofs.Lemmas.Steps
open CoseModel
namespace C03

theorem verify1_iff (m : Sign1Msg) (ext : Option Bytes) (v : Verifier) :
    (Sign1.verify m ext v).1 = .ok () ↔
      m.payload.isSome ∧ blen m.sig ≠ 0 ∧ ensureVerificationAlgorithm m.h.p v.alg ext = .ok () ∧
      ∃ t, Sign1.toBeSigned m ext = .ok t ∧ v.verify t (m.sig.getD []) = .ok () := by
  rw [Sign1.verify_eq, callKey_ok_iff, Sign1.verifyGate_eq_ok, and_assoc, and_assoc]

theorem verifySig_iff (sg : SigV) (v : Verifier) (bprot : Bytes) (payload ext : Option Bytes) :
    (Signature.verify sg v bprot payload ext).1 = .ok () ↔
      payload.isSome ∧ blen sg.sig ≠ 0 ∧ bodyProtOK bprot = true ∧
      ensureVerificationAlgorithm sg.h.p v.alg ext = .ok () ∧
      ∃ t, Signature.toBeSigned sg bprot payload ext = .ok t ∧ v.verify t (sg.sig.getD []) = .ok () := by
  rw [Signature.verify_eq, callKey_ok_iff, Signature.verifyGate_eq_ok, and_assoc, and_assoc,
    and_assoc]

theorem verifyCsig_iff (cs : SigV) (v : Verifier) (parent : Parent) (ext : Option Bytes) :
    (Countersignature.verify cs v parent ext).1 = .ok () ↔
      blen cs.sig ≠ 0 ∧ ensureVerificationAlgorithm cs.h.p v.alg ext = .ok () ∧
      ∃ t, Countersignature.toBeSigned cs parent ext = .ok t ∧ v.verify t (cs.sig.getD []) = .ok () := by
  rw [Countersignature.verify_eq, callKey_ok_iff, Countersignature.verifyGate_eq_ok, and_assoc]

theorem verifyCsign0_iff (v : Verifier) (parent : Parent) (ext : Option Bytes) (sig : Bytes) :
    (verifyCountersign0 v parent ext sig).1 = .ok () ↔
      ∃ t, countersignToBeSigned true parent [0x40] ext = .ok t ∧ v.verify t sig = .ok () := by
  rw [verifyCountersign0_eq, callKey_ok_iff, and_iff_right rfl]

theorem verify_indep_unprotected (m : Sign1Msg) (ext : Option Bytes) (v : Verifier) (ru : Option Bytes) (u : GoMap) :
    Sign1.verify { m with h := { m.h with rawU := ru, u := u } } ext v = Sign1.verify m ext v := rfl

/-- a verifier that rejects (any error) is never turned into success -/
theorem verify1_reject (m : Sign1Msg) (ext : Option Bytes) (v : Verifier)
    (h : ∀ t s, v.verify t s ≠ .ok ()) : (Sign1.verify m ext v).1 ≠ .ok () := by
  intro hc
  obtain ⟨_, _, _, t, _, hv⟩ := (verify1_iff m ext v).mp hc
  exact h _ _ hv

end C03
