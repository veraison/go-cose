/-
  C20 — a failing signer never yields a usable or half-signed message; verifier errors are
  propagated; no encoder emits an empty signature.  Signers / verifiers are oracle parameters
  (any function returning ok sig | ok [] | err e), so the statements hold for every fault.
  A signer that answers `ok []` (no error, no bytes) makes every Sign return `ErrEmptySignature`
  with nothing stored (`*_empty_signer_fails`, `*_ok_nonempty`; /repo 9ac6635).
  Every Sign is `signStep` behind its gate (Lemmas/Steps), so each statement here is that of the
  step; `signLoop_spec` says what the loop of `SignMessage.Sign` returns.  The same for
  `Signature.Sign`, countersignatures, the `Sign1` helpers and hash envelopes with a signer that
  reports an error (`*_fault`), and every Verify (`verify_error_propagates_all`), is in
  Deep/Tamper; the faults of the built-in signers (`ecdsa_key_fault`, `hash_fault`, `rsa_key_fault`)
  in Deep/Signers.
-/
import CoseModel.Messages
import CoseProofs.Lemmas.Steps
open CoseModel
namespace C20

/-- Sign1 with a signer whose reply always reads as the error `e` (`answer`: its own error, or no
    bytes): never success, `e` once the signer was reached, no signature stored -/
theorem sign1_failing_signer (m : Sign1Msg) (ext : Option Bytes) (s : Signer) {e : Err}
    (hs : ∀ t, answer s.sign t = .err e) :
    (Sign1.sign m ext s).out ≠ .ok () ∧
    ((Sign1.sign m ext s).calls ≠ [] → (Sign1.sign m ext s).out = .err e) ∧
    (Sign1.sign m ext s).state.sig = m.sig := by
  rw [Sign1.sign_eq]
  exact signStep_failing_signer _ _ _ _ _ _ Sign1Msg.sig (fun _ => by rfl) hs

/-- Sign1: if the signer reports an error, that error is returned and no signature is stored -/
theorem sign1_fault (m : Sign1Msg) (ext : Option Bytes) (s : Signer) (e : Err)
    (hs : ∀ tbs, s.sign tbs = .err e) :
    ((Sign1.sign m ext s).out = .ok () → False) ∧ (Sign1.sign m ext s).state.sig = m.sig := by
  obtain ⟨h1, -, h3⟩ := sign1_failing_signer m ext s fun t => answer_of_err (hs t)
  exact ⟨h1, h3⟩

/-- Sign1: when signing reports success, the stored signature is exactly what the signer
    returned for the bytes it was handed -/
theorem sign1_ok_stores_signer_output (m : Sign1Msg) (ext : Option Bytes) (s : Signer)
    (h : (Sign1.sign m ext s).out = .ok ()) :
    ∃ tbs sig, (Sign1.sign m ext s).calls = [tbs] ∧ s.sign tbs = .ok sig ∧ sig ≠ [] ∧
      (Sign1.sign m ext s).state.sig = some sig := by
  rw [Sign1.sign_eq] at h ⊢
  obtain ⟨_, t, sig, -, -, hsg, hne, heq⟩ := signStep_ok_inv _ _ _ _ _ _ h
  rw [heq]
  exact ⟨t, sig, rfl, hsg, hne, rfl⟩

/-- no encoder emits an empty signature -/
theorem no_empty_signature_emitted_sign1 (tagged : Bool) (m : Sign1Msg) (h : blen m.sig = 0) :
    Sign1.marshal tagged m = .err .emptySig := by
  simp [Sign1.marshal, Sign1.content, h]

theorem no_empty_signature_emitted_sig (s : SigV) (h : blen s.sig = 0) :
    Signature.marshal s = .err .emptySig := by
  simp [Signature.marshal, h]

/-- (repair 9ac6635) Sign1 with a signer that "succeeds" with no signature bytes: the call never
    reports success, stores nothing, and — whenever the signer was reached — returns
    `ErrEmptySignature` -/
theorem sign1_empty_signer_fails (m : Sign1Msg) (ext : Option Bytes) (s : Signer)
    (hs : ∀ tbs, s.sign tbs = .ok []) :
    (Sign1.sign m ext s).out ≠ .ok () ∧ (Sign1.sign m ext s).state.sig = m.sig ∧
    ((Sign1.sign m ext s).calls ≠ [] → (Sign1.sign m ext s).out = .err .emptySig) := by
  obtain ⟨h1, h2, h3⟩ := sign1_failing_signer m ext s fun t => answer_of_empty (hs t)
  exact ⟨h1, h3, h2⟩

/-- a signer that "succeeds" with an empty signature leaves a message that cannot be serialised -/
theorem sign1_empty_then_unencodable (tagged : Bool) (m : Sign1Msg) (ext : Option Bytes) (s : Signer)
    (hs : ∀ tbs, s.sign tbs = .ok []) (hm : blen m.sig = 0) :
    Sign1.marshal tagged (Sign1.sign m ext s).state = .err .emptySig := by
  apply no_empty_signature_emitted_sign1
  rw [(sign1_empty_signer_fails m ext s hs).2.1]
  exact hm

/-- Sign1, every signer: an empty answer for the bytes handed over is `ErrEmptySignature`, with
    the signer having been called on them and nothing stored -/
theorem sign1_empty_answer (m : Sign1Msg) (ext : Option Bytes) (s : Signer) (tbs : Bytes)
    (hc : (Sign1.sign m ext s).calls = [tbs]) (hs : s.sign tbs = .ok []) :
    (Sign1.sign m ext s).out = .err .emptySig ∧ (Sign1.sign m ext s).state.sig = m.sig := by
  rw [Sign1.sign_eq] at hc ⊢
  obtain ⟨_, t, -, -, hc', he⟩ := signStep_called _ _ _ _ _ _ (hc ▸ List.cons_ne_nil _ _)
  rw [hc] at hc'
  cases hc'
  have hout := he _ (answer_of_empty hs)
  exact ⟨hout, signStep_fail_keeps _ _ _ _ _ _ Sign1Msg.sig (fun _ => by rfl) (by rw [hout]; nofun)⟩

/-- Sign1: success means a non-empty signature is stored -/
theorem sign1_ok_nonempty (m : Sign1Msg) (ext : Option Bytes) (s : Signer)
    (h : (Sign1.sign m ext s).out = .ok ()) : blen (Sign1.sign m ext s).state.sig ≠ 0 := by
  obtain ⟨_, sig, -, -, hne, hst⟩ := sign1_ok_stores_signer_output m ext s h
  rw [hst]
  exact fun hz => hne (List.eq_nil_of_length_eq_zero hz)

/-- the Sign1 / Sign1Untagged helpers return no bytes unless signing succeeded and the result
    carries a non-empty signature -/
theorem helper_ok_implies_signed (tagged : Bool) (h : Hdrs) (payload ext : Option Bytes) (s : Signer) (b : Bytes)
    (hok : (sign1Helper tagged h payload ext s).1 = .ok b) :
    (Sign1.sign { h := h, payload := payload, sig := none } ext s).out = .ok () ∧
    blen (Sign1.sign { h := h, payload := payload, sig := none } ext s).state.sig ≠ 0 := by
  rw [sign1Helper_eq] at hok
  obtain ⟨_, ho, -⟩ := Out.bind_eq_ok.mp hok
  exact ⟨ho, sign1_ok_nonempty _ ext s ho⟩

/-- `Signature.Sign` with a signer whose reply always reads as the error `e` -/
theorem signature_failing_signer (sg : SigV) (s : Signer) (bprot : Bytes)
    (payload ext : Option Bytes) {e : Err} (hs : ∀ t, answer s.sign t = .err e) :
    (Signature.sign sg s bprot payload ext).out ≠ .ok () ∧
    ((Signature.sign sg s bprot payload ext).calls ≠ [] →
      (Signature.sign sg s bprot payload ext).out = .err e) ∧
    (Signature.sign sg s bprot payload ext).state.sig = sg.sig := by
  rw [Signature.sign_eq]
  exact signStep_failing_signer _ _ _ _ _ _ SigV.sig (fun _ => by rfl) hs

/-- a failing slot of COSE_Sign holds no signature afterwards (when it held none before) -/
theorem signature_sign_fail_keeps_sig (sg : SigV) (s : Signer) (bprot : Bytes) (payload ext : Option Bytes)
    (h : (Signature.sign sg s bprot payload ext).out ≠ .ok ()) :
    (Signature.sign sg s bprot payload ext).state.sig = sg.sig := by
  rw [Signature.sign_eq] at h ⊢
  exact signStep_fail_keeps _ _ _ _ _ _ SigV.sig (fun _ => by rfl) h

/-- `Signature.Sign`: when it reports success, the stored signature is what the signer returned
    for the bytes it was handed, and it is not empty -/
theorem signature_ok_stores_signer_output (sg : SigV) (s : Signer) (bprot : Bytes)
    (payload ext : Option Bytes) (h : (Signature.sign sg s bprot payload ext).out = .ok ()) :
    ∃ tbs sig, (Signature.sign sg s bprot payload ext).calls = [tbs] ∧ s.sign tbs = .ok sig ∧
      sig ≠ [] ∧ (Signature.sign sg s bprot payload ext).state.sig = some sig := by
  rw [Signature.sign_eq] at h ⊢
  obtain ⟨_, t, sig, -, -, hsg, hne, heq⟩ := signStep_ok_inv _ _ _ _ _ _ h
  rw [heq]
  exact ⟨t, sig, rfl, hsg, hne, rfl⟩

/-- `Signature.Sign`: success means a non-empty signature is stored in the slot -/
theorem signature_ok_nonempty (sg : SigV) (s : Signer) (bprot : Bytes)
    (payload ext : Option Bytes) (h : (Signature.sign sg s bprot payload ext).out = .ok ()) :
    blen (Signature.sign sg s bprot payload ext).state.sig ≠ 0 := by
  obtain ⟨_, sig, -, -, hne, hst⟩ := signature_ok_stores_signer_output sg s bprot payload ext h
  rw [hst]
  exact fun hz => hne (List.eq_nil_of_length_eq_zero hz)

/-- (repair 9ac6635) `Signature.Sign` with a signer that "succeeds" with no signature bytes never
    reports success, stores nothing, and — whenever the signer was reached — returns
    `ErrEmptySignature` -/
theorem signature_empty_signer_fails (sg : SigV) (s : Signer) (bprot : Bytes)
    (payload ext : Option Bytes) (hs : ∀ tbs, s.sign tbs = .ok []) :
    (Signature.sign sg s bprot payload ext).out ≠ .ok () ∧
    (Signature.sign sg s bprot payload ext).state.sig = sg.sig ∧
    ((Signature.sign sg s bprot payload ext).calls ≠ [] →
      (Signature.sign sg s bprot payload ext).out = .err .emptySig) := by
  obtain ⟨h1, h2, h3⟩ :=
    signature_failing_signer sg s bprot payload ext fun t => answer_of_empty (hs t)
  exact ⟨h1, h3, h2⟩

/-- what the signing loop returns, for any two lists: either every slot that has a signer was
    signed and holds the state `Signature.sign` left, or there is a first failing index whose
    outcome is the loop's, with the later slots untouched -/
theorem signLoop_spec (bprot : Bytes) (payload ext : Option Bytes) :
    ∀ (sgs : List SigV) (ss : List Signer),
      ((signLoop bprot payload ext sgs ss).2.1 = .ok () ∧
        ∃ hl : (signLoop bprot payload ext sgs ss).1.length = sgs.length,
          ∀ i (h1 : i < sgs.length) (h2 : i < ss.length),
            (signLoop bprot payload ext sgs ss).1[i]'(hl ▸ h1) =
              (Signature.sign sgs[i] ss[i] bprot payload ext).state ∧
            (Signature.sign sgs[i] ss[i] bprot payload ext).out = .ok ()) ∨
      ∃ (i : Nat) (h1 : i < sgs.length) (h2 : i < ss.length),
        (∀ j (hj1 : j < sgs.length) (hj2 : j < ss.length), j < i →
          (Signature.sign sgs[j] ss[j] bprot payload ext).out = .ok ()) ∧
        (Signature.sign sgs[i] ss[i] bprot payload ext).out ≠ .ok () ∧
        (signLoop bprot payload ext sgs ss).2.1 = (Signature.sign sgs[i] ss[i] bprot payload ext).out ∧
        (signLoop bprot payload ext sgs ss).1.drop (i + 1) = sgs.drop (i + 1) ∧
        (signLoop bprot payload ext sgs ss).1[i]? =
          some (Signature.sign sgs[i] ss[i] bprot payload ext).state
  | [], _ => .inl ⟨rfl, rfl, fun i h1 => absurd h1 (Nat.not_lt_zero i)⟩
  | _ :: _, [] => .inl ⟨rfl, rfl, fun i _ h2 => absurd h2 (Nat.not_lt_zero i)⟩
  | sg :: sgs, s :: ss => by
    by_cases ho : (Signature.sign sg s bprot payload ext).out = .ok ()
    · rw [signLoop, ho]
      rcases signLoop_spec bprot payload ext sgs ss with
        ⟨hok, hl, hall⟩ | ⟨i, h1, h2, hb, hf, hout, hd, hat⟩
      · refine .inl ⟨hok, congrArg (· + 1) hl, fun i h1 h2 => ?_⟩
        cases i with
        | zero => exact ⟨rfl, ho⟩
        | succ j => exact hall j (Nat.lt_of_succ_lt_succ h1) (Nat.lt_of_succ_lt_succ h2)
      · refine .inr ⟨i + 1, Nat.succ_lt_succ h1, Nat.succ_lt_succ h2, fun j hj1 hj2 hlt => ?_, hf,
          hout, hd, hat⟩
        cases j with
        | zero => exact ho
        | succ k =>
          exact hb k (Nat.lt_of_succ_lt_succ hj1) (Nat.lt_of_succ_lt_succ hj2)
            (Nat.lt_of_succ_lt_succ hlt)
    · have heq : signLoop bprot payload ext (sg :: sgs) (s :: ss) =
          ((Signature.sign sg s bprot payload ext).state :: sgs,
            (Signature.sign sg s bprot payload ext).out,
            (Signature.sign sg s bprot payload ext).calls) := by
        rw [signLoop]
        cases hq : (Signature.sign sg s bprot payload ext).out with
        | ok u => exact absurd hq ho
        | err e => rfl
        | panic => rfl
        | unmodelled => rfl
      rw [heq]
      exact .inr ⟨0, Nat.zero_lt_succ _, Nat.zero_lt_succ _,
        fun j _ _ h => absurd h (Nat.not_lt_zero j), ho, rfl, rfl, rfl⟩

/-- COSE_Sign fault vectors (any number of signers, any assignment of outcomes): the loop
    returns the first non-ok outcome and never calls a later signer -/
theorem signLoop_first_failure (bprot : Bytes) (payload ext : Option Bytes) :
    ∀ (sgs : List SigV) (ss : List Signer) (i : Nat) (h1 : i < sgs.length) (h2 : i < ss.length),
      (∀ j (hj1 : j < sgs.length) (hj2 : j < ss.length), j < i →
          (Signature.sign sgs[j] ss[j] bprot payload ext).out = .ok ()) →
      (Signature.sign sgs[i] ss[i] bprot payload ext).out ≠ .ok () →
      (signLoop bprot payload ext sgs ss).2.1 = (Signature.sign sgs[i] ss[i] bprot payload ext).out ∧
      (signLoop bprot payload ext sgs ss).1.drop (i + 1) = sgs.drop (i + 1)
  | sgs, ss, i, h1, h2, hbefore, hfail => by
    rcases signLoop_spec bprot payload ext sgs ss with
      ⟨-, _, hall⟩ | ⟨k, k1, k2, kb, kf, ko, kd, -⟩
    · exact absurd (hall i h1 h2).2 hfail
    · -- the first failing index is `i`: earlier ones succeeded, `i` did not
      have hki : k = i := by
        rcases Nat.lt_trichotomy k i with h | h | h
        · exact absurd (hbefore k k1 k2 h) kf
        · exact h
        · exact absurd (kb i h1 h2 h) hfail
      subst hki
      exact ⟨ko, kd⟩

/-- COSE_Sign loop: when it reports success over as many signers as slots, every slot holds a
    non-empty signature -/
theorem signLoop_ok_all_filled (bprot : Bytes) (payload ext : Option Bytes) :
    ∀ (sgs : List SigV) (ss : List Signer), sgs.length = ss.length →
      (signLoop bprot payload ext sgs ss).2.1 = .ok () →
      ∀ sg ∈ (signLoop bprot payload ext sgs ss).1, blen sg.sig ≠ 0
  | sgs, ss, hl, hok, sg, hsg => by
    rcases signLoop_spec bprot payload ext sgs ss with
      ⟨-, hlen, hall⟩ | ⟨k, _, _, -, kf, ko, -, -⟩
    · obtain ⟨i, hi, rfl⟩ := List.getElem_of_mem hsg
      have h1 : i < sgs.length := hlen ▸ hi
      obtain ⟨hst, hout⟩ := hall i h1 (hl ▸ h1)
      rw [hst]
      exact signature_ok_nonempty _ _ _ _ _ hout
    · exact absurd (ko ▸ hok) kf

/-- COSE_Sign loop, first empty answer (a signer that returns no error and no bytes for slot `i`,
    the earlier slots having been signed): the loop stops there with `ErrEmptySignature`, that
    slot holds no signature, the later ones are untouched -/
theorem signLoop_first_empty_answer (bprot : Bytes) (payload ext : Option Bytes)
    (sgs : List SigV) (ss : List Signer) (i : Nat) (h1 : i < sgs.length) (h2 : i < ss.length)
    (hbefore : ∀ j (hj1 : j < sgs.length) (hj2 : j < ss.length), j < i →
      (Signature.sign sgs[j] ss[j] bprot payload ext).out = .ok ())
    (hempty : ∀ tbs, ss[i].sign tbs = .ok [])
    (hreached : (Signature.sign sgs[i] ss[i] bprot payload ext).calls ≠ []) :
    (signLoop bprot payload ext sgs ss).2.1 = .err .emptySig ∧
    (Signature.sign sgs[i] ss[i] bprot payload ext).state.sig = sgs[i].sig ∧
    (signLoop bprot payload ext sgs ss).1.drop (i + 1) = sgs.drop (i + 1) := by
  obtain ⟨hne, hkeep, herr⟩ := signature_empty_signer_fails sgs[i] ss[i] bprot payload ext hempty
  obtain ⟨ha, hb⟩ := signLoop_first_failure bprot payload ext sgs ss i h1 h2 hbefore hne
  exact ⟨by rw [ha, herr hreached], hkeep, hb⟩

/-- `Countersignature.Sign` with a signer whose reply always reads as the error `e` -/
theorem countersignature_failing_signer (cs : SigV) (s : Signer) (parent : Parent)
    (ext : Option Bytes) {e : Err} (hs : ∀ t, answer s.sign t = .err e) :
    (Countersignature.sign cs s parent ext).out ≠ .ok () ∧
    ((Countersignature.sign cs s parent ext).calls ≠ [] →
      (Countersignature.sign cs s parent ext).out = .err e) ∧
    (Countersignature.sign cs s parent ext).state.sig = cs.sig := by
  rw [Countersignature.sign_eq]
  exact signStep_failing_signer _ _ _ _ _ _ SigV.sig (fun _ => by rfl) hs

/-- `Countersignature.Sign`: success means what the signer returned is stored, and is not empty -/
theorem csig_ok_stores_signer_output (cs : SigV) (s : Signer) (parent : Parent)
    (ext : Option Bytes) (h : (Countersignature.sign cs s parent ext).out = .ok ()) :
    ∃ tbs sig, (Countersignature.sign cs s parent ext).calls = [tbs] ∧ s.sign tbs = .ok sig ∧
      sig ≠ [] ∧ (Countersignature.sign cs s parent ext).state.sig = some sig := by
  rw [Countersignature.sign_eq] at h ⊢
  obtain ⟨_, t, sig, -, -, hsg, hne, heq⟩ := signStep_ok_inv _ _ _ _ _ _ h
  rw [heq]
  exact ⟨t, sig, rfl, hsg, hne, rfl⟩

/-- (repair 9ac6635) `Countersignature.Sign` with a signer that "succeeds" with no signature
    bytes never reports success, stores nothing, and — whenever the signer was reached — returns
    `ErrEmptySignature` -/
theorem csig_empty_signer_fails (cs : SigV) (s : Signer) (parent : Parent) (ext : Option Bytes)
    (hs : ∀ tbs, s.sign tbs = .ok []) :
    (Countersignature.sign cs s parent ext).out ≠ .ok () ∧
    (Countersignature.sign cs s parent ext).state.sig = cs.sig ∧
    ((Countersignature.sign cs s parent ext).calls ≠ [] →
      (Countersignature.sign cs s parent ext).out = .err .emptySig) := by
  obtain ⟨h1, h2, h3⟩ :=
    countersignature_failing_signer cs s parent ext fun t => answer_of_empty (hs t)
  exact ⟨h1, h3, h2⟩

/-- `Countersign0` never returns an empty countersignature: bytes come back only as the signer's
    non-empty answer for the bytes it was handed -/
theorem countersign0_ok_nonempty (s : Signer) (parent : Parent) (ext : Option Bytes) (b : Bytes)
    (h : (countersign0 s parent ext).1 = .ok b) :
    b ≠ [] ∧ ∃ tbs, (countersign0 s parent ext).2 = [tbs] ∧ s.sign tbs = .ok b := by
  rw [countersign0_eq] at h ⊢
  rcases callKey_cases (.ok ()) (countersignToBeSigned true parent [0x40] ext) (answer s.sign) with
    ⟨t, -, -, heq⟩ | ⟨-, hne⟩
  · rw [heq] at h ⊢
    obtain ⟨hsg, hb⟩ := answer_eq_ok.mp h
    exact ⟨hb, t, rfl, hsg⟩
  · exact absurd h (hne b)

/-- `Countersign0` with a signer whose reply always reads as the error `e`: no bytes are returned;
    `e` once the signer was reached -/
theorem countersign0_failing_signer (s : Signer) (parent : Parent) (ext : Option Bytes) {e : Err}
    (hs : ∀ t, answer s.sign t = .err e) :
    (∀ b, (countersign0 s parent ext).1 ≠ .ok b) ∧
    ((countersign0 s parent ext).2 ≠ [] → (countersign0 s parent ext).1 = .err e) := by
  rw [countersign0_eq]
  exact callKey_failing_key _ _ hs

/-- (repair 9ac6635) `Countersign0` with a signer that "succeeds" with no signature bytes returns
    no bytes, and `ErrEmptySignature` whenever the signer was reached -/
theorem countersign0_empty_signer_fails (s : Signer) (parent : Parent) (ext : Option Bytes)
    (hs : ∀ tbs, s.sign tbs = .ok []) :
    (∀ b, (countersign0 s parent ext).1 ≠ .ok b) ∧
    ((countersign0 s parent ext).2 ≠ [] → (countersign0 s parent ext).1 = .err .emptySig) :=
  countersign0_failing_signer s parent ext fun t => answer_of_empty (hs t)

/-- verifier errors are propagated: whatever the verifier returns for the (content, signature)
    it is handed is the result of Sign1.verify -/
theorem verify_error_propagates (m : Sign1Msg) (ext : Option Bytes) (v : Verifier) (tbs : Bytes)
    (h : (Sign1.verify m ext v).2 = [tbs]) :
    (Sign1.verify m ext v).1 = v.verify tbs (m.sig.getD []) := by
  rw [Sign1.verify_eq] at h ⊢
  obtain ⟨t, -, -, heq⟩ := callKey_called (h ▸ List.cons_ne_nil _ _)
  rw [heq] at h ⊢
  cases h
  rfl

end C20
