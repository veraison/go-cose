/-
  C06 — no input makes a decoder or a follow-up operation panic.
  In the model `panic` is an explicit outcome (`Out.panic`); the theorems show it is unreachable:
  every leaf of a definition is `ok`, `err` or `unmodelled`, or a call that does not panic.
  Here: the value decoders and the protected bucket.  The entry points (every `UnmarshalCBOR`,
  `MarshalCBOR`, `Verify`, and decode-then-use) are in Deep/NoPanic.  The panic-site inventory
  (`panic_site_inventory`, Ties/C06) ties the claim to the source: every single-value type
  assertion, slice / index expression and explicit panic of the package, by (function,
  expression), must be the list the model was written against (each is dominated by a guard or a
  length check).
-/
import CoseModel.Messages
import CoseProofs.Lemmas.Parse
import CoseProofs.Lemmas.Decode
import CoseProofs.Lemmas.Ecdsa
open CoseModel
namespace C06

theorem decByteString_no_panic (w : Wire) : decByteString w ≠ .panic := by
  unfold decByteString; split <;> nofun

theorem detBstr_no_panic (data : Bytes) : detBstr data ≠ .panic := by
  unfold detBstr
  split
  · nofun
  · refine Out.ite_ne_panic nofun ?_
    split
    · nofun
    · exact Out.ite_ne_panic nofun (Out.ite_ne_panic nofun (by split <;> nofun))

theorem labelsOK_no_panic : ∀ (kvs : List (Wire × Wire)) (seen : List GoVal), labelsOK kvs seen ≠ .panic
  | [], _ => nofun
  | (k, v) :: r, seen => by
    have ih := labelsOK_no_panic r
    unfold labelsOK
    split
    · nofun
    · exact Out.ite_ne_panic (Out.ite_ne_panic nofun (ih _)) nofun
    · exact Out.ite_ne_panic (Out.ite_ne_panic nofun (ih _)) nofun
    · exact Out.ite_ne_panic (Out.ite_ne_panic nofun (ih _)) nofun
    · nofun

mutual
theorem decodeAny_no_panic : ∀ (w : Wire), decodeAny w ≠ .panic
  | .uint _ n => by unfold decodeAny; exact Out.ite_ne_panic nofun nofun
  | .nint _ n => by unfold decodeAny; exact Out.ite_ne_panic nofun nofun
  | .bstr _ b => nofun
  | .tstr _ b => by unfold decodeAny; exact Out.ite_ne_panic nofun nofun
  | .tag _ _ _ => nofun
  | .prim .imm n => by
    unfold decodeAny
    exact Out.ite_ne_panic nofun (Out.ite_ne_panic nofun (Out.ite_ne_panic nofun nofun))
  | .prim .w1 n => nofun
  | .prim .w2 n => nofun
  | .prim .w4 n => nofun
  | .prim .w8 n => nofun
  | .arr _ xs => by
    unfold decodeAny
    cases h : decodeList xs with
    | panic => exact absurd h (decodeList_no_panic xs)
    | _ => nofun
  | .map _ kvs => by
    unfold decodeAny
    cases h : decodePairs kvs [] with
    | panic => exact absurd h (decodePairs_no_panic kvs [])
    | _ => nofun
theorem decodeList_no_panic : ∀ (xs : List Wire), decodeList xs ≠ .panic
  | [] => nofun
  | x :: xs => by
    rw [decodeList_cons]
    exact Out.comb_ne_panic (decodeAny_no_panic x) (decodeList_no_panic xs) nofun
theorem decodePairs_no_panic : ∀ (kvs : List (Wire × Wire)) (acc : GoMap), decodePairs kvs acc ≠ .panic
  | [], acc => nofun
  | (k, v) :: r, acc => by
    unfold decodePairs
    cases hk : decodeAny k with
    | panic => exact absurd hk (decodeAny_no_panic k)
    | err e => nofun
    | unmodelled => nofun
    | ok key =>
      dsimp only
      split
      · nofun
      · nofun
      · refine Out.ite_ne_panic nofun ?_
        cases hv : decodeAny v with
        | panic => exact absurd hv (decodeAny_no_panic v)
        | err e => nofun
        | unmodelled => nofun
        | ok value => exact Out.ite_ne_panic nofun (decodePairs_no_panic r _)
end

theorem decProtectedContent_no_panic (enc : Bytes) : decProtectedContent enc ≠ .panic := by
  unfold decProtectedContent
  split
  · nofun
  · refine Out.ite_ne_panic nofun ?_
    split
    · refine Out.bind_ne_panic (labelsOK_no_panic _ _) fun _ => Out.ite_ne_panic nofun ?_
      exact Out.bind_ne_panic (decodePairs_no_panic _ _) fun m => Out.ite_ne_panic nofun nofun
    · nofun

theorem decProtected_no_panic (w : Wire) : decProtected w ≠ .panic := by
  unfold decProtected
  split
  · exact decProtectedContent_no_panic _
  · nofun

/-- ECDSA signature decoding (slice expressions `sig[:n]`, `sig[n:]`) is guarded by the length
    check: the model's `take`/`drop` are only reached with `sig.length = 2n` -/
theorem ecdsa_slices_guarded (n : Nat) (sig : Bytes) (p : Nat × Nat)
    (h : decodeECDSASignature n sig = some p) : sig.length = n * 2 :=
  ((decode_eq_some_iff n sig p).mp h).1.trans (Nat.mul_comm 2 n)

end C06
