/-
  C08 — encoding is deterministic and canonical: independent of Go's map iteration order, keys
  sorted bytewise without duplicates, shortest-form heads.  Here: the sort and the heads.  That a
  validated bucket has distinct encoded keys, so that its bytes do not depend on the iteration
  order, is in Deep/Headers; that the decoder reads back what the encoder emits, in
  Deep/RoundTrip (flat values), NestedRoundTrip, NestedBuckets and CsigRoundTrip.
-/
import CoseModel.Messages
import CoseProofs.Lemmas.Sort
import CoseProofs.Lemmas.Headers
import CoseProofs.Lemmas.Out
open CoseModel
namespace C08

/-- the sorted entry list — hence the emitted bytes — does not depend on the order in which Go's
    `range` delivered the (distinct) encoded keys -/
theorem map_bytes_order_independent (l l' : List (Bytes × Bytes)) (hp : l.Perm l')
    (hd : (l.map Prod.fst).Nodup) : concatPairs (sortPairs l) = concatPairs (sortPairs l') := by
  rw [sortPairs_perm_invariant l l' hp hd]

/-- map keys are emitted strictly increasing bytewise: sorted and free of duplicates -/
theorem map_keys_strictly_sorted (l : List (Bytes × Bytes)) (hd : (l.map Prod.fst).Nodup) :
    (sortPairs l).Pairwise (fun a b => bytesLt a.1 b.1 = true) := by
  have hn : ((sortPairs l).map Prod.fst).Nodup := ((sortPairs_perm l).map Prod.fst).nodup_iff.mpr hd
  exact ((sortPairs_sorted l).and (List.pairwise_map.mp hn)).imp
    fun h => bytesLt_of_le_of_ne h.1 h.2

/-- sorting loses and invents nothing (= `sortPairs_perm`) -/
theorem map_entries_preserved (l : List (Bytes × Bytes)) : (sortPairs l).Perm l := sortPairs_perm l

/-- sorting an already canonical list changes nothing (re-encoding is idempotent) -/
theorem sort_idempotent (l : List (Bytes × Bytes)) : sortPairs (sortPairs l) = sortPairs l :=
  sortPairs_of_sorted _ (sortPairs_sorted l)

/-- integers and lengths are emitted in shortest form -/
theorem head_shortest (m n : Nat) : encHead m n = headBytes m (HW.shortest n) n := rfl

theorem shortest_fits (n : Nat) (h : n < 18446744073709551616) : (HW.shortest n).fits n = true := by
  rcases HeadersDeep.shortest_cases n with ⟨a, e⟩ | ⟨_, a, e⟩ | ⟨_, a, e⟩ | ⟨_, a, e⟩ | ⟨_, e⟩
  · rw [e]; exact decide_eq_true a
  · rw [e]; exact decide_eq_true a
  · rw [e]; exact decide_eq_true a
  · rw [e]; exact decide_eq_true a
  · rw [e]; exact decide_eq_true h

/-- shortest means: no narrower width fits -/
theorem shortest_minimal (n : Nat) (w : HW) (h : w.fits n = true) : (HW.shortest n).ai ≤ w.ai := by
  rcases HeadersDeep.shortest_cases n with ⟨_, e⟩ | ⟨l, _, e⟩ | ⟨l, _, e⟩ | ⟨l, _, e⟩ | ⟨l, e⟩ <;>
    rw [e]
  · exact Nat.zero_le _
  · cases w with
    | imm => exact absurd (of_decide_eq_true h) (by omega)
    | _ => decide
  · cases w with
    | imm | w1 => exact absurd (of_decide_eq_true h) (by omega)
    | _ => decide
  · cases w with
    | imm | w1 | w2 => exact absurd (of_decide_eq_true h) (by omega)
    | _ => decide
  · cases w with
    | w8 => decide
    | _ => exact absurd (of_decide_eq_true h) (by omega)

/-- the protected-header bytes emitted on the wire are the bytes that were signed: both come
    from the one function `marshalProtected` applied to the post-signing headers -/
theorem emit_protected_eq_signed (m : Sign1Msg) (ext : Option Bytes) (tagged : Bool) (t out : Bytes)
    (ht : Sign1.toBeSigned m ext = .ok t) (ho : Sign1.marshal tagged m = .ok out) :
    ∃ p, marshalProtected m.h = .ok p ∧ (∃ p', detBstr p = .ok p' ∧
      t = encHead 4 4 ++ (encTstr ctxSignature1 ++ (p' ++ (encBstr (ext.getD []) ++ optBytesEnc m.payload)))) ∧
      ∃ u, out = (if tagged then [0xd2] else []) ++ (0x84 :: (p ++ (u ++ (optBytesEnc m.payload ++ encBstr (m.sig.getD []))))) := by
  unfold Sign1.toBeSigned at ht
  obtain ⟨p, hp, ht⟩ := Out.bind_eq_ok.mp ht
  obtain ⟨p', hd, ht⟩ := Out.bind_eq_ok.mp ht
  cases ht
  refine ⟨p, hp, ⟨p', hd, rfl⟩, ?_⟩
  unfold Sign1.marshal at ho
  obtain ⟨c, hc, ho⟩ := Out.bind_eq_ok.mp ho
  cases ho
  unfold Sign1.content at hc
  split at hc
  · cases hc
  · obtain ⟨⟨p2, u⟩, hm, hc⟩ := Out.bind_eq_ok.mp hc
    cases hc
    unfold Hdrs.marshal at hm
    split at hm
    · cases hm
    · obtain ⟨p3, hp3, hm⟩ := Out.bind_eq_ok.mp hm
      obtain ⟨u3, _, hm⟩ := Out.bind_eq_ok.mp hm
      cases hm
      cases hp.symm.trans hp3
      exact ⟨u, by cases tagged <;> rfl⟩

end C08
