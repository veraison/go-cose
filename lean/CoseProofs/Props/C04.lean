/-
  C04 — no signing or verification under an algorithm other than the protected `alg`.
  The decision logic of `ensureSigningAlgorithm` / `ensureVerificationAlgorithm` (headers.go),
  which every Sign / Verify entry point consults before the key; here for COSE_Sign1.
  COSE_Signature and countersignatures (`*_call_implies_gate`, `*_mismatch_no_call`) are in
  Deep/Tamper; that the alg consulted is the one in the bytes signed and on the wire
  (`*_carry_alg`, `*_consults_wire_alg`) is in Deep/AlgWire and Deep/SignClear.
-/
import CoseModel.Messages
import CoseProofs.Lemmas.Steps
open CoseModel
namespace C04

/-- verification side: the check passes exactly when alg is present as an integer equal to the
    verifier's, or is absent and external data is non-empty -/
theorem verify_gate_iff (p : GoMap) (alg : Int) (ext : Option Bytes) :
    ensureVerificationAlgorithm p alg ext = .ok () ↔
      (algorithmOf p = .found alg) ∨ (algorithmOf p = .notFound ∧ (ext.getD []).length > 0) := by
  unfold ensureVerificationAlgorithm
  cases h : algorithmOf p with
  | found c =>
    by_cases hc : c = alg
    · simp [hc]
    · simp [hc]
  | notFound => by_cases he : (ext.getD []).length > 0 <;> simp [he]
  | failed e => simp

theorem verify_mismatch (p : GoMap) (alg c : Int) (ext : Option Bytes)
    (h : algorithmOf p = .found c) (hne : c ≠ alg) :
    ensureVerificationAlgorithm p alg ext = .err .algMismatch := by
  simp [ensureVerificationAlgorithm, h, hne]

theorem verify_absent_noext (p : GoMap) (alg : Int) (ext : Option Bytes)
    (h : algorithmOf p = .notFound) (he : (ext.getD []).length = 0) :
    ensureVerificationAlgorithm p alg ext = .err .algNotFound := by
  simp [ensureVerificationAlgorithm, h, he]

/-- a non-integer alg value (text, bytes, …) never passes -/
theorem verify_nonint (p : GoMap) (alg : Int) (ext : Option Bytes) (e : Err)
    (h : algorithmOf p = .failed e) : ensureVerificationAlgorithm p alg ext = .err e := by
  simp [ensureVerificationAlgorithm, h]

/-- Signing side: success means the (possibly updated) protected map is returned and either the
    alg was there and equal, or external data is present, or the signer's alg was inserted —
    the latter only when no raw protected bytes were supplied. -/
theorem sign_gate_cases (rawP : Option Bytes) (p p' : GoMap) (alg : Int) (ext : Option Bytes)
    (h : ensureSigningAlgorithm rawP p alg ext = .ok p') :
    (algorithmOf p = .found alg ∧ p' = p) ∨
    (algorithmOf p = .notFound ∧ (ext.getD []).length > 0 ∧ p' = p) ∨
    (algorithmOf p = .notFound ∧ (ext.getD []).length = 0 ∧ rawP = none ∧ p' = p.set (lbl 1) (.alg alg)) := by
  revert h
  fun_cases ensureSigningAlgorithm rawP p alg ext with
  | case1 ha =>
    rintro ⟨⟩
    exact .inl ⟨ha, rfl⟩
  | case2 => nofun
  | case3 ha he =>
    rintro ⟨⟩
    exact .inr (.inl ⟨ha, he, rfl⟩)
  | case4 => nofun
  | case5 ha he hr =>
    rintro ⟨⟩
    exact .inr (.inr ⟨ha, Nat.eq_zero_of_not_pos he, Option.not_isSome_iff_eq_none.mp hr, rfl⟩)
  | case6 => nofun

theorem sign_mismatch (rawP : Option Bytes) (p : GoMap) (alg c : Int) (ext : Option Bytes)
    (h : algorithmOf p = .found c) (hne : c ≠ alg) :
    ensureSigningAlgorithm rawP p alg ext = .err .algMismatch := by
  simp [ensureSigningAlgorithm, h, hne]

/-- user-supplied raw protected bytes: nothing is ever inserted -/
theorem raw_present_no_injection (r : Bytes) (p p' : GoMap) (alg : Int) (ext : Option Bytes)
    (h : ensureSigningAlgorithm (some r) p alg ext = .ok p') : p' = p := by
  rcases sign_gate_cases _ _ _ _ _ h with ⟨_, h⟩ | ⟨_, _, h⟩ | ⟨_, _, hr, _⟩
  · exact h
  · exact h
  · cases hr

/-- COSE_Sign1 with an integer alg different from the signer's: the mismatch error, and the key
    is not invoked -/
theorem sign1_mismatch_no_call (m : Sign1Msg) (ext : Option Bytes) (s : Signer) (c : Int)
    (hp : m.payload.isSome) (hs : blen m.sig = 0)
    (h : algorithmOf m.h.p = .found c) (hne : c ≠ s.alg) :
    (Sign1.sign m ext s).out = .err .algMismatch ∧ (Sign1.sign m ext s).calls = [] := by
  rw [Sign1.sign_eq, Sign1.signGate,
    if_neg (Option.isSome_iff_ne_none.mp hp ∘ Option.isNone_iff_eq_none.mp),
    if_neg (hs ▸ Nat.lt_irrefl 0), sign_mismatch _ _ _ _ _ h hne]
  exact ⟨rfl, rfl⟩

theorem verify1_mismatch_no_call (m : Sign1Msg) (ext : Option Bytes) (v : Verifier) (c : Int)
    (h : algorithmOf m.h.p = .found c) (hne : c ≠ v.alg) :
    (Sign1.verify m ext v).2 = [] ∧ (Sign1.verify m ext v).1 ≠ .ok () := by
  rw [Sign1.verify_eq]
  rcases callKey_cases (Sign1.verifyGate m ext v) (Sign1.toBeSigned m ext)
    (fun t => v.verify t (m.sig.getD [])) with ⟨_, hg, -, -⟩ | ⟨hc, hn⟩
  · have := (Sign1.verifyGate_eq_ok.mp hg).2.2
    rw [verify_mismatch _ _ _ _ h hne] at this
    cases this
  · exact ⟨hc, hn ()⟩

/-- every key invocation of Sign1.verify happens after the gate: if the verifier was called,
    the alg check had succeeded -/
theorem verify1_call_implies_gate (m : Sign1Msg) (ext : Option Bytes) (v : Verifier)
    (h : (Sign1.verify m ext v).2 ≠ []) : ensureVerificationAlgorithm m.h.p v.alg ext = .ok () := by
  rw [Sign1.verify_eq] at h
  obtain ⟨_, hg, -, -⟩ := callKey_called h
  exact (Sign1.verifyGate_eq_ok.mp hg).2.2

/-- same for signing: a call to the signer implies the signing gate succeeded -/
theorem sign1_call_implies_gate (m : Sign1Msg) (ext : Option Bytes) (s : Signer)
    (h : (Sign1.sign m ext s).calls ≠ []) :
    ∃ p', ensureSigningAlgorithm m.h.rawP m.h.p s.alg ext = .ok p' := by
  rw [Sign1.sign_eq] at h
  obtain ⟨p', _, hg, -, -, -⟩ := signStep_called _ _ _ _ _ _ h
  exact ⟨p', (Sign1.signGate_eq_ok.mp hg).2.2⟩

/-! a header with alg = ES256 passes for an ES256 verifier and is refused (mismatch) for ES384 -/
example : ensureVerificationAlgorithm [(lbl 1, .alg (-7))] (-7) none = .ok () := by decide
example : ensureVerificationAlgorithm [(lbl 1, .alg (-7))] (-35) (some [1]) = .err .algMismatch := by decide
example : ensureVerificationAlgorithm [(.int .i 1, .alg (-7))] (-35) (some [1]) = .err .algMismatch := by decide
example : ensureSigningAlgorithm none [] (-7) none = .ok [(lbl 1, .alg (-7))] := by rfl

end C04
