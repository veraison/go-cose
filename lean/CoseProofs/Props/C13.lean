/-
  C13 — the RFC 9052 §3.1 parameter rules, enforced by one function (`validateHeaderParameters`)
  in both directions, with a verdict that does not depend on the Go integer type of a label.
  Here: `normalizeLabel`, and the rules read off `checkParam` label by label.  That the verdict
  depends neither on Go's map iteration order nor on the spelling of the labels is in
  Deep/Headers; that every bucket a decoder returns is valid, in Deep/Verifies and Deep/Accept.
-/
import CoseModel.Messages
import CoseModel.Generated.Facts
import CoseProofs.Lemmas.Headers
import CoseProofs.Lemmas.Out
open CoseModel
namespace C13

/-- a label's normal form does not depend on which Go integer type spells it: for a value `v`
    of both types (`k.lo ≤ v ≤ k.hi`, `k'.lo ≤ v ≤ k'.hi`).  [Before 0eeddbc this held for every
    `v`, `uint64(2^64-1)` and `int64(-1)` being the same label.] -/
theorem normalize_spelling (k k' : IntKind) (v : Int) (hk : v ≤ k.hi) (hk' : v ≤ k'.hi) :
    normalizeLabel (.int k v) = normalizeLabel (.int k' v) := by
  by_cases hv : v ≤ maxInt64
  · rw [normalizeLabel_int_of_le k hv, normalizeLabel_int_of_le k' hv]
  · have hw : ∀ j : IntKind, v ≤ j.hi → normalizeLabel (.int j v) = none :=
      fun j hj => Decidable.byContradiction fun hn => hv (le_maxInt64_of_normalizes hj hn)
    rw [hw k hk, hw k' hk']

/-- … and within int64 it is the value itself, whatever the type -/
theorem normalize_spelling_int64 (k k' : IntKind) (v : Int) (hv : v ≤ maxInt64) :
    normalizeLabel (.int k v) = normalizeLabel (.int k' v) := by
  rw [normalizeLabel_int_of_le k hv, normalizeLabel_int_of_le k' hv]

/-- a `uint` / `uint64` above `math.MaxInt64` is not a label (0eeddbc): it is refused like a
    `bool` or a byte string, not wrapped to a negative one -/
theorem normalize_refuses_wide (k : IntKind) (v : Int) (hk : k = .u ∨ k = .u64)
    (hv : v > maxInt64) : normalizeLabel (.int k v) = none :=
  normalizeLabel_int_eq_none.mpr ⟨by rcases hk with rfl | rfl <;> rfl, hv⟩

/-- every label `normalizeLabel` accepts from a Go value within its type's range is that value
    as an `int64` (no wrapping is left) -/
theorem normalize_no_wrap (k : IntKind) (v : Int) (n : GoVal) (hlo : k.lo ≤ v) (hhi : v ≤ k.hi)
    (h : normalizeLabel (.int k v) = some n) : n = .int .i64 v := by
  have h' := (normalizeLabel_int_of_range hlo hhi (h ▸ Option.some_ne_none n)).2
  rw [h] at h'
  exact Option.some.inj h'

/-- labels that are neither integers nor text are refused -/
theorem label_type_rule (l : GoVal) (h : normalizeLabel l = none) (v : GoVal) (rest : GoMap) (prot : Bool)
    (hm : GoMap) (seen : List GoVal) : validateLoop hm prot ((l, v) :: rest) seen = false := by
  simp [validateLoop, h]

/-- the decoder and the encoder run the same validation function on the same representation:
    the protected decoder accepts only what `validateHeaderParameters … true` accepts -/
theorem decode_protected_validated (enc : Bytes) (m : GoMap) (h : decProtectedContent enc = .ok m) :
    enc = [] ∧ m = [] ∨ ∃ m0, validateHeaderParameters m0 true = true ∧ m = castAlg m0 := by
  unfold decProtectedContent at h
  split at h
  · cases h
    exact Or.inl ⟨rfl, rfl⟩
  · right
    split at h
    · cases h
    · split at h
      · obtain ⟨_, _, h⟩ := Out.bind_eq_ok.mp h
        split at h
        · cases h
        · obtain ⟨m0, _, h⟩ := Out.bind_eq_ok.mp h
          split at h
          · cases h
          · rename_i hv
            cases h
            exact ⟨m0, by simpa using hv, rfl⟩
      · cases h

/-- a non-empty bucket without retained bytes is emitted only after validation -/
theorem encodeBucket_validated {cfg : EncCfg} {prot : Bool} {e : GoVal × GoVal} {es : GoMap}
    {b : Bytes} (h : encodeBucket cfg prot none (e :: es) = some b) :
    cfg.validate (e :: es) prot = true := by
  have hraw : ∀ b bs, (none : Option Bytes) = some (b :: bs) → False := fun _ _ hr => nomatch hr
  rw [encodeBucket_fresh cfg prot hraw (List.cons_ne_nil e es)] at h
  cases hv : cfg.validate (e :: es) prot with
  | true => rfl
  | false => rw [hv] at h; cases h

/-- … and the encoder emits a non-empty protected map only after the same validation -/
theorem encode_protected_validated (e : GoVal × GoVal) (es : GoMap) (b : Bytes)
    (h : encodeBucket encCfg true none (e :: es) = some b) : validateHeaderParameters (e :: es) true = true :=
  encodeBucket_validated h

theorem encode_unprotected_validated (e : GoVal × GoVal) (es : GoMap) (b : Bytes)
    (h : encodeBucket encCfg false none (e :: es) = some b) : validateHeaderParameters (e :: es) false = true :=
  encodeBucket_validated h

/-- per-parameter rules (checkParam): kid / IV / Partial IV / abbreviated countersignatures are
    byte strings; a typed-nil slice does not count -/
theorem bstr_params (h : GoMap) (prot : Bool) (v : GoVal) :
    (checkParam h prot (.int .i64 4) v = true → ∃ b, v = .bytes b) ∧
    (checkParam h prot (.int .i64 5) v = true → ∃ b, v = .bytes b) ∧
    (checkParam h prot (.int .i64 6) v = true → ∃ b, v = .bytes b) ∧
    (checkParam h prot (.int .i64 9) v = true → (∃ b, v = .bytes b) ∧ prot = false) ∧
    (checkParam h prot (.int .i64 12) v = true → (∃ b, v = .bytes b) ∧ prot = false) := by
  rw [checkParam_4, checkParam_5, checkParam_6, checkParam_9, checkParam_12, Bool.and_eq_true,
    Bool.and_eq_true, Bool.and_eq_true, Bool.not_eq_true', Bool.not_eq_true', Bool.not_eq_true',
    canBstr_iff]
  exact ⟨id, And.left, And.left, And.symm, And.symm⟩

/-- crit only in the protected bucket; countersignature parameters only in the unprotected one -/
theorem bucket_rules (h : GoMap) (v : GoVal) :
    checkParam h false (.int .i64 2) v = false ∧
    checkParam h true (.int .i64 7) v = false ∧ checkParam h true (.int .i64 11) v = false ∧
    checkParam h true (.int .i64 9) v = false ∧ checkParam h true (.int .i64 12) v = false :=
  ⟨rfl, rfl, rfl, rfl, rfl⟩

/-- a countersignature parameter holds countersignature objects: a non-nil pointer or a
    non-empty list of non-nil pointers (`isCountersignatureValue`) -/
theorem csig_value_rule (h : GoMap) (v : GoVal) (hc : checkParam h false (.int .i64 7) v = true) :
    (∃ rp p ru u s, v = .csig rp p ru u s) ∨
    (∃ cs, v = .csigs cs ∧ cs ≠ [] ∧ ∀ c ∈ cs, ∃ rp p ru u s, c = .csig rp p ru u s) := by
  replace hc : isCsigValue v = true := hc
  unfold isCsigValue at hc
  split at hc
  · exact Or.inl ⟨_, _, _, _, _, rfl⟩
  · rename_i cs
    rw [Bool.and_eq_true, Bool.not_eq_true', List.isEmpty_eq_false_iff, List.all_eq_true] at hc
    refine Or.inr ⟨cs, rfl, hc.1, fun c hcm => ?_⟩
    have hcs := hc.2 c hcm
    split at hcs
    · exact ⟨_, _, _, _, _, rfl⟩
    · cases hcs
  · cases hc

/-- crit: a non-empty array of int / tstr labels, each present in the same bucket -/
theorem crit_rule (h : GoMap) (v : GoVal) (hc : checkParam h true (.int .i64 2) v = true) :
    ∃ labels, v = .arr labels ∧ labels ≠ [] ∧
      ∀ l ∈ labels, (canInt l = true ∨ canTstr l = true) ∧ hasLabel h l = true :=
  ensureCritical_iff.mp hc

/-- IV and Partial IV never coexist in one bucket -/
theorem iv_piv_exclusive (h : GoMap) (prot : Bool) (v : GoVal) :
    (checkParam h prot (.int .i64 5) v = true → hasLabel h (lbl 6) = false) ∧
    (checkParam h prot (.int .i64 6) v = true → hasLabel h (lbl 5) = false) := by
  rw [checkParam_5, checkParam_6, Bool.and_eq_true, Bool.and_eq_true, Bool.not_eq_true',
    Bool.not_eq_true']
  exact ⟨And.right, And.right⟩

/-- … nor across the two buckets of one layer -/
theorem iv_piv_cross (p u : GoMap) (h : ensureIV p u = true) :
    ¬ (hasLabel p (lbl 5) = true ∧ hasLabel u (lbl 6) = true) ∧
    ¬ (hasLabel p (lbl 6) = true ∧ hasLabel u (lbl 5) = true) := by
  unfold ensureIV at h
  rw [Bool.not_eq_true', Bool.or_eq_false_iff, Bool.and_eq_false_iff, Bool.and_eq_false_iff] at h
  constructor
  · rintro ⟨h1, h2⟩
    rcases h.1 with h3 | h3
    · rw [h1] at h3; cases h3
    · rw [h2] at h3; cases h3
  · rintro ⟨h1, h2⟩
    rcases h.2 with h3 | h3
    · rw [h1] at h3; cases h3
    · rw [h2] at h3; cases h3

/-- alg is int or tstr -/
theorem alg_rule (h : GoMap) (prot : Bool) (v : GoVal) (hc : checkParam h prot (.int .i64 1) v = true) :
    (∃ a, v = .alg a) ∨ (∃ k n, v = .int k n) ∨ (∃ s, v = .str s) := by
  rw [checkParam_1] at hc
  split at hc
  · exact Or.inl ⟨_, rfl⟩
  · rcases Bool.or_eq_true_iff.mp hc with hi | ht
    · exact Or.inr (Or.inl (canInt_iff.mp hi))
    · obtain ⟨s, hs, _⟩ := canTstr_iff.mp ht
      exact Or.inr (Or.inr ⟨s, hs⟩)

end C13
