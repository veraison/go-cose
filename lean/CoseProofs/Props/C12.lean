/-
  C12 — hash envelopes: only conforming envelopes are produced or accepted (hash_envelope.go).
  Here: what the two entry points check.  The header rules on a decoded envelope are in Deep/Keys,
  the envelope across the wire in Deep/WireClosure and Deep/NestedClosures.
-/
import CoseModel.HashEnvelope
import CoseModel.Generated.Facts
open CoseModel
namespace C12

/-- digest lengths of the known hash algorithms -/
theorem hash_sizes : hashSize (-16) = 32 ∧ hashSize (-43) = 48 ∧ hashSize (-44) = 64 := by decide

/-- a hash value of the wrong length for a known hash algorithm is refused before anything else -/
theorem sign_wrong_length_refused (s : Signer) (h : Hdrs) (p : HashPayload)
    (hk : hashSize p.alg ≠ 0) (hl : hashSize p.alg ≠ blen p.value) :
    (signHashEnvelope s h p).1 = .err .other ∧ (signHashEnvelope s h p).2 = [] := by
  simp [signHashEnvelope, validateHash, hk, hl]

/-- the unprotected bucket of an accepted / produced envelope holds none of 3, 258, 259, 260 -/
theorem unprot_rule : ∀ (u : GoMap), hashUnprotOK u = true →
    ∀ e ∈ u, ∀ n, normalizeLabel e.1 = some (.int .i64 n) → n ≠ 3 ∧ n ≠ 258 ∧ n ≠ 259 ∧ n ≠ 260
  | [], _, e, he, _, _ => by cases he
  | (l, v) :: r, h, e, he, n, hn => by
    unfold hashUnprotOK at h
    rcases List.mem_cons.mp he with rfl | hr
    · -- the head is `e`: each of the four labels makes `hashUnprotOK` false
      simp only at hn
      rw [hn] at h
      refine ⟨?_, ?_, ?_, ?_⟩
      · rintro rfl; cases h
      · rintro rfl; cases h
      · rintro rfl; cases h
      · rintro rfl; cases h
    · have hrest : hashUnprotOK r = true := by
        cases hl : normalizeLabel l with
        | none => simp [hl] at h
        | some nl =>
          rw [hl] at h
          split at h
          · cases h
          · cases h
          · cases h
          · cases h
          · cases h
          · exact h
      exact unprot_rule r hrest e hr n hn

/-- VerifyHashEnvelope returns a message only if the signature verified, the header rules held
    and the digest length matches -/
theorem verify_rules (v : Verifier) (env : Bytes) (m : Sign1Msg)
    (h : (verifyHashEnvelope v env).1 = .ok m) :
    ∃ m0, Sign1.unmarshal true env = .ok m0 ∧ validateHashEnvelopeHeaders m0.h.p m0.h.u = true ∧
      (Sign1.verify m0 none v).1 = .ok () ∧
      ∃ a, payloadHashAlgorithm m0.h.p = .found a ∧ validateHash a m0.payload = true ∧
        m = { m0 with h := { m0.h with p := m0.h.p.set (lbl 258) (.alg a) } } := by
  unfold verifyHashEnvelope at h
  cases hu : Sign1.unmarshal true env with
  | ok m0 =>
    simp only [hu] at h
    by_cases hv : validateHashEnvelopeHeaders m0.h.p m0.h.u = true
    · simp only [hv, Bool.not_true, Bool.false_eq_true, if_false] at h
      cases hver : Sign1.verify m0 none v with
      | mk o calls =>
        simp only [hver] at h
        cases o with
        | ok u =>
          cases u
          dsimp only at h
          cases hp : payloadHashAlgorithm m0.h.p with
          | found a =>
            simp only [hp] at h
            by_cases hh : validateHash a m0.payload = true
            · simp only [hh, if_true] at h
              exact ⟨m0, rfl, hv, by simp [hver], a, hp, hh, by cases h; rfl⟩
            · simp [hh] at h
          | notFound => simp [hp] at h
          | failed e => simp [hp] at h
        | err e => simp at h
        | panic => simp at h
        | unmodelled => simp at h
    · simp [hv] at h
  | err e => simp [hu] at h
  | panic => simp [hu] at h
  | unmodelled => simp [hu] at h

end C12
