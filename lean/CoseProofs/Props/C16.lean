/-
  C16 — ECDSA signatures are fixed-width r‖s and nothing else verifies (ecdsa.go).
  For every byte size n of the group order and all integers r, s (no bound).  The arithmetic of
  `I2OSP` / `OS2IP` and of the two codecs is in Lemmas/Ecdsa, whose theorems are named here for the
  property; what the built-in signer and verifier make of it (`ecdsa_signer_fixed_width`,
  `ecdsa_verifier_strict`, `ecdsa_verify_of_sign`) is in Deep/Signers.
-/
import CoseProofs.Lemmas.Ecdsa
open CoseModel
namespace C16

theorem encode_ok_iff (n : Nat) (r s : Int) :
    (encodeECDSASignature n r s).isSome ↔ (0 ≤ r ∧ r.toNat < 256 ^ n) ∧ (0 ≤ s ∧ s.toNat < 256 ^ n) :=
  CoseModel.encode_ok_iff n r s

/-- every produced signature is exactly 2n bytes: r then s, big-endian, left-padded with zeros -/
theorem encode_fixed_width (n : Nat) (r s : Int) (sig : Bytes) (h : encodeECDSASignature n r s = some sig) :
    sig.length = 2 * n ∧ sig.take n = fillBytes n r.toNat ∧ sig.drop n = fillBytes n s.toNat :=
  CoseModel.encode_fixed_width n r s sig h

theorem halves_denote (n : Nat) (r s : Int) (sig : Bytes) (h : encodeECDSASignature n r s = some sig) :
    os2ip (sig.take n) = r.toNat ∧ os2ip (sig.drop n) = s.toNat :=
  ((CoseModel.decode_eq_some_iff n sig _).mp (CoseModel.decode_encode n r s sig h)).2

theorem decode_strict (n : Nat) (sig : Bytes) :
    (decodeECDSASignature n sig).isSome ↔ sig.length = 2 * n := CoseModel.decode_strict n sig

theorem decode_encode (n : Nat) (r s : Int) (sig : Bytes) (h : encodeECDSASignature n r s = some sig) :
    decodeECDSASignature n sig = some (r.toNat, s.toNat) := CoseModel.decode_encode n r s sig h

/-- every accepted string is the canonical encoding of the pair it denotes: DER, halves with
    stripped or extra leading zeros, or any other length are other strings and are rejected -/
theorem encode_decode (n : Nat) (sig : Bytes) (r s : Nat) (h : decodeECDSASignature n sig = some (r, s)) :
    encodeECDSASignature n (r : Int) (s : Int) = some sig := CoseModel.encode_decode n sig r s h

/-- no two different accepted strings denote the same pair (nothing is "reinterpreted") -/
theorem decode_injective {p : Nat × Nat} (n : Nat) (a b : Bytes)
    (ha : decodeECDSASignature n a = some p) (hb : decodeECDSASignature n b = some p) : a = b :=
  CoseModel.decode_injective n a b ha hb

theorem encode_neg (n : Nat) (r s : Int) (h : r < 0 ∨ s < 0) : encodeECDSASignature n r s = none :=
  CoseModel.encode_neg n r s h

/-- both signing paths (native key, crypto.Signer returning ASN.1) call the same encoder on the
    (r, s) they obtained: equal pairs give equal bytes — trivially, it is one function; what the
    correspondence adds is that both Go paths reach it (ecdsa.go:74, 123). -/
theorem paths_agree (n : Nat) (r s r' s' : Int) (hr : r = r') (hs : s = s') :
    encodeECDSASignature n r s = encodeECDSASignature n r' s' := by subst hr; subst hs; rfl

/-- a wrong-length signature can never be accepted, whatever the key: the decoder fails before
    any cryptographic check -/
theorem wrong_length_rejected (n : Nat) (sig : Bytes) (h : sig.length ≠ 2 * n) :
    decodeECDSASignature n sig = none :=
  Option.not_isSome_iff_eq_none.mp fun hs => h ((decode_strict n sig).mp hs)

example : encodeECDSASignature 2 1 258 = some [0, 1, 1, 2] := by decide
example : decodeECDSASignature 2 [0, 1, 1, 2] = some (1, 258) := by decide
example : decodeECDSASignature 2 [1, 1, 2] = none := by decide

end C16
