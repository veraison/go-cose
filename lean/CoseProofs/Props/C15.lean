/-
  C15 — accepted COSE_Keys are consistent and their restrictions are enforced (key.go).
  Here: what `Key.Signer` / `Key.Verifier` demand of a key (by the characterisations of
  Lemmas/Key) and what `Key.UnmarshalCBOR` has checked when it returns.  The consistency of an
  accepted key in full (`key_accept_consistent`, `accepted_labels`) is in Deep/Keys; that accepted
  keys re-encode stably (`reencode_idempotent`, `accepted_marshals`) in Deep/KeyRoundTrip; that
  they carry no tag (`key_accept_untagged`) in Deep/TagScan.
-/
import CoseProofs.Lemmas.Key
open CoseModel
namespace C15

/-- A key yields a signer only if key_ops (when present) include sign, it has private material,
    and the signer is for the algorithm fixed by the key. -/
theorem signer_gate (k : Key) (a : Int) (h : k.signer = .ok a) :
    k.canOp 1 = true ∧ (k.pbytes (-4)).length ≠ 0 ∧ (k.kty = 2 ∨ k.kty = 1) ∧
    k.deriveAlgorithm = some a ∧ (k.alg = 0 ∨ k.alg = a) := by
  obtain ⟨hc, hv, hd, _⟩ := (Key.signer_eq_ok_iff k a).mp h
  have hkty := Key.kty_of_deriveAlgorithm k a hd
  refine ⟨hc, ?_, hkty, hd, Key.alg_of_validate k .sign a hv hd⟩
  -- private material: validate(sign) rejects an empty d for EC2 and OKP keys
  rcases hkty with h2 | h1
  · exact ((Key.validate_ec2_iff k .sign h2).mp hv).1.2.2.1 rfl
  · exact ((Key.validate_okp_iff k .sign h1).mp hv).1.2.2.1 rfl

/-- A key yields a verifier only if key_ops (when present) include verify, it has the public
    material — for EC2 a point crypto/ecdh accepts —, and the verifier is for the algorithm fixed by
    the key. -/
theorem verifier_gate (k : Key) (oc : Bool) (a : Int) (h : k.verifier oc = .ok a) :
    k.canOp 2 = true ∧ (k.kty = 2 ∨ k.kty = 1) ∧ k.deriveAlgorithm = some a ∧
    (k.alg = 0 ∨ k.alg = a) ∧
    (k.kty = 2 → (k.pbytes (-2)).length ≠ 0 ∧ (k.pbytes (-3)).length ≠ 0 ∧ oc = true) ∧
    (k.kty = 1 → (k.pbytes (-2)).length ≠ 0) := by
  obtain ⟨hc, hv, hd, hoc⟩ := (Key.verifier_eq_ok_iff k oc a).mp h
  refine ⟨hc, Key.kty_of_deriveAlgorithm k a hd, hd, Key.alg_of_validate k .verify a hv hd,
    fun h2 => ?_, fun h1 => ?_⟩
  · obtain ⟨hx, hy⟩ := ((Key.validate_ec2_iff k .verify h2).mp hv).1.2.1 rfl
    exact ⟨hx, hy, hoc.resolve_left (Key.deriveAlgorithm_ec2_ne_eddsa k a h2 hd)⟩
  · exact ((Key.validate_okp_iff k .verify h1).mp hv).1.2.1 rfl

/-- never for a symmetric or unsupported key type -/
theorem never_symmetric_or_unsupported (k : Key) (h : k.kty ≠ 1 ∧ k.kty ≠ 2) :
    (∀ a, k.signer ≠ .ok a) ∧ (∀ a oc, k.verifier oc ≠ .ok a) := by
  have hn : ∀ a, k.deriveAlgorithm ≠ some a := fun a hd => by
    have := Key.kty_of_deriveAlgorithm k a hd
    omega
  exact ⟨fun a hc => hn a ((Key.signer_eq_ok_iff k a).mp hc).2.2.1,
    fun a oc hc => hn a ((Key.verifier_eq_ok_iff k oc a).mp hc).2.2.1⟩

theorem canOp_of_not_mem (k : Key) (ops : List Int) (n : Int) (h : k.ops = some ops) (hn : n ∉ ops) :
    k.canOp n = false := by
  simp only [Key.canOp, h, List.any_eq_false, decide_eq_true_eq]
  intro x hx he
  exact hn (he ▸ hx)

/-- key_ops present without `sign`: no signer; without `verify`: no verifier -/
theorem ops_restrict (k : Key) (ops : List Int) (h : k.ops = some ops) :
    (1 ∉ ops → k.signer = .error .opNotSupported) ∧
    (2 ∉ ops → ∀ oc, k.verifier oc = .error .opNotSupported) := by
  constructor
  · intro hn
    simp [Key.signer, canOp_of_not_mem k ops 1 h hn]
  · intro hn oc
    simp [Key.verifier, canOp_of_not_mem k ops 2 h hn]

/-- in particular an empty key_ops array lifts nothing: no operation is permitted -/
theorem empty_ops_permit_nothing (k : Key) (h : k.ops = some []) :
    k.signer = .error .opNotSupported ∧ ∀ oc, k.verifier oc = .error .opNotSupported :=
  ⟨(ops_restrict k [] h).1 (by simp), (ops_restrict k [] h).2 (by simp)⟩

/-- every accepted key has a non-reserved key type -/
theorem accepted_kty_nonzero (tmp : GoMap) (k : Key) (h : Key.ofMap tmp = .ok k) : k.kty ≠ 0 :=
  (Key.ofMap_inv tmp k h).2.1

end C15
