/-
  C17 — built-in signers / verifiers exist only for matching, adequate keys (`NewSigner`
  signer.go:54, `NewVerifier` verifier.go:45), with the documented error classes, and report the
  requested algorithm.  `keyFits` is the specification the two tables are compared with.
  The digest equivalence (Sign = SignDigest ∘ hash; ecdsa.go:56, 95, rsa.go:27) and what the
  built-in objects do with a digest (`*_sign_eq_signDigest`, `*_verifyDigest_iff`) are in
  Deep/Signers.
-/
import CoseModel.HashEnvelope
open CoseModel
namespace C17

def keyFits (alg : Int) (verifier : Bool) : KeyKind → Bool
  | .rsa bits => familyOf alg = .rsaPss && bits ≥ 2048
  | .ecdsa ok => familyOf alg = .ecdsa && (!verifier || ok)
  | .ed25519 => familyOf alg = .eddsa
  | .foreign => false

theorem familyOf_eddsa {alg : Int} (h : familyOf alg = .eddsa) : alg = -8 := by
  unfold familyOf at h
  split at h
  · cases h
  · split at h
    · cases h
    · split at h
      · assumption
      · cases h

/-- the tables of `NewSigner` and `NewVerifier` against that of `keyFits`, row by row (they differ
    in the ECDSA row, where the verifier asks `crypto/ecdh` about the point): the two rows that
    are not immediate are the RSA size check and EdDSA, where the constant returned is the only
    algorithm of the family -/
theorem new_eq_ok (alg a : Int) (k : KeyKind) :
    (newSigner alg k = .ok a ↔ keyFits alg false k = true ∧ a = alg) ∧
    (newVerifier alg k = .ok a ↔ keyFits alg true k = true ∧ a = alg) := by
  unfold newSigner newVerifier keyFits
  cases hf : familyOf alg <;> rcases k with bits | (_ | _) | _ | _ <;> simp [eq_comm]
  case rsaPss.rsa =>
    by_cases hb : bits < 2048
    · simp [hb, Nat.not_le.mpr hb]
    · simp [hb, Nat.le_of_not_lt hb, eq_comm]
  case eddsa.ed25519 =>
    rw [familyOf_eddsa hf]
    exact eq_comm

/-- NewSigner succeeds exactly for a key of the algorithm's family (RSA ≥ 2048 bits) -/
theorem newSigner_iff (alg : Int) (k : KeyKind) :
    (∃ a, newSigner alg k = .ok a) ↔ keyFits alg false k = true := by
  simp [new_eq_ok]

/-- NewVerifier additionally demands a point crypto/ecdh accepts -/
theorem newVerifier_iff (alg : Int) (k : KeyKind) :
    (∃ a, newVerifier alg k = .ok a) ↔ keyFits alg true k = true := by
  simp [new_eq_ok]

/-- the returned object reports the requested algorithm -/
theorem reports_requested_alg (alg a : Int) (k : KeyKind) :
    (newSigner alg k = .ok a → a = alg) ∧ (newVerifier alg k = .ok a → a = alg) :=
  ⟨fun h => ((new_eq_ok alg a k).1.mp h).2, fun h => ((new_eq_ok alg a k).2.mp h).2⟩

/-- reserved (0), RS256/384/512 and every unknown id: "algorithm not supported", whatever the key -/
theorem unsupported_alg (alg : Int) (k : KeyKind) (h : familyOf alg = .none) :
    newSigner alg k = .error .algNotSupported ∧ newVerifier alg k = .error .algNotSupported := by
  unfold newSigner newVerifier
  rw [h]
  exact ⟨rfl, rfl⟩

theorem reserved_and_rs_unsupported :
    familyOf 0 = .none ∧ familyOf (-257) = .none ∧ familyOf (-258) = .none ∧ familyOf (-259) = .none := by decide

/-- exactly the seven built-in ids have a family -/
theorem family_iff (alg : Int) :
    familyOf alg ≠ .none ↔ alg = -37 ∨ alg = -38 ∨ alg = -39 ∨ alg = -7 ∨ alg = -35 ∨ alg = -36 ∨ alg = -8 := by
  unfold familyOf
  constructor
  · intro h
    refine Decidable.byContradiction fun hn => h ?_
    rw [if_neg (by omega), if_neg (by omega), if_neg (by omega)]
  · rintro (h | h | h | h | h | h | h) <;> subst h <;> decide

/-- a key of another family is "invalid public key" -/
theorem wrong_family (alg : Int) (k : KeyKind) (hf : familyOf alg ≠ .none)
    (hk : ∀ bits, k ≠ .rsa bits ∨ familyOf alg ≠ .rsaPss) (hfit : keyFits alg false k = false) :
    newSigner alg k = .error .invalidPub := by
  unfold newSigner
  cases hfam : familyOf alg with
  | none => exact absurd hfam hf
  | rsaPss =>
    cases k with
    | rsa bits => exact (hk bits).elim (absurd rfl) (absurd hfam)
    | ecdsa ok => rfl
    | ed25519 => rfl
    | foreign => rfl
  | ecdsa =>
    cases k with
    | ecdsa ok => simp [keyFits, hfam] at hfit
    | rsa bits => rfl
    | ed25519 => rfl
    | foreign => rfl
  | eddsa =>
    cases k with
    | ed25519 => simp [keyFits, hfam] at hfit
    | rsa bits => rfl
    | ecdsa ok => rfl
    | foreign => rfl

theorem short_rsa_refused (alg : Int) (bits : Nat) (h : bits < 2048) :
    (∀ a, newSigner alg (.rsa bits) ≠ .ok a) ∧ (∀ a, newVerifier alg (.rsa bits) ≠ .ok a) := by
  constructor <;> intro a hc
  · have := (newSigner_iff alg (.rsa bits)).mp ⟨a, hc⟩
    simp [keyFits] at this; omega
  · have := (newVerifier_iff alg (.rsa bits)).mp ⟨a, hc⟩
    simp [keyFits] at this; omega

example : newSigner (-37) (.rsa 2048) = .ok (-37) := by rfl
example : newSigner (-37) (.rsa 2047) = .error .other := by rfl
example : newVerifier (-7) (.ecdsa false) = .error .invalidPub := by rfl

end C17
