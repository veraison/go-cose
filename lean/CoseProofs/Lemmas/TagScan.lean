/-
  CoseProofs.Lemmas.TagScan — the byte-level scan for tag 55799 (`CoseModel.TagScan`, the
  transcription of `headArgument`, `scanSelfDescribedTag`, `typeCheckedHeaderLabel` and
  `ensureUntaggedHeaderLabels` of headers.go) computes, on the bytes of a well-formed wire tree,
  the structural predicates `Wire.hasSelfDescribed` / `Wire.pairsUntagged`.
-/
import CoseModel.TagScan
import CoseProofs.Lemmas.Parse
namespace CoseModel

theorem byteAt_cons (pre : Bytes) (b : UInt8) (l : Bytes) :
    byteAt (pre ++ b :: l).toArray pre.length = b.toNat := by
  simp [byteAt]

theorem size_pre (pre l : Bytes) : (pre ++ l).toArray.size = pre.length + l.length := by simp

theorem shl8_or (n b : Nat) (h : b < 256) : n <<< 8 ||| b = b + 256 * n := by
  rw [← Nat.shiftLeft_add_eq_or_of_lt (by simpa using h), Nat.shiftLeft_eq]
  omega

/-- the loop of `headArgument` reads a big-endian number -/
theorem beArgument_at (bs pre post acc : Bytes) :
    beArgument (pre ++ (bs ++ post)).toArray bs.length pre.length (leVal acc)
      = leVal (bs.reverse ++ acc) := by
  induction bs generalizing pre acc with
  | nil => rfl
  | cons b r ih =>
    have h := ih (pre ++ [b]) (b :: acc)
    rw [List.append_assoc, List.length_append] at h
    rw [List.length_cons, beArgument, List.cons_append, byteAt_cons, shl8_or _ _ b.toNat_lt,
      List.reverse_cons, List.append_assoc]
    exact h

theorem beArgument_be (bs pre post : Bytes) :
    beArgument (pre ++ (bs ++ post)).toArray bs.length pre.length 0 = beVal bs := by
  have := beArgument_at bs pre post []
  rwa [List.append_nil] at this

theorem HW.ai_be {w : HW} (hw : w ≠ .imm) : 24 ≤ w.ai ∧ w.ai ≤ 27 ∧ 1 <<< (w.ai - 24) = w.len := by
  cases w with
  | imm => exact absurd rfl hw
  | w1 | w2 | w4 | w8 => decide


theorem headArgumentA_imm {D : Array UInt8} {off : Nat} (h : off < D.size)
    (hai : byteAt D off % 32 < 24) : headArgumentA D off = (byteAt D off % 32, off + 1) := by
  simp only [headArgumentA, if_neg (Nat.not_le.mpr h), if_pos hai]

theorem headArgumentA_be {D : Array UInt8} {off : Nat} {w : HW} (hw : w ≠ .imm)
    (hai : byteAt D off % 32 = w.ai) (hsz : off + 1 + w.len ≤ D.size) :
    headArgumentA D off = (beArgument D w.len (off + 1) 0, off + 1 + w.len) := by
  obtain ⟨h24, h27, hlen⟩ := HW.ai_be hw
  simp only [headArgumentA, hai, hlen, if_neg (Nat.not_le.mpr (show off < D.size by omega)),
    if_neg (Nat.not_lt.mpr h24), if_pos h27, if_neg (Nat.not_lt.mpr hsz)]

/-- the head of an item, read where it stands in a larger byte string -/
theorem head_at (pre rest : Bytes) (m n : Nat) (w : HW) (hm : m < 8) (hf : w.fits n = true) :
    byteAt (pre ++ (headBytes m w n ++ rest)).toArray pre.length / 32 = m ∧
    headArgumentA (pre ++ (headBytes m w n ++ rest)).toArray pre.length
      = (n, pre.length + (headBytes m w n).length) := by
  by_cases hw : w = .imm
  · subst hw
    have hn : n < 24 := of_decide_eq_true hf
    obtain ⟨h1, h2⟩ := initialByte m n hm (by omega)
    rw [headBytes, List.cons_append, List.nil_append,
      headArgumentA_imm (by rw [size_pre, List.length_cons]; omega) (by rw [byteAt_cons, h2]; exact hn),
      byteAt_cons, h1, h2]
    exact ⟨rfl, rfl⟩
  · obtain ⟨h1, h2⟩ := initialByte m w.ai hm w.ai_lt
    have hbe := beArgument_be (beBytes w.len n) (pre ++ [UInt8.ofNat (m * 32 + w.ai)]) rest
    rw [beBytes_length, List.length_append, List.append_assoc] at hbe
    rw [headBytes_be m n hw, List.cons_append,
      headArgumentA_be hw (by rw [byteAt_cons, h2])
        (by rw [size_pre, List.length_cons, List.length_append, beBytes_length]; omega),
      byteAt_cons, h1, List.length_cons, beBytes_length]
    refine ⟨rfl, ?_⟩
    rw [Nat.add_assoc, Nat.add_comm 1]
    exact congrArg (·, _) (hbe.trans (beVal_beBytes ((HW.fits_iff hw).mp hf)))

/-- one step of the scan, standing on the head of an item -/
theorem scanA_head (pre rest : Bytes) (m n : Nat) (w : HW) (hm : m < 8) (hf : w.fits n = true)
    (fuel : Nat) :
    scanA (pre ++ (headBytes m w n ++ rest)).toArray (fuel + 1) pre.length =
      (if m = 2 ∨ m = 3 then
         (if n > (pre ++ (headBytes m w n ++ rest)).toArray.size
                  - (pre.length + (headBytes m w n).length)
          then ((pre ++ (headBytes m w n ++ rest)).toArray.size, false)
          else (pre.length + (headBytes m w n).length + n, false))
       else if m = 4 ∨ m = 5 then
         scanLoop (scanA (pre ++ (headBytes m w n ++ rest)).toArray fuel)
           (pre ++ (headBytes m w n ++ rest)).toArray.size
           (if m = 5 then n * 2 % 18446744073709551616 else n)
           (pre.length + (headBytes m w n).length) false
       else if m = 6 then
         ((scanA (pre ++ (headBytes m w n ++ rest)).toArray fuel
            (pre.length + (headBytes m w n).length)).1,
          (scanA (pre ++ (headBytes m w n ++ rest)).toArray fuel
            (pre.length + (headBytes m w n).length)).2 || n == 55799)
       else (pre.length + (headBytes m w n).length, false)) := by
  obtain ⟨h1, h2⟩ := head_at pre rest m n w hm hf
  have hpos := headBytes_length_pos m w n
  have hlt : ¬ (pre.length ≥ (pre ++ (headBytes m w n ++ rest)).toArray.size) := by
    simp only [size_pre, List.length_append]; omega
  simp only [scanA, h1, h2, if_neg hlt]

/-- an item that is its head alone (major types 0, 1, 7) -/
theorem scanA_leaf (pre post : Bytes) {m : Nat} (n : Nat) (w : HW) (hm : m = 0 ∨ m = 1 ∨ m = 7)
    (hf : w.fits n = true) (fuel : Nat) :
    scanA (pre ++ (headBytes m w n ++ post)).toArray (fuel + 1) pre.length
      = (pre.length + (headBytes m w n).length, false) := by
  rw [scanA_head pre post m n w (by omega) hf, if_neg (by omega), if_neg (by omega),
    if_neg (by omega)]

/-- a byte or text string: the scan steps over head and payload -/
theorem scanA_str (pre post b : Bytes) {m : Nat} (w : HW) (hm : m = 2 ∨ m = 3)
    (hf : w.fits b.length = true) (fuel : Nat) :
    scanA (pre ++ ((headBytes m w b.length ++ b) ++ post)).toArray (fuel + 1) pre.length
      = (pre.length + (headBytes m w b.length ++ b).length, false) := by
  rw [List.append_assoc, scanA_head pre (b ++ post) m b.length w (by omega) hf, if_pos hm,
    if_neg (by simp only [size_pre, List.length_append]; omega), List.length_append, Nat.add_assoc]

theorem Wire.bytes_length_pos (w : Wire) : 1 ≤ w.bytes.length := by
  have := w.size_pos
  have := w.size_le_length
  omega

/-! ### the scan of a well-formed item, wherever it stands -/

mutual
theorem scanA_wire : ∀ (w : Wire) (t : Bool) (d : Nat) (pre post : Bytes) (fuel : Nat),
    w.wf = true → w.inLimits t d = true → w.bytes.length ≤ fuel →
    scanA (pre ++ (w.bytes ++ post)).toArray fuel pre.length
      = (pre.length + w.bytes.length, w.hasSelfDescribed)
  | w, _, _, _, _, 0, _, _, hfu => by have := w.bytes_length_pos; omega
  | .uint hw n, _, _, pre, post, fuel + 1, hwf, _, _ =>
    scanA_leaf pre post (m := 0) n hw (.inl rfl) hwf fuel
  | .nint hw n, _, _, pre, post, fuel + 1, hwf, _, _ =>
    scanA_leaf pre post (m := 1) n hw (.inr (.inl rfl)) hwf fuel
  | .prim hw n, _, _, pre, post, fuel + 1, hwf, _, _ =>
    scanA_leaf pre post (m := 7) n hw (.inr (.inr rfl)) (Wire.wf_prim hwf) fuel
  | .bstr hw b, _, _, pre, post, fuel + 1, hwf, _, _ =>
    scanA_str pre post b (m := 2) hw (.inl rfl) hwf fuel
  | .tstr hw b, _, _, pre, post, fuel + 1, hwf, _, _ =>
    scanA_str pre post b (m := 3) hw (.inr rfl) hwf fuel
  | .tag hw n x, t, d, pre, post, fuel + 1, hwf, hl, hfu => by
    simp only [Wire.wf, Bool.and_eq_true] at hwf
    simp only [Wire.inLimits, Bool.and_eq_true] at hl
    simp only [Wire.bytes, List.length_append] at hfu
    have hpos := headBytes_length_pos 6 hw n
    simp only [Wire.bytes, Wire.hasSelfDescribed, List.append_assoc]
    rw [scanA_head pre (x.bytes ++ post) 6 n hw (by omega) hwf.1]
    have hD : pre ++ (headBytes 6 hw n ++ (x.bytes ++ post))
        = (pre ++ headBytes 6 hw n) ++ (x.bytes ++ post) := by simp
    have ih := scanA_wire x t _ (pre ++ headBytes 6 hw n) post fuel hwf.2 hl.2.2 (by omega)
    rw [hD, ← List.length_append, ih]
    simp [Nat.add_assoc]
  | .arr hw xs, t, d, pre, post, fuel + 1, hwf, hl, hfu => by
    simp only [Wire.wf, Bool.and_eq_true] at hwf
    simp only [Wire.inLimits, Bool.and_eq_true] at hl
    simp only [Wire.bytes, List.length_append] at hfu
    have hpos := headBytes_length_pos 4 hw xs.length
    simp only [Wire.bytes, Wire.hasSelfDescribed, List.append_assoc]
    rw [scanA_head pre (Wire.bytesList xs ++ post) 4 xs.length hw (by omega) hwf.1]
    have hD : pre ++ (headBytes 4 hw xs.length ++ (Wire.bytesList xs ++ post))
        = (pre ++ headBytes 4 hw xs.length) ++ (Wire.bytesList xs ++ post) := by simp
    have ih := scanLoop_list xs t _ (pre ++ headBytes 4 hw xs.length) post fuel false hwf.2 hl.2
      (by omega)
    rw [hD, ← List.length_append]
    simp only [show ¬ ((4 : Nat) = 2 ∨ (4 : Nat) = 3) by omega,
      show ¬ ((4 : Nat) = 5) by omega, if_false, ih]
    simp [Nat.add_assoc]
  | .map hw kvs, t, d, pre, post, fuel + 1, hwf, hl, hfu => by
    simp only [Wire.wf, Bool.and_eq_true] at hwf
    simp only [Wire.inLimits, Bool.and_eq_true, decide_eq_true_eq] at hl
    simp only [Wire.bytes, List.length_append] at hfu
    have hpos := headBytes_length_pos 5 hw kvs.length
    simp only [Wire.bytes, Wire.hasSelfDescribed, List.append_assoc]
    rw [scanA_head pre (Wire.bytesPairs kvs ++ post) 5 kvs.length hw (by omega) hwf.1]
    have hD : pre ++ (headBytes 5 hw kvs.length ++ (Wire.bytesPairs kvs ++ post))
        = (pre ++ headBytes 5 hw kvs.length) ++ (Wire.bytesPairs kvs ++ post) := by simp
    have ih := scanLoop_pairs kvs t _ (pre ++ headBytes 5 hw kvs.length) post fuel false hwf.2 hl.2
      (by omega)
    have hn : kvs.length * 2 % 18446744073709551616 = 2 * kvs.length := by
      have := hl.1.2
      simp only [maxElems] at this
      omega
    rw [hD, ← List.length_append]
    simp only [show ¬ ((5 : Nat) = 2 ∨ (5 : Nat) = 3) by omega,
      if_true, if_false, hn, ih]
    simp [Nat.add_assoc]
theorem scanLoop_list : ∀ (xs : List Wire) (t : Bool) (d : Nat) (pre post : Bytes) (fuel : Nat)
    (found : Bool),
    Wire.wfList xs = true → Wire.inLimitsList t d xs = true → (Wire.bytesList xs).length ≤ fuel →
    scanLoop (scanA (pre ++ (Wire.bytesList xs ++ post)).toArray fuel)
      (pre ++ (Wire.bytesList xs ++ post)).toArray.size xs.length pre.length found
      = (pre.length + (Wire.bytesList xs).length, found || Wire.hasSelfDescribedList xs)
  | [], _, _, pre, post, fuel, found, _, _, _ => by
    simp [scanLoop, Wire.bytesList, Wire.hasSelfDescribedList]
  | x :: xs, t, d, pre, post, fuel, found, hwf, hl, hfu => by
    simp only [Wire.wfList, Bool.and_eq_true] at hwf
    simp only [Wire.inLimitsList, Bool.and_eq_true] at hl
    simp only [Wire.bytesList, List.length_append] at hfu
    have hpos := x.bytes_length_pos
    have h1 := scanA_wire x t d pre (Wire.bytesList xs ++ post) fuel hwf.1 hl.1 (by omega)
    have h2 := scanLoop_list xs t d (pre ++ x.bytes) post fuel (found || x.hasSelfDescribed)
      hwf.2 hl.2 (by omega)
    have hD : pre ++ (x.bytes ++ (Wire.bytesList xs ++ post))
        = (pre ++ x.bytes) ++ (Wire.bytesList xs ++ post) := by simp
    simp only [Wire.bytesList, Wire.hasSelfDescribedList, List.append_assoc, List.length_cons,
      scanLoop]
    rw [if_pos (by simp only [size_pre, List.length_append]; omega), h1]
    dsimp only
    rw [hD, ← List.length_append, h2]
    simp [Nat.add_assoc, Bool.or_assoc]
theorem scanLoop_pairs : ∀ (kvs : List (Wire × Wire)) (t : Bool) (d : Nat) (pre post : Bytes)
    (fuel : Nat) (found : Bool),
    Wire.wfPairs kvs = true → Wire.inLimitsPairs t d kvs = true →
    (Wire.bytesPairs kvs).length ≤ fuel →
    scanLoop (scanA (pre ++ (Wire.bytesPairs kvs ++ post)).toArray fuel)
      (pre ++ (Wire.bytesPairs kvs ++ post)).toArray.size (2 * kvs.length) pre.length found
      = (pre.length + (Wire.bytesPairs kvs).length, found || Wire.hasSelfDescribedPairs kvs)
  | [], _, _, pre, post, fuel, found, _, _, _ => by
    simp [scanLoop, Wire.bytesPairs, Wire.hasSelfDescribedPairs]
  | (k, v) :: r, t, d, pre, post, fuel, found, hwf, hl, hfu => by
    simp only [Wire.wfPairs, Bool.and_eq_true] at hwf
    simp only [Wire.inLimitsPairs, Bool.and_eq_true] at hl
    simp only [Wire.bytesPairs, List.length_append] at hfu
    have hposk := k.bytes_length_pos
    have hposv := v.bytes_length_pos
    have h1 := scanA_wire k t d pre (v.bytes ++ (Wire.bytesPairs r ++ post)) fuel hwf.1.1 hl.1.1
      (by omega)
    have h2 := scanA_wire v t d (pre ++ k.bytes) (Wire.bytesPairs r ++ post) fuel hwf.1.2 hl.1.2
      (by omega)
    have h3 := scanLoop_pairs r t d (pre ++ k.bytes ++ v.bytes) post fuel
      (found || k.hasSelfDescribed || v.hasSelfDescribed) hwf.2 hl.2 (by omega)
    have hD1 : pre ++ (k.bytes ++ (v.bytes ++ (Wire.bytesPairs r ++ post)))
        = (pre ++ k.bytes) ++ (v.bytes ++ (Wire.bytesPairs r ++ post)) := by simp
    have hD2 : (pre ++ k.bytes) ++ (v.bytes ++ (Wire.bytesPairs r ++ post))
        = (pre ++ k.bytes ++ v.bytes) ++ (Wire.bytesPairs r ++ post) := by simp
    have hn : 2 * ((k, v) :: r).length = 2 * r.length + 1 + 1 := by simp only [List.length_cons]; omega
    rw [hn]
    simp only [Wire.bytesPairs, Wire.hasSelfDescribedPairs, List.append_assoc, scanLoop]
    rw [if_pos (by simp only [size_pre, List.length_append]; omega), h1]
    dsimp only
    rw [if_pos (by simp only [size_pre, List.length_append]; omega)]
    rw [hD1, ← List.length_append, h2]
    dsimp only
    rw [hD2, ← List.length_append, h3]
    simp [Nat.add_assoc, Bool.or_assoc]
end

/-! ### the loop of `ensureUntaggedHeaderLabels` -/

theorem Wire.labelChecked_none (k : Wire) : k.labelChecked none = true := by
  cases k <;> simp [Wire.labelChecked]

/-- what the loop of `ensureUntaggedHeaderLabels` reads off the head of a label -/
theorem labelCond_at (k : Wire) (pre rest : Bytes) (f : Nat → Bool) (hwf : k.wf = true) :
    (decide (byteAt (pre ++ (k.bytes ++ rest)).toArray pre.length / 32 = 0)
      && f (headArgumentA (pre ++ (k.bytes ++ rest)).toArray pre.length).1)
      = k.labelChecked (some f) := by
  cases k with
  | uint hw n =>
    rw [Wire.wf] at hwf
    obtain ⟨h1, h2⟩ := head_at pre rest 0 n hw (by decide) hwf
    rw [Wire.bytes, h1, h2]
    rfl
  | _ =>
    obtain ⟨hw, n, tl, hb, hf⟩ := Wire.bytes_head hwf
    rw [hb, List.append_assoc, (head_at pre (tl ++ rest) _ n hw (Wire.major_lt _) hf).1]
    rfl

theorem ensureLoop_pairs : ∀ (kvs : List (Wire × Wire)) (t : Bool) (d : Nat) (pre post : Bytes)
    (c : Option (Nat → Bool)),
    Wire.wfPairs kvs = true → Wire.inLimitsPairs t d kvs = true →
    ensureLoop (pre ++ (Wire.bytesPairs kvs ++ post)).toArray c kvs.length pre.length
      = Wire.pairsUntagged c kvs
  | [], _, _, _, _, _, _, _ => by simp [ensureLoop, Wire.pairsUntagged]
  | (k, v) :: r, t, d, pre, post, c, hwf, hl => by
    simp only [Wire.wfPairs, Bool.and_eq_true] at hwf
    simp only [Wire.inLimitsPairs, Bool.and_eq_true] at hl
    have hposk := k.bytes_length_pos
    have hposv := v.bytes_length_pos
    have h1 := scanA_wire k t d pre (v.bytes ++ (Wire.bytesPairs r ++ post))
      (pre ++ (k.bytes ++ (v.bytes ++ (Wire.bytesPairs r ++ post)))).toArray.size hwf.1.1 hl.1.1
      (by simp only [size_pre, List.length_append]; omega)
    have h2 := scanA_wire v t d (pre ++ k.bytes) (Wire.bytesPairs r ++ post)
      ((pre ++ k.bytes) ++ (v.bytes ++ (Wire.bytesPairs r ++ post))).toArray.size hwf.1.2 hl.1.2
      (by simp only [size_pre, List.length_append]; omega)
    have h3 := ensureLoop_pairs r t d (pre ++ k.bytes ++ v.bytes) post c hwf.2 hl.2
    have hD1 : pre ++ (k.bytes ++ (v.bytes ++ (Wire.bytesPairs r ++ post)))
        = (pre ++ k.bytes) ++ (v.bytes ++ (Wire.bytesPairs r ++ post)) := by simp
    have hD2 : (pre ++ k.bytes) ++ (v.bytes ++ (Wire.bytesPairs r ++ post))
        = (pre ++ k.bytes ++ v.bytes) ++ (Wire.bytesPairs r ++ post) := by simp
    cases c with
    | none =>
      simp only [Wire.bytesPairs, Wire.pairsUntagged, List.append_assoc, List.length_cons, ensureLoop]
      rw [if_pos (by simp only [size_pre, List.length_append]; omega), h1]
      simp only [Wire.labelChecked_none]
      rw [hD1, ← List.length_append, h2]
      dsimp only
      rw [hD2, ← List.length_append, h3]
      cases k.hasSelfDescribed <;> cases v.hasSelfDescribed <;> simp
    | some f =>
      have hc := labelCond_at k pre (v.bytes ++ (Wire.bytesPairs r ++ post)) f hwf.1.1
      simp only [Wire.bytesPairs, Wire.pairsUntagged, List.append_assoc, List.length_cons, ensureLoop]
      rw [if_pos (by simp only [size_pre, List.length_append]; omega), h1]
      simp only [hc]
      rw [hD1, ← List.length_append, h2]
      dsimp only
      rw [hD2, ← List.length_append, h3]
      cases k.hasSelfDescribed <;> cases v.hasSelfDescribed <;> cases k.labelChecked (some f) <;> simp

/-! ### the statements over `Bytes` -/

/-- the scan started on a well-formed item inside a larger byte string
    ends just past the item and reports whether tag 55799 occurs in it -/
theorem scanSelfDescribedTag_at {w : Wire} {t : Bool} {d : Nat} (pre post : Bytes)
    (hwf : w.wf = true) (hl : w.inLimits t d = true) :
    scanSelfDescribedTag (pre ++ (w.bytes ++ post)) pre.length
      = (pre.length + w.bytes.length, w.hasSelfDescribed) := by
  unfold scanSelfDescribedTag
  exact scanA_wire w t d pre post _ hwf hl (by simp only [List.length_append]; omega)

theorem scanSelfDescribedTag_bytes {w : Wire} {t : Bool} {d : Nat}
    (hwf : w.wf = true) (hl : w.inLimits t d = true) :
    scanSelfDescribedTag w.bytes 0 = (w.bytes.length, w.hasSelfDescribed) := by
  have := scanSelfDescribedTag_at (w := w) [] [] hwf hl
  simpa using this

/-- `ensureUntaggedHeaderLabels` on the bytes of a well-formed map -/
theorem ensureUntagged_map_bytes {hw : HW} {kvs : List (Wire × Wire)} {t : Bool} {d : Nat}
    (c : Option (Nat → Bool))
    (hwf : (Wire.map hw kvs).wf = true) (hl : (Wire.map hw kvs).inLimits t d = true) :
    ensureUntaggedHeaderLabels (Wire.map hw kvs).bytes c = Wire.pairsUntagged c kvs := by
  simp only [Wire.wf, Bool.and_eq_true] at hwf
  simp only [Wire.inLimits, Bool.and_eq_true] at hl
  obtain ⟨h1, h2⟩ := head_at [] (Wire.bytesPairs kvs) 5 kvs.length hw (by omega) hwf.1
  have hpos := headBytes_length_pos 5 hw kvs.length
  have h3 := ensureLoop_pairs kvs t (d + 1) (headBytes 5 hw kvs.length) [] c hwf.2 hl.2
  simp only [List.nil_append, List.length_nil, Nat.zero_add, List.append_nil] at h1 h2 h3
  unfold ensureUntaggedHeaderLabels ensureUntaggedA
  simp only [Wire.bytes, h1, h2, h3]
  rw [if_neg]
  simp only [List.size_toArray, List.length_append]
  omega

/-- on the bytes of a well-formed item that is not a map the whole item is scanned -/
theorem ensureUntagged_nonmap_bytes {w : Wire} {t : Bool} {d : Nat} (c : Option (Nat → Bool))
    (hm : w.major ≠ 5) (hwf : w.wf = true) (hl : w.inLimits t d = true) :
    ensureUntaggedHeaderLabels w.bytes c = !w.hasSelfDescribed := by
  have hs := scanSelfDescribedTag_bytes hwf hl
  unfold scanSelfDescribedTag at hs
  unfold ensureUntaggedHeaderLabels ensureUntaggedA
  obtain ⟨b0, tl, hb, hmaj⟩ := Wire.bytes_major hwf
  have hmaj : byteAt w.bytes.toArray 0 / 32 = w.major := by
    rw [hb, ← hmaj]
    exact congrArg (· / 32) (byteAt_cons [] b0 tl)
  rw [if_pos (Or.inr (by rw [hmaj]; exact hm))]
  simp only [List.size_toArray, hs]

mutual
theorem Wire.hasSelfDescribed_of_noTag : ∀ (w : Wire), w.hasTag = false → w.hasSelfDescribed = false
  | .uint .., _ => rfl
  | .nint .., _ => rfl
  | .bstr .., _ => rfl
  | .tstr .., _ => rfl
  | .prim .., _ => rfl
  | .tag .., h => by simp [Wire.hasTag] at h
  | .arr _ xs, h => by
    simp only [Wire.hasTag] at h
    simpa only [Wire.hasSelfDescribed] using Wire.hasSelfDescribedList_of_noTag xs h
  | .map _ kvs, h => by
    simp only [Wire.hasTag] at h
    simpa only [Wire.hasSelfDescribed] using Wire.hasSelfDescribedPairs_of_noTag kvs h
theorem Wire.hasSelfDescribedList_of_noTag : ∀ (xs : List Wire), Wire.hasTagList xs = false →
    Wire.hasSelfDescribedList xs = false
  | [], _ => rfl
  | x :: xs, h => by
    simp only [Wire.hasTagList, Bool.or_eq_false_iff] at h
    simp only [Wire.hasSelfDescribedList, Wire.hasSelfDescribed_of_noTag x h.1,
      Wire.hasSelfDescribedList_of_noTag xs h.2, Bool.or_self]
theorem Wire.hasSelfDescribedPairs_of_noTag : ∀ (kvs : List (Wire × Wire)),
    Wire.hasTagPairs kvs = false → Wire.hasSelfDescribedPairs kvs = false
  | [], _ => rfl
  | (k, v) :: r, h => by
    simp only [Wire.hasTagPairs, Bool.or_eq_false_iff] at h
    simp only [Wire.hasSelfDescribedPairs, Wire.hasSelfDescribed_of_noTag k h.1.1,
      Wire.hasSelfDescribed_of_noTag v h.1.2, Wire.hasSelfDescribedPairs_of_noTag r h.2,
      Bool.or_self]
end

/-- a map without tag 55799 anywhere passes, whatever the table of checked labels -/
theorem Wire.pairsUntagged_of_noSelfDescribed (c : Option (Nat → Bool)) :
    ∀ (kvs : List (Wire × Wire)), Wire.hasSelfDescribedPairs kvs = false →
      Wire.pairsUntagged c kvs = true
  | [], _ => rfl
  | (k, v) :: r, h => by
    simp only [Wire.hasSelfDescribedPairs, Bool.or_eq_false_iff] at h
    simp [Wire.pairsUntagged, h.1.1, h.1.2, Wire.pairsUntagged_of_noSelfDescribed c r h.2]

/-- the scan lets through the bytes of a tag-free well-formed tree within the limits (e.g. a
    bucket inside an envelope that was checked with tags forbidden) -/
theorem ensureUntagged_bytes_noTag {t : Bool} {d : Nat} {w : Wire} (c : Option (Nat → Bool))
    (hwf : w.wf = true) (hl : w.inLimits t d = true) (hnt : w.hasTag = false) :
    ensureUntaggedHeaderLabels w.bytes c = true := by
  by_cases hm : w.major = 5
  · cases w with
    | map hw kvs =>
      rw [ensureUntagged_map_bytes c hwf hl]
      rw [Wire.hasTag] at hnt
      exact Wire.pairsUntagged_of_noSelfDescribed c kvs
        (Wire.hasSelfDescribedPairs_of_noTag kvs hnt)
    | _ => cases hm
  · rw [ensureUntagged_nonmap_bytes c hm hwf hl, Wire.hasSelfDescribed_of_noTag w hnt]
    rfl

/-- hence every input whose parse tree holds no tag at all -/
theorem ensureUntagged_of_parse_noTag {t : Bool} {data : Bytes} {w : Wire}
    (c : Option (Nat → Bool)) (h : parseTop t data = some w) (hnt : w.hasTag = false) :
    ensureUntaggedHeaderLabels data c = true := by
  obtain ⟨rfl, hwf, hl⟩ := parseTop_sound h
  exact ensureUntagged_bytes_noTag c hwf hl hnt

/-- an input that parses to a map does not start with a tag head -/
theorem isTagByte_of_parse_map {t : Bool} {data : Bytes} {hw : HW} {kvs : List (Wire × Wire)}
    (h : parseTop t data = some (.map hw kvs)) : isTagByte data = false := by
  obtain ⟨rfl, hwf, -⟩ := parseTop_sound h
  have := isTagByte_bytes [] hwf
  simpa [Wire.isTag] using this

/-- an input that parses in the tag-forbidding mode passes the scan of `Key.UnmarshalCBOR` /
    `validateHeaderLabelCBOR`, whatever the table of checked labels -/
theorem ensureUntagged_of_parse_false {data : Bytes} {w : Wire} (c : Option (Nat → Bool))
    (h : parseTop false data = some w) : ensureUntaggedHeaderLabels data c = true :=
  ensureUntagged_of_parse_noTag c h (parseTop_noTag h)

end CoseModel
