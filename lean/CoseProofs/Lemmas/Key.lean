/-
  CoseProofs.Lemmas.Key — what `Key.validate`, `Key.deriveAlgorithm`, `Key.Signer()` and
  `Key.Verifier()` (key.go) say when they succeed, each stated once: `validate` accepts an EC2 / OKP
  key exactly when every guard of its `switch` fails, and a signer / verifier comes out exactly when
  key_ops, `validate` and `deriveAlgorithm` allow it; and what `Key.UnmarshalCBOR` has read off the
  decoded map when it returns a key (`Key.ofMap_inv`).
-/
import CoseModel.Key
namespace CoseModel

/-- a refusal followed by further tests: no error only if the guard fails and the rest passes -/
theorem ite_some_eq_none {α : Type} {c : Prop} [Decidable c] {e : α} {r : Option α} :
    (if c then some e else r) = none ↔ ¬ c ∧ r = none := by
  split <;> simp [*]

namespace Key

/-! ### `validate` -/

/-- the last step of `validate`: the structural error, if any, else the algorithm test -/
theorem firstError_eq_none (s a : Option Err) :
    (match s with | some e => some e | none => a) = none ↔ s = none ∧ a = none := by
  cases s <;> simp

/-- the algorithm test of `validate` (key.go: `if k.Algorithm != AlgorithmReserved`) -/
theorem algTest_eq_none (alg : Int) (d : Option Int) :
    (if alg ≠ 0 then
      match d with
      | none => some Err.other
      | some a => if alg ≠ a then some .other else none
     else none) = none ↔ (alg ≠ 0 → d = some alg) := by
  by_cases hz : alg = 0
  · simp [hz]
  · cases d <;> simp [hz, eq_comm]

/-- `validate` accepts an EC2 key exactly when no guard of `case KeyTypeEC2` fires (in source
    order: types, public part, private part, curve and presence, sizes, foreign curves) and the
    algorithm, when set, is the curve's -/
theorem validate_ec2_iff (k : Key) (op : KOp) (h2 : k.kty = 2) :
    k.validate op = none ↔
      ((k.paramIsBstr (-2) false = true ∧ k.paramIsBstr (-3) true = true ∧ k.paramIsBstr (-4) false = true) ∧
       (op = .verify → (k.pbytes (-2)).length ≠ 0 ∧ (k.pbytes (-3)).length ≠ 0) ∧
       (op = .sign → (k.pbytes (-4)).length ≠ 0) ∧
       (k.crv ≠ 0 ∧ ¬ ((k.pbytes (-2)).length = 0 ∧ (k.pbytes (-3)).length = 0 ∧ (k.pbytes (-4)).length = 0)) ∧
       (curveSize k.crv > 0 → (k.pbytes (-2)).length ≤ curveSize k.crv ∧
          (k.pbytes (-3)).length ≤ curveSize k.crv ∧ (k.pbytes (-4)).length ≤ curveSize k.crv) ∧
       k.crv ≠ 4 ∧ k.crv ≠ 5 ∧ k.crv ≠ 6 ∧ k.crv ≠ 7) ∧
      (k.alg ≠ 0 → k.deriveAlgorithm = some k.alg) := by
  unfold Key.validate
  simp only [h2, if_true]
  -- `refine`, not `rw`: the two `match`es of `validate` are its own auxiliary matchers
  refine (firstError_eq_none _ _).trans (and_congr ?_ (algTest_eq_none _ _))
  simp only [ite_some_eq_none, and_true, not_or, not_and, Nat.not_lt, gt_iff_lt, ne_eq, Bool.or_eq_true,
    Bool.not_eq_true', Bool.not_eq_false, and_assoc]

/-- the same for `case KeyTypeOKP` -/
theorem validate_okp_iff (k : Key) (op : KOp) (h1 : k.kty = 1) :
    k.validate op = none ↔
      ((k.paramIsBstr (-2) false = true ∧ k.paramIsBstr (-4) false = true) ∧
       (op = .verify → (k.pbytes (-2)).length ≠ 0) ∧
       (op = .sign → (k.pbytes (-4)).length ≠ 0) ∧
       (k.crv ≠ 0 ∧ ¬ ((k.pbytes (-2)).length = 0 ∧ (k.pbytes (-4)).length = 0)) ∧
       ((0 < (k.pbytes (-2)).length → (k.pbytes (-2)).length = 32) ∧
        (0 < (k.pbytes (-4)).length → (k.pbytes (-4)).length = 32)) ∧
       k.crv ≠ 1 ∧ k.crv ≠ 2 ∧ k.crv ≠ 3) ∧
      (k.alg ≠ 0 → k.deriveAlgorithm = some k.alg) := by
  unfold Key.validate
  simp only [h1, if_true, show ¬ (1 : Int) = 2 by decide, if_false]
  refine (firstError_eq_none _ _).trans (and_congr ?_ (algTest_eq_none _ _))
  simp only [ite_some_eq_none, and_true, not_or, not_and, gt_iff_lt, ne_eq, Bool.or_eq_true,
    Bool.not_eq_true', Bool.not_eq_false, and_assoc, Decidable.not_not]

/-- an x, y or d of the wrong type makes an EC2 key invalid, for every operation -/
theorem validate_ec2_of_not_bstr (k : Key) (op : KOp) (h2 : k.kty = 2)
    (h : (!k.paramIsBstr (-2) false || !k.paramIsBstr (-3) true || !k.paramIsBstr (-4) false) = true) :
    k.validate op = some .invalidKey := by
  unfold Key.validate
  simp only [h2, h, if_true]

theorem validate_okp_of_not_bstr (k : Key) (op : KOp) (h1 : k.kty = 1)
    (h : (!k.paramIsBstr (-2) false || !k.paramIsBstr (-4) false) = true) :
    k.validate op = some .invalidKey := by
  unfold Key.validate
  simp only [h1, h, if_true, show ¬ (1 : Int) = 2 by decide, if_false]

/-- whatever the key type, an accepted key with an algorithm has the one its curve gives -/
theorem validate_alg (k : Key) (op : KOp) (h : k.validate op = none) (hz : k.alg ≠ 0) :
    k.deriveAlgorithm = some k.alg := by
  unfold Key.validate at h
  exact (algTest_eq_none _ _).mp ((firstError_eq_none _ _).mp h).2 hz

/-- … so an accepted key's algorithm is unset or the derived one -/
theorem alg_of_validate (k : Key) (op : KOp) (a : Int) (h : k.validate op = none)
    (hd : k.deriveAlgorithm = some a) : k.alg = 0 ∨ k.alg = a := by
  by_cases hz : k.alg = 0
  · exact Or.inl hz
  · rw [validate_alg k op h hz] at hd
    exact Or.inr (Option.some.inj hd)

/-- … and `Key.AlgorithmOrDefault()` on it is the derived algorithm -/
theorem algorithmOrDefault_of_validate (k : Key) (op : KOp) (h : k.validate op = none) :
    k.algorithmOrDefault = k.deriveAlgorithm := by
  unfold Key.algorithmOrDefault
  split
  · rename_i hz
    exact (validate_alg k op h hz).symm
  · rfl

/-! ### `deriveAlgorithm` -/

theorem deriveAlgorithm_ec2 (k : Key) (h2 : k.kty = 2) :
    k.deriveAlgorithm =
      if k.crv = 1 then some (-7) else if k.crv = 2 then some (-35) else if k.crv = 3 then some (-36)
      else none := by
  unfold Key.deriveAlgorithm
  rw [if_pos h2]

/-- only EC2 and OKP keys have a derived algorithm -/
theorem kty_of_deriveAlgorithm (k : Key) (a : Int) (h : k.deriveAlgorithm = some a) :
    k.kty = 2 ∨ k.kty = 1 := by
  unfold Key.deriveAlgorithm at h
  by_cases h2 : k.kty = 2
  · exact Or.inl h2
  · by_cases h1 : k.kty = 1
    · exact Or.inr h1
    · rw [if_neg h2, if_neg h1] at h
      cases h

/-- an EC2 key never derives EdDSA -/
theorem deriveAlgorithm_ec2_ne_eddsa (k : Key) (a : Int) (h2 : k.kty = 2)
    (h : k.deriveAlgorithm = some a) : a ≠ -8 := by
  rw [deriveAlgorithm_ec2 k h2] at h
  intro h8
  subst h8
  split at h
  · cases h
  · split at h
    · cases h
    · split at h <;> cases h

/-! ### `Signer()` / `Verifier()` -/

/-- `Key.Signer()` succeeds exactly when key_ops allow signing, `validate(KeyOpSign)` accepts, the
    curve has an algorithm — which is then the signer's — and an EC2 key carries its public part -/
theorem signer_eq_ok_iff (k : Key) (a : Int) :
    k.signer = .ok a ↔
      k.canOp 1 = true ∧ k.validate .sign = none ∧ k.deriveAlgorithm = some a ∧
        (a = -8 ∨ ((k.pbytes (-2)).length ≠ 0 ∧ (k.pbytes (-3)).length ≠ 0)) := by
  unfold Key.signer Key.privateKey
  cases hc : k.canOp 1
  · simp
  · cases hv : k.validate .sign with
    | some e => simp
    | none =>
      rw [algorithmOrDefault_of_validate k .sign hv]
      cases hd : k.deriveAlgorithm with
      | none => simp
      | some d =>
        by_cases h8 : d = -8
        · simp +contextual [h8, eq_comm]
        · by_cases hxy : (k.pbytes (-2)).length = 0 ∨ (k.pbytes (-3)).length = 0
          · simp only [Bool.not_true, Bool.false_eq_true, if_false, h8, hxy, if_true, reduceCtorEq, true_and,
              Option.some.injEq, false_iff, not_and, not_or]
            intro hda; subst hda
            exact ⟨h8, fun hx hy => hxy.elim hx hy⟩
          · have hxy' := not_or.mp hxy
            simp [h8, hxy'.1, hxy'.2]

/-- `Key.Verifier()` succeeds exactly when key_ops allow verifying, `validate(KeyOpVerify)`
    accepts, the curve has an algorithm — the verifier's — and crypto/ecdh accepts an EC2 point -/
theorem verifier_eq_ok_iff (k : Key) (oc : Bool) (a : Int) :
    k.verifier oc = .ok a ↔
      k.canOp 2 = true ∧ k.validate .verify = none ∧ k.deriveAlgorithm = some a ∧
        (a = -8 ∨ oc = true) := by
  unfold Key.verifier Key.publicKey
  cases hc : k.canOp 2
  · simp
  · cases hv : k.validate .verify with
    | some e => simp
    | none =>
      rw [algorithmOrDefault_of_validate k .verify hv]
      cases hd : k.deriveAlgorithm with
      | none => simp
      | some d =>
        by_cases h8 : d = -8
        · simp +contextual [h8, eq_comm]
        · cases oc
          · simp only [Bool.not_true, Bool.false_eq_true, if_false, h8, reduceCtorEq, true_and,
              Option.some.injEq, or_false, false_iff, not_and]
            intro hda; subst hda; exact h8
          · simp [h8]

/-! ### `UnmarshalCBOR` on the decoded map -/

theorem paramBytes_some {tmp : GoMap} {n : Int} {b : Bytes}
    (h : (paramBytes tmp n).getD none = some b) : tmp.lookup (lbl n) = some (.bytes b) := by
  unfold paramBytes at h
  split at h
  · cases h
  · rename_i c hl
    cases h
    exact hl
  · cases h
  · cases h

/-- what `Key.UnmarshalCBOR` establishes before it returns a key: the common fields are read off
    the decoded map in their wire types, the parameters are what `keyParams` makes of the entries
    left over, and `validate` accepts -/
theorem ofMap_inv (tmp : GoMap) (k : Key) (h : Key.ofMap tmp = .ok k) :
    tmp.lookup (lbl 1) = some (.int .i64 k.kty) ∧ k.kty ≠ 0 ∧
    (∀ b, k.id = some b → tmp.lookup (lbl 2) = some (.bytes b)) ∧
    (k.alg ≠ 0 → tmp.lookup (lbl 3) = some (.int .i64 k.alg)) ∧
    (∀ o, k.ops = some o → ∃ l, tmp.lookup (lbl 4) = some (.arr l) ∧ decodeOps l = some o) ∧
    (∀ b, k.baseIV = some b → tmp.lookup (lbl 5) = some (.bytes b)) ∧
    keyParams k.kty (((((tmp.erase (lbl 1)).erase (lbl 2)).erase (lbl 3)).erase (lbl 4)).erase (lbl 5))
      = some k.params ∧
    k.validate .none = none := by
  unfold Key.ofMap at h
  split at h
  · rename_i kty hl
    by_cases hz : kty = 0
    · rw [if_pos hz] at h
      cases h
    · simp only [hz, if_false] at h
      split at h <;> try (cases h)
      split at h
      · cases h
      · rename_i params hp
        split at h
        · cases h
        · rename_i hv
          cases h
          refine ⟨hl, hz, fun b hb => paramBytes_some hb, fun ha => ?_, fun o ho => ?_,
            fun b hb => paramBytes_some hb, hp, hv⟩
          · dsimp only at ha ⊢
            split at ha
            · exact absurd rfl ha
            · rename_i a h3
              split at ha
              · exact absurd rfl ha
              · rename_i hne
                rw [if_neg hne]
                exact h3
            · exact absurd rfl ha
          · dsimp only at ho
            split at ho
            · cases ho
            · rename_i l h4
              refine ⟨l, h4, ?_⟩
              split at ho
              · rename_i o' hd
                exact hd.trans ho
              · cases ho
            · cases ho
  · cases h

end Key
end CoseModel
