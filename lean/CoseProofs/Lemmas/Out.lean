/-
  Lemmas/Out — the outcome monad: when a `>>=` chain returns a value, and that it cannot panic
  unless one of its steps does.  The model writes many steps as an explicit four-way `match`
  that passes `err`/`panic`/`unmodelled` through; such a match equals `>>=` case by case (not
  by unfolding: Lean does not unfold a stuck matcher), which `Lemmas/Decode` records per decoder.
-/
import CoseModel.Basic
namespace CoseModel

variable {α β γ : Type}

theorem Out.bind_eq_ok {x : Out α} {f : α → Out β} {b : β} :
    (x >>= f) = .ok b ↔ ∃ a, x = .ok a ∧ f a = .ok b := by
  cases x with
  | ok a => exact ⟨fun h => ⟨a, rfl, h⟩, fun ⟨_, ha, h⟩ => Out.ok.inj ha ▸ h⟩
  | err e => exact ⟨nofun, nofun⟩
  | panic => exact ⟨nofun, nofun⟩
  | unmodelled => exact ⟨nofun, nofun⟩

theorem Out.bind_ne_panic {x : Out α} {f : α → Out β} (hx : x ≠ .panic)
    (hf : ∀ a, f a ≠ .panic) : (x >>= f) ≠ .panic := by
  cases x with
  | ok a => exact hf a
  | err e => exact nofun
  | panic => exact absurd rfl hx
  | unmodelled => exact nofun

theorem Out.ite_ne_panic {c : Prop} [Decidable c] {x y : Out α} (hx : x ≠ .panic)
    (hy : y ≠ .panic) : (if c then x else y) ≠ .panic := by
  split <;> assumption

/-- a refusing guard in front of a step -/
theorem Out.guard_eq_ok {c : Prop} [Decidable c] {e : Err} {x : Out α} {a : α} :
    (if c then .err e else x) = .ok a ↔ ¬c ∧ x = .ok a := by
  split <;> simp [*]

/-- a step behind a condition that must hold -/
theorem Out.ite_err_eq_ok {c : Prop} [Decidable c] {e : Err} {x : Out α} {a : α} :
    (if c then x else .err e) = .ok a ↔ c ∧ x = .ok a := by
  split <;> simp [*]

/-- The model's two-scrutinee match over an element and the rest of a list: both succeed, or
    the element's error, else the rest's error, else a panic of either, else `unmodelled`. -/
def Out.comb (f : α → β → Out γ) : Out α → Out β → Out γ
  | .ok a, .ok b => f a b
  | .err e, _ => .err e
  | .ok _, .err e => .err e
  | .panic, _ => .panic
  | _, .panic => .panic
  | _, _ => .unmodelled

theorem Out.comb_eq_ok {f : α → β → Out γ} {x : Out α} {y : Out β} {c : γ} :
    Out.comb f x y = .ok c ↔ ∃ a b, x = .ok a ∧ y = .ok b ∧ f a b = .ok c := by
  cases x <;> cases y <;> simp [Out.comb]

theorem Out.comb_ne_panic {f : α → β → Out γ} {x : Out α} {y : Out β} (hx : x ≠ .panic)
    (hy : y ≠ .panic) (hf : ∀ a b, f a b ≠ .panic) : Out.comb f x y ≠ .panic := by
  cases x with
  | ok a =>
    cases y with
    | ok b => exact hf a b
    | err e => nofun
    | panic => exact absurd rfl hy
    | unmodelled => nofun
  | err e => nofun
  | panic => exact absurd rfl hx
  | unmodelled =>
    cases y with
    | panic => exact absurd rfl hy
    | _ => nofun

end CoseModel
