/-
  Lemmas/Decode — the equations of the message decoders of `CoseModel.Messages`, with every
  pass-through `match` read as `>>=` and every element/rest match as `Out.comb`, so that what a
  decoder accepts and that it cannot panic follow from the lemmas of `Lemmas/Out`; and what the
  generic decoder `decodeAny` of `CoseModel.Headers` accepts, case by case.
-/
import CoseModel.Messages
import CoseProofs.Lemmas.Out
namespace CoseModel

/-- what the generic decoder accepts, and the value it gives -/
theorem decodeAny_ok {w : Wire} {v : GoVal} (h : decodeAny w = .ok v) :
    (∃ hw n, w = .uint hw n ∧ n ≤ maxInt64 ∧ v = .int .i64 n) ∨
    (∃ hw n, w = .nint hw n ∧ n ≤ maxInt64 ∧ v = .int .i64 (-1 - (n : Int))) ∨
    (∃ hw b, w = .bstr hw b ∧ v = .bytes b) ∨
    (∃ hw b, w = .tstr hw b ∧ utf8Valid b = true ∧ v = .str b) ∨
    (∃ n, w = .prim .imm n ∧ 20 ≤ n ∧ (v = .bool false ∨ v = .bool true ∨ v = .nil)) ∨
    (∃ hw n, w = .prim hw n ∧ (hw = .imm → n < 20) ∧ (v = .simple n ∨ v = .float n)) ∨
    (∃ hw xs l, w = .arr hw xs ∧ decodeList xs = .ok l ∧ v = .arr l) ∨
    (∃ hw kvs l, w = .map hw kvs ∧ decodePairs kvs [] = .ok l ∧ v = .map l) := by
  cases w with
  | uint hw n =>
    unfold decodeAny at h
    split at h <;> cases h
    exact .inl ⟨hw, n, rfl, ‹_›, rfl⟩
  | nint hw n =>
    unfold decodeAny at h
    split at h <;> cases h
    exact .inr (.inl ⟨hw, n, rfl, ‹_›, rfl⟩)
  | bstr hw b =>
    cases h
    exact .inr (.inr (.inl ⟨hw, b, rfl, rfl⟩))
  | tstr hw b =>
    unfold decodeAny at h
    split at h <;> cases h
    exact .inr (.inr (.inr (.inl ⟨hw, b, rfl, ‹_›, rfl⟩)))
  | tag hw t x => cases h
  | prim hw n =>
    cases hw <;> unfold decodeAny at h
    · split at h
      · cases h
        exact .inr (.inr (.inr (.inr (.inr (.inl ⟨_, n, rfl, fun _ => ‹_›, .inl rfl⟩)))))
      · refine .inr (.inr (.inr (.inr (.inl ⟨n, rfl, Nat.le_of_not_lt ‹_›, ?_⟩))))
        split at h
        · cases h; exact .inl rfl
        · split at h <;> cases h
          · exact .inr (.inl rfl)
          · exact .inr (.inr rfl)
    · cases h
      exact .inr (.inr (.inr (.inr (.inr (.inl ⟨_, n, rfl, nofun, .inl rfl⟩)))))
    · cases h
    · cases h
    · cases h
      exact .inr (.inr (.inr (.inr (.inr (.inl ⟨_, n, rfl, nofun, .inr rfl⟩)))))
  | arr hw xs =>
    unfold decodeAny at h
    split at h <;> cases h
    exact .inr (.inr (.inr (.inr (.inr (.inr (.inl ⟨hw, xs, _, rfl, ‹_›, rfl⟩))))))
  | map hw kvs =>
    unfold decodeAny at h
    split at h <;> cases h
    exact .inr (.inr (.inr (.inr (.inr (.inr (.inr ⟨hw, kvs, _, rfl, ‹_›, rfl⟩))))))

theorem decodeList_cons (x : Wire) (xs : List Wire) :
    decodeList (x :: xs) = Out.comb (fun a b => .ok (a :: b)) (decodeAny x) (decodeList xs) := by
  rw [decodeList]
  cases decodeAny x <;> cases decodeList xs <;> rfl

theorem decSigFields_eq (xs : List Wire) : decSigFields xs =
    match xs with
    | [p, u, s] =>
      decByteString s >>= fun sg => if blen sg = 0 then .err .emptySig else
      decProtected p >>= fun pm => decUnprot u >>= fun um =>
      if !ensureIV pm um then .err .other
      else .ok (.csig (some p.bytes) pm (some u.bytes) um sg)
    | _ => .err .other := by
  unfold decSigFields
  split
  · show _ = decByteString _ >>= _
    cases decByteString _ <;> try rfl
    cases decProtected _ <;> try rfl
    cases decUnprot _ <;> rfl
  · rename_i hne
    split
    · exact absurd rfl (hne _ _ _)
    · rfl

theorem decUnprot_map (hw : HW) (kvs : List (Wire × Wire)) : decUnprot (.map hw kvs) =
    labelsOK kvs [] >>= fun _ =>
      if !headerLabelsUntagged (Wire.map hw kvs).bytes then .err .other else
      decUnprotPairs kvs >>= fun m =>
      if validateHeaderParameters m false then .ok m else .err .other := by
  unfold decUnprot
  cases labelsOK kvs [] <;> try rfl
  cases decUnprotPairs kvs <;> rfl

theorem decUnprotPairs_cons (k v : Wire) (r : List (Wire × Wire)) :
    decUnprotPairs ((k, v) :: r) = decodeAny k >>= fun key =>
      Out.comb (fun x m => .ok ((key, x) :: m))
        (if isCsigLabel key then decCsigValue v else decodeAny v) (decUnprotPairs r) := by
  rw [decUnprotPairs]
  cases decodeAny k <;> try rfl
  dsimp only [Out.bind_ok]
  generalize (if isCsigLabel _ then decCsigValue v else decodeAny v) = x
  cases x <;> cases decUnprotPairs r <;> rfl

/-- the per-element step of `decSigList`: `sig.UnmarshalCBOR` demands the prefix `0x83` -/
def sigOne : Wire → Out GoVal
  | .arr .imm ys => decSigFields ys
  | _ => .err .other

theorem decSigList_cons (x : Wire) (xs : List Wire) : decSigList (x :: xs) =
    Out.comb (fun a b => match sigOfVal a with | some s => .ok (s :: b) | none => .err .other)
      (sigOne x) (decSigList xs) := by
  conv => lhs; unfold decSigList
  generalize decSigList xs = r
  cases x with
  | arr hw ys =>
    cases hw with
    | imm =>
      dsimp only [sigOne]
      cases decSigFields ys <;> cases r <;> rfl
    | _ => cases r <;> rfl
  | _ => cases r <;> rfl

/-- the per-element step of `decCsigList`: a COSE_Signature, or nil / undefined -/
def csigOne : Wire → Out GoVal
  | .prim .imm 22 => .ok .csigNil
  | .prim .imm 23 => .ok .csigNil
  | .arr .imm ys => decSigFields ys
  | _ => .err .other

theorem decCsigList_nil : decCsigList [] = .ok [] := rfl

/-- the element/rest match of `decCsigList`, as written in the model -/
private def csigComb : Out GoVal → Out (List GoVal) → Out (List GoVal)
  | .ok a, .ok b => .ok (a :: b)
  | .err e, _ => .err e
  | .ok _, .err e => .err e
  | .panic, _ => .panic
  | _, .panic => .panic
  | _, _ => .unmodelled

/- The equation generator fails on `decCsigList`; its equations hold by unfolding the structural
   recursion, the numeral patterns of the element match one at a time. -/
private theorem decCsigList_prim_imm : ∀ (n : Nat) (xs : List Wire),
    decCsigList (.prim .imm n :: xs) = csigComb (csigOne (.prim .imm n)) (decCsigList xs)
  | 0, _ => rfl
  | 1, _ => rfl
  | 2, _ => rfl
  | 3, _ => rfl
  | 4, _ => rfl
  | 5, _ => rfl
  | 6, _ => rfl
  | 7, _ => rfl
  | 8, _ => rfl
  | 9, _ => rfl
  | 10, _ => rfl
  | 11, _ => rfl
  | 12, _ => rfl
  | 13, _ => rfl
  | 14, _ => rfl
  | 15, _ => rfl
  | 16, _ => rfl
  | 17, _ => rfl
  | 18, _ => rfl
  | 19, _ => rfl
  | 20, _ => rfl
  | 21, _ => rfl
  | 22, _ => rfl
  | 23, _ => rfl
  | _ + 24, _ => rfl

theorem decCsigList_cons (x : Wire) (xs : List Wire) : decCsigList (x :: xs) =
    Out.comb (fun a b => .ok (a :: b)) (csigOne x) (decCsigList xs) := by
  have h : decCsigList (x :: xs) = csigComb (csigOne x) (decCsigList xs) := by
    cases x with
    | prim hw n =>
      cases hw with
      | imm => exact decCsigList_prim_imm n xs
      | _ => rfl
    | arr hw ys => cases hw <;> rfl
    | _ => rfl
  rw [h]
  cases csigOne x <;> cases decCsigList xs <;> rfl

end CoseModel
