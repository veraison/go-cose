/-
  CoseProofs.Lemmas.Headers — what the definitions of `CoseModel.Headers` do on each form of
  input: Go's `==` on keys, `normalizeLabel`, the type predicates, `checkParam` label by label,
  `encodeBucket` with and without retained bytes; the ranges of `HW.shortest`.
-/
import CoseModel.Headers
namespace CoseModel

/-- Go's `==` on the key types of the model is equality -/
theorem GoVal.eq_of_keyEq {a b : GoVal} (h : a.keyEq b = true) : a = b := by
  unfold GoVal.keyEq at h
  split at h
  · rw [Bool.and_eq_true, decide_eq_true_eq, decide_eq_true_eq] at h
    rw [h.1, h.2]
  -- `alg`, `crv`, `str`, `bool`, `simple`, `float`: one field compared
  · rw [of_decide_eq_true h]
  · rw [of_decide_eq_true h]
  · rw [of_decide_eq_true h]
  · rw [of_decide_eq_true h]
  · rw [of_decide_eq_true h]
  · rw [of_decide_eq_true h]
  · rfl
  · cases h

theorem GoVal.keyEq_int_self (k : IntKind) (v : Int) : (GoVal.int k v).keyEq (.int k v) = true :=
  Bool.and_eq_true_iff.mpr ⟨decide_eq_true rfl, decide_eq_true rfl⟩

theorem GoVal.keyEq_str_self (s : Bytes) : (GoVal.str s).keyEq (.str s) = true :=
  decide_eq_true rfl

/-! ### `normalizeLabel` -/

theorem normalizeLabel_eq_some {x n : GoVal} (h : normalizeLabel x = some n) :
    (∃ k v, x = .int k v ∧ n = .int .i64 (wrap64 v)) ∨ (∃ s, x = .str s ∧ n = .str s) := by
  cases x with
  | int k v => exact Or.inl ⟨k, v, rfl, normalizeLabel_int_eq_some h⟩
  | str s => exact Or.inr ⟨s, rfl, (Option.some.inj h).symm⟩
  | _ => cases h

theorem normalizeLabel_lbl_ne_none (n : Int) : normalizeLabel (lbl n) ≠ none := by
  rw [lbl, normalizeLabel_int_of_narrow rfl]
  exact Option.some_ne_none _

theorem IntKind.hi_le_of_narrow {k : IntKind} (hk : k.wide = false) : k.hi ≤ maxInt64 := by
  cases k with
  | u | u64 => cases hk
  | _ => decide

theorem IntKind.lo_ge (k : IntKind) : -9223372036854775808 ≤ k.lo := by
  cases k <;> decide

/-- a Go integer (a value of its type: `v ≤ k.hi`) that `normalizeLabel` takes is at most
    `math.MaxInt64` -/
theorem le_maxInt64_of_normalizes {k : IntKind} {v : Int} (hhi : v ≤ k.hi)
    (hn : normalizeLabel (.int k v) ≠ none) : v ≤ maxInt64 := by
  cases hw : k.wide with
  | true => exact Int.not_lt.mp fun hv => hn (normalizeLabel_int_eq_none.mpr ⟨hw, hv⟩)
  | false => exact Int.le_trans hhi (IntKind.hi_le_of_narrow hw)

/-- `int64(v)` of a value within int64 is that value -/
theorem wrap64_of_int64 {v : Int} (hlo : -9223372036854775808 ≤ v) (hhi : v ≤ maxInt64) :
    wrap64 v = v := by
  replace hhi : v ≤ 9223372036854775807 := hhi
  unfold wrap64
  by_cases h : v % 18446744073709551616 ≥ 9223372036854775808
  · simp only [h, if_true]; omega
  · simp only [h, if_false]; omega

/-- a Go integer, a value of its type, that `normalizeLabel` takes lies within int64 and is its
    own label: nothing is wrapped -/
theorem normalizeLabel_int_of_range {k : IntKind} {v : Int} (hlo : k.lo ≤ v) (hhi : v ≤ k.hi)
    (hn : normalizeLabel (.int k v) ≠ none) :
    (-9223372036854775808 ≤ v ∧ v ≤ 9223372036854775807) ∧
      normalizeLabel (.int k v) = some (.int .i64 v) := by
  have hge := Int.le_trans (IntKind.lo_ge k) hlo
  have hle := le_maxInt64_of_normalizes hhi hn
  rw [normalizeLabel_int_of_le k hle, wrap64_of_int64 hge hle]
  exact ⟨⟨hge, hle⟩, rfl⟩

/-! ### the type predicates -/

theorem canInt_iff {v : GoVal} : canInt v = true ↔ ∃ k n, v = .int k n := by
  constructor
  · intro h
    unfold canInt at h
    split at h
    · exact ⟨_, _, rfl⟩
    · cases h
  · rintro ⟨k, n, rfl⟩
    rfl

/-- `canTstr` (headers.go:740) is: a Go string, valid UTF-8 -/
theorem canTstr_iff {v : GoVal} : canTstr v = true ↔ ∃ b, v = .str b ∧ utf8Valid b = true := by
  constructor
  · intro h
    unfold canTstr at h
    split at h
    · exact ⟨_, rfl, h⟩
    · cases h
  · rintro ⟨b, rfl, h⟩
    exact h

theorem canBstr_iff {v : GoVal} : canBstr v = true ↔ ∃ b, v = .bytes b := by
  constructor
  · intro h
    unfold canBstr at h
    split at h
    · exact ⟨_, rfl⟩
    · cases h
  · rintro ⟨b, rfl⟩
    rfl

/-- `ensureCritical` (headers.go:219): a non-empty `[]any` of int / tstr labels, each present in
    the bucket -/
theorem ensureCritical_iff {v : GoVal} {h : GoMap} :
    ensureCritical v h = true ↔ ∃ labels, v = .arr labels ∧ labels ≠ [] ∧
      ∀ l ∈ labels, (canInt l = true ∨ canTstr l = true) ∧ hasLabel h l = true := by
  unfold ensureCritical
  split
  · rename_i labels
    simp only [Bool.and_eq_true, Bool.not_eq_true', List.isEmpty_eq_false_iff, List.all_eq_true,
      Bool.or_eq_true, GoVal.arr.injEq, exists_eq_left']
  · rename_i hv
    exact ⟨fun hc => Bool.noConfusion hc, fun ⟨ls, hl, _⟩ => absurd hl (hv ls)⟩

/-! ### `checkParam`, label by label -/

section
variable (h : GoMap) (prot : Bool) (k : IntKind) (v : GoVal)

theorem checkParam_1 : checkParam h prot (.int k 1) v =
    (match v with | .alg _ => true | _ => canInt v || canTstr v) := rfl
theorem checkParam_2 : checkParam h prot (.int k 2) v = (prot && ensureCritical v h) := rfl
theorem checkParam_4 : checkParam h prot (.int k 4) v = canBstr v := rfl
theorem checkParam_5 : checkParam h prot (.int k 5) v = (canBstr v && !hasLabel h (lbl 6)) := rfl
theorem checkParam_6 : checkParam h prot (.int k 6) v = (canBstr v && !hasLabel h (lbl 5)) := rfl
theorem checkParam_9 : checkParam h prot (.int k 9) v = (!prot && canBstr v) := rfl
theorem checkParam_12 : checkParam h prot (.int k 12) v = (!prot && canBstr v) := rfl

end

/-! ### `encodeBucket` -/

/-- retained raw bytes are emitted verbatim -/
theorem encodeBucket_raw (cfg : EncCfg) (prot : Bool) (b : UInt8) (bs : Bytes) (l : GoMap) :
    encodeBucket cfg prot (some (b :: bs)) l = some (b :: bs) := by
  rw [encodeBucket]

/-- without retained bytes a non-empty bucket is validated, encoded as a sorted map and, when
    unprotected, checked for well-formedness -/
theorem encodeBucket_fresh (cfg : EncCfg) (prot : Bool) {raw : Option Bytes} {l : GoMap}
    (hraw : ∀ b bs, raw = some (b :: bs) → False) (hl : l ≠ []) :
    encodeBucket cfg prot raw l =
      if !cfg.validate l prot then none else
      match encodePairs cfg l with
      | some ps =>
          let m := encHead 5 l.length ++ concatPairs (sortPairs ps)
          if prot then some (encBstr m) else if wellformedNoTags m then some m else none
      | none => none := by
  cases l with
  | nil => exact absurd rfl hl
  | cons e es =>
    rw [encodeBucket]
    · rfl
    · exact hraw

end CoseModel

namespace HeadersDeep
open CoseModel

/-- the five ranges of `HW.shortest` (in the namespace of the head lemmas of `Deep/Headers`, which
    are read off it; it stands here because `Props/C08` needs it too) -/
theorem shortest_cases (n : Nat) :
    (n < 24 ∧ HW.shortest n = .imm) ∨ (24 ≤ n ∧ n < 256 ∧ HW.shortest n = .w1) ∨
    (256 ≤ n ∧ n < 65536 ∧ HW.shortest n = .w2) ∨
    (65536 ≤ n ∧ n < 4294967296 ∧ HW.shortest n = .w4) ∨
    (4294967296 ≤ n ∧ HW.shortest n = .w8) := by
  unfold HW.shortest
  by_cases h1 : n < 24
  · simp [h1]
  · by_cases h2 : n < 256
    · simp [h1, h2]; omega
    · by_cases h3 : n < 65536
      · simp [h1, h2, h3]; omega
      · by_cases h4 : n < 4294967296
        · simp [h1, h2, h3, h4]; omega
        · simp [h1, h2, h3, h4]; omega

end HeadersDeep
