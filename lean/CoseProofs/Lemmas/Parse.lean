/-
  CoseProofs.Lemmas.Parse — the well-formedness parser `parseItem` is sound and complete for
  the wire encoder `Wire.bytes` on well-formed (`Wire.wf`), in-limits (`Wire.inLimits`) trees:
  `parseItem_iff`, proved by induction on the fuel for the three mutually recursive parsers at
  once.  Soundness, completeness, fuel monotonicity, the absence of tags in the tag-forbidding
  mode and the injectivity of `Wire.bytes` are read off it.
-/
import CoseModel.Cbor
import CoseProofs.Lemmas.Head
namespace CoseModel

/-! ### predicates and measures -/

def Wire.isTag : Wire → Bool
  | .tag .. => true
  | _ => false

mutual
/-- head widths fit and the node is of a form the parser can return -/
def Wire.wf : Wire → Bool
  | .uint w n => w.fits n
  | .nint w n => w.fits n
  | .bstr w b => w.fits b.length
  | .tstr w b => w.fits b.length
  | .arr w xs => w.fits xs.length && Wire.wfList xs
  | .map w kvs => w.fits kvs.length && Wire.wfPairs kvs
  | .tag w t x => w.fits t && x.wf
  | .prim .imm n => decide (n < 24)
  | .prim .w1 n => decide (32 ≤ n) && decide (n < 256)
  | .prim .w2 n => HW.fits .w2 n
  | .prim .w4 n => HW.fits .w4 n
  | .prim .w8 n => HW.fits .w8 n
def Wire.wfList : List Wire → Bool
  | [] => true
  | x :: xs => x.wf && Wire.wfList xs
def Wire.wfPairs : List (Wire × Wire) → Bool
  | [] => true
  | (k, v) :: r => k.wf && v.wf && Wire.wfPairs r
end

mutual
/-- the parser's depth / size / tag gate, for a node met at nesting depth `d` -/
def Wire.inLimits (tagsOk : Bool) : Nat → Wire → Bool
  | d, .arr _ xs =>
      decide (d + 1 ≤ maxNested) && decide (xs.length ≤ maxElems) && Wire.inLimitsList tagsOk (d + 1) xs
  | d, .map _ kvs =>
      decide (d + 1 ≤ maxNested) && decide (kvs.length ≤ maxElems) && Wire.inLimitsPairs tagsOk (d + 1) kvs
  | d, .tag _ _ x =>
      tagsOk && (decide ((if x.isTag then d + 1 else d) ≤ maxNested)
                 && Wire.inLimits tagsOk (if x.isTag then d + 1 else d) x)
  | _, .uint .. => true
  | _, .nint .. => true
  | _, .bstr .. => true
  | _, .tstr .. => true
  | _, .prim .. => true
def Wire.inLimitsList (tagsOk : Bool) : Nat → List Wire → Bool
  | _, [] => true
  | d, x :: xs => Wire.inLimits tagsOk d x && Wire.inLimitsList tagsOk d xs
def Wire.inLimitsPairs (tagsOk : Bool) : Nat → List (Wire × Wire) → Bool
  | _, [] => true
  | d, (k, v) :: r => Wire.inLimits tagsOk d k && Wire.inLimits tagsOk d v && Wire.inLimitsPairs tagsOk d r
end

mutual
/-- number of nodes -/
def Wire.size : Wire → Nat
  | .arr _ xs => 1 + Wire.sizeList xs
  | .map _ kvs => 1 + Wire.sizePairs kvs
  | .tag _ _ x => 1 + x.size
  | _ => 1
def Wire.sizeList : List Wire → Nat
  | [] => 0
  | x :: xs => x.size + Wire.sizeList xs
def Wire.sizePairs : List (Wire × Wire) → Nat
  | [] => 0
  | (k, v) :: r => k.size + v.size + Wire.sizePairs r
end

mutual
/-- exact fuel `parseItem` needs for this tree (length of the longest call chain) -/
def Wire.fuelNeed : Wire → Nat
  | .arr _ xs => 1 + Wire.fuelNeedList xs
  | .map _ kvs => 1 + Wire.fuelNeedPairs kvs
  | .tag _ _ x => 1 + x.fuelNeed
  | _ => 1
def Wire.fuelNeedList : List Wire → Nat
  | [] => 1
  | x :: xs => 1 + max x.fuelNeed (Wire.fuelNeedList xs)
def Wire.fuelNeedPairs : List (Wire × Wire) → Nat
  | [] => 1
  | (k, v) :: r => 1 + max k.fuelNeed (max v.fuelNeed (Wire.fuelNeedPairs r))
end

/-! ### heads -/

theorem headBytes_length_pos (m : Nat) (w : HW) (n : Nat) : 1 ≤ (headBytes m w n).length := by
  cases w <;> exact Nat.le_add_left 1 _

theorem Wire.wf_prim_iff {w : HW} {n : Nat} :
    (Wire.prim w n).wf = true ↔ w.fits n = true ∧ (w = .w1 → 32 ≤ n) := by
  cases w <;> simp [Wire.wf, HW.fits]
  omega

theorem Wire.wf_prim {w : HW} {n : Nat} (h : (Wire.prim w n).wf = true) : w.fits n = true :=
  (Wire.wf_prim_iff.mp h).1

theorem Wire.major_lt (w : Wire) : w.major < 8 := by
  cases w <;> simp only [Wire.major, Nat.reduceLT]

/-- the bytes of a well-formed item begin with a fitting head of its major type -/
theorem Wire.bytes_head {w : Wire} (h : w.wf = true) :
    ∃ hw n tl, w.bytes = headBytes w.major hw n ++ tl ∧ hw.fits n = true := by
  cases w with
  | uint hw n => exact ⟨hw, n, [], (List.append_nil _).symm, h⟩
  | nint hw n => exact ⟨hw, n, [], (List.append_nil _).symm, h⟩
  | prim hw n => exact ⟨hw, n, [], (List.append_nil _).symm, Wire.wf_prim h⟩
  | bstr hw b => exact ⟨hw, _, b, rfl, h⟩
  | tstr hw b => exact ⟨hw, _, b, rfl, h⟩
  | arr hw xs => exact ⟨hw, _, _, rfl, (Bool.and_eq_true_iff.mp h).1⟩
  | map hw kvs => exact ⟨hw, _, _, rfl, (Bool.and_eq_true_iff.mp h).1⟩
  | tag hw t x => exact ⟨hw, _, _, rfl, (Bool.and_eq_true_iff.mp h).1⟩

/-- the first byte of a well-formed item carries its major type -/
theorem Wire.bytes_major {w : Wire} (h : w.wf = true) :
    ∃ b0 tl, w.bytes = b0 :: tl ∧ b0.toNat / 32 = w.major := by
  obtain ⟨hw, n, tl, hb, hf⟩ := Wire.bytes_head h
  obtain ⟨b, t, hh, hm⟩ := headBytes_major w.major_lt hf
  exact ⟨b, t ++ tl, by rw [hb, hh, List.cons_append], hm⟩

theorem isTagByte_bytes {w : Wire} (r : Bytes) (h : w.wf = true) :
    isTagByte (w.bytes ++ r) = w.isTag := by
  obtain ⟨b0, tl, hb, hm⟩ := Wire.bytes_major h
  rw [hb, List.cons_append, isTagByte, hm]
  cases w <;> rfl


/-! ### equations of `parseItem`, one major type at a time -/

section equations
variable {t : Bool} {f d : Nat} {bs rest : Bytes} {w : HW} {n : Nat}

theorem parseItem_none (hh : parseHead bs = none) : parseItem t (f + 1) d bs = none := by
  simp only [parseItem, hh]

theorem parseItem_uint (hh : parseHead bs = some (0, w, n, rest)) :
    parseItem t (f + 1) d bs = some (.uint w n, rest) := by
  simp only [parseItem, hh, reduceIte]

theorem parseItem_nint (hh : parseHead bs = some (1, w, n, rest)) :
    parseItem t (f + 1) d bs = some (.nint w n, rest) := by
  simp only [parseItem, hh, Nat.reduceEqDiff, reduceIte]

theorem parseItem_bstr (hh : parseHead bs = some (2, w, n, rest)) :
    parseItem t (f + 1) d bs
      = if n ≤ rest.length then some (.bstr w (rest.take n), rest.drop n) else none := by
  simp only [parseItem, hh, Nat.reduceEqDiff, reduceIte]

theorem parseItem_tstr (hh : parseHead bs = some (3, w, n, rest)) :
    parseItem t (f + 1) d bs
      = if n ≤ rest.length then some (.tstr w (rest.take n), rest.drop n) else none := by
  simp only [parseItem, hh, Nat.reduceEqDiff, reduceIte]

theorem parseItem_arr (hh : parseHead bs = some (4, w, n, rest)) :
    parseItem t (f + 1) d bs
      = if d + 1 > maxNested then none else if n > maxElems then none
        else (parseItems t f (d + 1) n rest).map fun p => (.arr w p.1, p.2) := by
  simp only [parseItem, hh, Nat.reduceEqDiff, reduceIte]
  cases parseItems t f (d + 1) n rest with
  | none => rfl
  | some p => rfl

theorem parseItem_map (hh : parseHead bs = some (5, w, n, rest)) :
    parseItem t (f + 1) d bs
      = if d + 1 > maxNested then none else if n > maxElems then none
        else (parsePairs t f (d + 1) n rest).map fun p => (.map w p.1, p.2) := by
  simp only [parseItem, hh, Nat.reduceEqDiff, reduceIte]
  cases parsePairs t f (d + 1) n rest with
  | none => rfl
  | some p => rfl

theorem parseItem_tag (hh : parseHead bs = some (6, w, n, rest)) :
    parseItem t (f + 1) d bs
      = if (!t) = true then none
        else if (if isTagByte rest then d + 1 else d) > maxNested then none
        else (parseItem t f (if isTagByte rest then d + 1 else d) rest).map
          fun p => (.tag w n p.1, p.2) := by
  simp only [parseItem, hh, Nat.reduceEqDiff, reduceIte]
  cases parseItem t f (if isTagByte rest then d + 1 else d) rest with
  | none => rfl
  | some p => rfl

theorem parseItem_prim (hh : parseHead bs = some (7, w, n, rest)) :
    parseItem t (f + 1) d bs
      = if w = .w1 ∧ n < 32 then none else some (.prim w n, rest) := by
  simp only [parseItem, hh, Nat.reduceEqDiff, reduceIte]
  cases w <;> simp

/-- the shape shared by the array, map and tag cases -/
theorem guarded_map_eq_some {α : Type} {c₁ c₂ : Prop} [Decidable c₁] [Decidable c₂]
    {o : Option (α × Bytes)} {g : α → Wire} {x : Wire} {r : Bytes} :
    (if c₁ then none else if c₂ then none else o.map fun p => (g p.1, p.2)) = some (x, r) ↔
      ¬ c₁ ∧ ¬ c₂ ∧ ∃ a, o = some (a, r) ∧ x = g a := by
  by_cases h₁ : c₁
  · simp [h₁]
  · by_cases h₂ : c₂
    · simp [h₂]
    · cases o with
      | none => simp [h₁, h₂]
      | some p =>
        simp only [h₁, h₂, if_false, Option.map_some, Option.some.injEq, Prod.mk.injEq,
          not_false_eq_true, true_and]
        constructor
        · rintro ⟨rfl, rfl⟩; exact ⟨_, rfl, rfl⟩
        · rintro ⟨a, ha, rfl⟩; cases ha; exact ⟨rfl, rfl⟩

/-- the shape shared by the two string cases -/
theorem taken_eq_some {n : Nat} {rest : Bytes} {g : Bytes → Wire} {x : Wire} {r : Bytes}
    (h : (if n ≤ rest.length then some (g (rest.take n), rest.drop n) else none) = some (x, r)) :
    ∃ b, b.length = n ∧ rest = b ++ r ∧ x = g b := by
  split at h
  · rename_i hn
    cases h
    exact ⟨_, List.length_take_of_le hn, (List.take_append_drop n rest).symm, rfl⟩
  · cases h

end equations


/-! ### soundness -/

theorem Wire.fuelNeed_pos (w : Wire) : 1 ≤ w.fuelNeed := by
  cases w <;> simp [Wire.fuelNeed]

/-- a successful parse returns a well-formed tree within the limits whose bytes are the consumed
    input, and ran `fuelNeed` levels deep -/
def ItemSpec (t : Bool) (fuel : Nat) : Prop :=
  ∀ (d : Nat) (bs : Bytes) (x : Wire) (r : Bytes), parseItem t fuel d bs = some (x, r) →
    bs = x.bytes ++ r ∧ x.wf = true ∧ x.inLimits t d = true ∧ x.fuelNeed ≤ fuel

def ItemsSpec (t : Bool) (fuel : Nat) : Prop :=
  ∀ (d k : Nat) (bs : Bytes) (xs : List Wire) (r : Bytes), parseItems t fuel d k bs = some (xs, r) →
    bs = Wire.bytesList xs ++ r ∧ xs.length = k ∧ Wire.wfList xs = true
      ∧ Wire.inLimitsList t d xs = true ∧ Wire.fuelNeedList xs ≤ fuel

def PairsSpec (t : Bool) (fuel : Nat) : Prop :=
  ∀ (d k : Nat) (bs : Bytes) (kvs : List (Wire × Wire)) (r : Bytes),
    parsePairs t fuel d k bs = some (kvs, r) →
    bs = Wire.bytesPairs kvs ++ r ∧ kvs.length = k ∧ Wire.wfPairs kvs = true
      ∧ Wire.inLimitsPairs t d kvs = true ∧ Wire.fuelNeedPairs kvs ≤ fuel

theorem itemSpec_succ {t : Bool} {f : Nat} (ihI : ItemSpec t f) (ihL : ItemsSpec t f)
    (ihP : PairsSpec t f) : ItemSpec t (f + 1) := by
  intro d bs x r h
  cases hh : parseHead bs with
  | none => rw [parseItem_none hh] at h; cases h
  | some hd =>
    obtain ⟨m, w, n, rest⟩ := hd
    obtain ⟨rfl, hm, hf⟩ := parseHead_sound hh
    obtain rfl | rfl | rfl | rfl | rfl | rfl | rfl | rfl :
        m = 0 ∨ m = 1 ∨ m = 2 ∨ m = 3 ∨ m = 4 ∨ m = 5 ∨ m = 6 ∨ m = 7 := by omega
    · rw [parseItem_uint hh] at h
      cases h
      exact ⟨rfl, by rw [Wire.wf]; exact hf, by rw [Wire.inLimits], Nat.le_add_left 1 f⟩
    · rw [parseItem_nint hh] at h
      cases h
      exact ⟨rfl, by rw [Wire.wf]; exact hf, by rw [Wire.inLimits], Nat.le_add_left 1 f⟩
    · rw [parseItem_bstr hh] at h
      obtain ⟨b, rfl, rfl, rfl⟩ := taken_eq_some h
      exact ⟨by rw [Wire.bytes, List.append_assoc], by rw [Wire.wf]; exact hf,
        by rw [Wire.inLimits], Nat.le_add_left 1 f⟩
    · rw [parseItem_tstr hh] at h
      obtain ⟨b, rfl, rfl, rfl⟩ := taken_eq_some h
      exact ⟨by rw [Wire.bytes, List.append_assoc], by rw [Wire.wf]; exact hf,
        by rw [Wire.inLimits], Nat.le_add_left 1 f⟩
    · rw [parseItem_arr hh] at h
      obtain ⟨hd, hn, xs, hp, rfl⟩ := guarded_map_eq_some.mp h
      obtain ⟨rfl, rfl, hwf, hlim, hfu⟩ := ihL (d + 1) n rest xs r hp
      refine ⟨?_, ?_, ?_, ?_⟩
      · rw [Wire.bytes, List.append_assoc]
      · rw [Wire.wf, hf, hwf]; rfl
      · rw [Wire.inLimits, hlim, decide_eq_true (Nat.le_of_not_gt hd),
          decide_eq_true (Nat.le_of_not_gt hn)]; rfl
      · rw [Wire.fuelNeed]; omega
    · rw [parseItem_map hh] at h
      obtain ⟨hd, hn, kvs, hp, rfl⟩ := guarded_map_eq_some.mp h
      obtain ⟨rfl, rfl, hwf, hlim, hfu⟩ := ihP (d + 1) n rest kvs r hp
      refine ⟨?_, ?_, ?_, ?_⟩
      · rw [Wire.bytes, List.append_assoc]
      · rw [Wire.wf, hf, hwf]; rfl
      · rw [Wire.inLimits, hlim, decide_eq_true (Nat.le_of_not_gt hd),
          decide_eq_true (Nat.le_of_not_gt hn)]; rfl
      · rw [Wire.fuelNeed]; omega
    · rw [parseItem_tag hh] at h
      obtain ⟨ht, hd, y, hp, rfl⟩ := guarded_map_eq_some.mp h
      obtain ⟨rfl, hwf, hlim, hfu⟩ := ihI _ rest y r hp
      rw [isTagByte_bytes r hwf] at hd hlim
      have ht' : t = true := by
        cases t
        · exact absurd rfl ht
        · rfl
      refine ⟨?_, ?_, ?_, ?_⟩
      · rw [Wire.bytes, List.append_assoc]
      · rw [Wire.wf, hf, hwf]; rfl
      · rw [Wire.inLimits, hlim, decide_eq_true (Nat.le_of_not_gt hd), ht']; rfl
      · rw [Wire.fuelNeed]; omega
    · rw [parseItem_prim hh] at h
      split at h
      · cases h
      · rename_i hw
        cases h
        exact ⟨rfl, Wire.wf_prim_iff.mpr ⟨hf, fun h1 => Nat.le_of_not_gt fun h2 => hw ⟨h1, h2⟩⟩,
          by rw [Wire.inLimits], Nat.le_add_left 1 f⟩

theorem itemsSpec_succ {t : Bool} {f : Nat} (ihI : ItemSpec t f) (ihL : ItemsSpec t f) :
    ItemsSpec t (f + 1) := by
  intro d k bs xs r h
  cases k with
  | zero =>
    simp only [parseItems, Option.some.injEq, Prod.mk.injEq] at h
    obtain ⟨rfl, rfl⟩ := h
    exact ⟨rfl, rfl, rfl, rfl, Nat.le_add_left 1 f⟩
  | succ k =>
    simp only [parseItems] at h
    split at h
    · cases h
    · rename_i x r1 hx
      split at h
      · cases h
      · rename_i xs' r2 hxs
        cases h
        obtain ⟨rfl, hwf, hlim, hfu⟩ := ihI d bs x r1 hx
        obtain ⟨rfl, rfl, hwf', hlim', hfu'⟩ := ihL d k r1 xs' r hxs
        refine ⟨?_, rfl, ?_, ?_, ?_⟩
        · rw [Wire.bytesList, List.append_assoc]
        · rw [Wire.wfList, hwf, hwf']; rfl
        · rw [Wire.inLimitsList, hlim, hlim']; rfl
        · rw [Wire.fuelNeedList]; omega

theorem pairsSpec_succ {t : Bool} {f : Nat} (ihI : ItemSpec t f) (ihP : PairsSpec t f) :
    PairsSpec t (f + 1) := by
  intro d k bs kvs r h
  cases k with
  | zero =>
    simp only [parsePairs, Option.some.injEq, Prod.mk.injEq] at h
    obtain ⟨rfl, rfl⟩ := h
    exact ⟨rfl, rfl, rfl, rfl, Nat.le_add_left 1 f⟩
  | succ k =>
    simp only [parsePairs] at h
    split at h
    · cases h
    · rename_i x r1 hx
      split at h
      · cases h
      · rename_i v r2 hv
        split at h
        · cases h
        · rename_i xs' r3 hxs
          cases h
          obtain ⟨rfl, hwf, hlim, hfu⟩ := ihI d bs x r1 hx
          obtain ⟨rfl, hwf2, hlim2, hfu2⟩ := ihI d r1 v r2 hv
          obtain ⟨rfl, rfl, hwf', hlim', hfu'⟩ := ihP d k r2 xs' r hxs
          refine ⟨?_, rfl, ?_, ?_, ?_⟩
          · rw [Wire.bytesPairs, List.append_assoc, List.append_assoc]
          · rw [Wire.wfPairs, hwf, hwf2, hwf']; rfl
          · rw [Wire.inLimitsPairs, hlim, hlim2, hlim']; rfl
          · rw [Wire.fuelNeedPairs]; omega

/-- the three parsers call one another with one unit of fuel less -/
theorem parse_spec (t : Bool) : ∀ fuel, ItemSpec t fuel ∧ ItemsSpec t fuel ∧ PairsSpec t fuel
  | 0 => ⟨fun _ _ _ _ h => by simp only [parseItem, reduceCtorEq] at h,
          fun _ _ _ _ _ h => by simp only [parseItems, reduceCtorEq] at h,
          fun _ _ _ _ _ h => by simp only [parsePairs, reduceCtorEq] at h⟩
  | f + 1 =>
    have ⟨ihI, ihL, ihP⟩ := parse_spec t f
    ⟨itemSpec_succ ihI ihL ihP, itemsSpec_succ ihI ihL, pairsSpec_succ ihI ihP⟩


theorem parseItem_sound (t : Bool) (fuel d : Nat) (bs : Bytes) (w : Wire) (r : Bytes)
    (h : parseItem t fuel d bs = some (w, r)) :
    bs = w.bytes ++ r ∧ w.wf = true ∧ w.inLimits t d = true :=
  have ⟨h1, h2, h3, _⟩ := (parse_spec t fuel).1 d bs w r h
  ⟨h1, h2, h3⟩

theorem parseItems_sound (t : Bool) : ∀ (fuel d k : Nat) (bs : Bytes) (xs : List Wire) (r : Bytes),
    parseItems t fuel d k bs = some (xs, r) →
    bs = Wire.bytesList xs ++ r ∧ xs.length = k ∧ Wire.wfList xs = true
      ∧ Wire.inLimitsList t d xs = true :=
  fun fuel d k bs xs r h =>
    have ⟨h1, h2, h3, h4, _⟩ := (parse_spec t fuel).2.1 d k bs xs r h
    ⟨h1, h2, h3, h4⟩

theorem parsePairs_sound (t : Bool) : ∀ (fuel d k : Nat) (bs : Bytes) (kvs : List (Wire × Wire))
    (r : Bytes), parsePairs t fuel d k bs = some (kvs, r) →
    bs = Wire.bytesPairs kvs ++ r ∧ kvs.length = k ∧ Wire.wfPairs kvs = true
      ∧ Wire.inLimitsPairs t d kvs = true :=
  fun fuel d k bs kvs r h =>
    have ⟨h1, h2, h3, h4, _⟩ := (parse_spec t fuel).2.2 d k bs kvs r h
    ⟨h1, h2, h3, h4⟩

/-! ### completeness -/

def ItemComplete (t : Bool) (fuel : Nat) : Prop :=
  ∀ (w : Wire) (d : Nat) (r : Bytes), w.wf = true → w.inLimits t d = true → w.fuelNeed ≤ fuel →
    parseItem t fuel d (w.bytes ++ r) = some (w, r)

def ItemsComplete (t : Bool) (fuel : Nat) : Prop :=
  ∀ (xs : List Wire) (d : Nat) (r : Bytes), Wire.wfList xs = true →
    Wire.inLimitsList t d xs = true → Wire.fuelNeedList xs ≤ fuel →
    parseItems t fuel d xs.length (Wire.bytesList xs ++ r) = some (xs, r)

def PairsComplete (t : Bool) (fuel : Nat) : Prop :=
  ∀ (kvs : List (Wire × Wire)) (d : Nat) (r : Bytes), Wire.wfPairs kvs = true →
    Wire.inLimitsPairs t d kvs = true → Wire.fuelNeedPairs kvs ≤ fuel →
    parsePairs t fuel d kvs.length (Wire.bytesPairs kvs ++ r) = some (kvs, r)

theorem itemComplete_succ {t : Bool} {f : Nat} (ihI : ItemComplete t f) (ihL : ItemsComplete t f)
    (ihP : PairsComplete t f) : ItemComplete t (f + 1) := by
  intro w d r hwf hl hfu
  cases w with
  | uint hw n =>
    rw [Wire.wf] at hwf
    exact parseItem_uint (parseHead_headBytes 0 n hw r (by decide) hwf)
  | nint hw n =>
    rw [Wire.wf] at hwf
    exact parseItem_nint (parseHead_headBytes 1 n hw r (by decide) hwf)
  | bstr hw b =>
    rw [Wire.wf] at hwf
    rw [Wire.bytes, List.append_assoc,
      parseItem_bstr (parseHead_headBytes 2 b.length hw (b ++ r) (by decide) hwf),
      if_pos (by rw [List.length_append]; exact Nat.le_add_right _ _), List.take_left',
      List.drop_left']
    all_goals rfl
  | tstr hw b =>
    rw [Wire.wf] at hwf
    rw [Wire.bytes, List.append_assoc,
      parseItem_tstr (parseHead_headBytes 3 b.length hw (b ++ r) (by decide) hwf),
      if_pos (by rw [List.length_append]; exact Nat.le_add_right _ _), List.take_left',
      List.drop_left']
    all_goals rfl
  | arr hw xs =>
    rw [Wire.wf, Bool.and_eq_true] at hwf
    simp only [Wire.inLimits, Bool.and_eq_true, decide_eq_true_eq] at hl
    rw [Wire.fuelNeed] at hfu
    rw [Wire.bytes, List.append_assoc,
      parseItem_arr (parseHead_headBytes 4 xs.length hw _ (by decide) hwf.1),
      if_neg (Nat.not_lt.mpr hl.1.1), if_neg (Nat.not_lt.mpr hl.1.2),
      ihL xs (d + 1) r hwf.2 hl.2 (by omega)]
    rfl
  | map hw kvs =>
    rw [Wire.wf, Bool.and_eq_true] at hwf
    simp only [Wire.inLimits, Bool.and_eq_true, decide_eq_true_eq] at hl
    rw [Wire.fuelNeed] at hfu
    rw [Wire.bytes, List.append_assoc,
      parseItem_map (parseHead_headBytes 5 kvs.length hw _ (by decide) hwf.1),
      if_neg (Nat.not_lt.mpr hl.1.1), if_neg (Nat.not_lt.mpr hl.1.2),
      ihP kvs (d + 1) r hwf.2 hl.2 (by omega)]
    rfl
  | tag hw n x =>
    rw [Wire.wf, Bool.and_eq_true] at hwf
    simp only [Wire.inLimits, Bool.and_eq_true, decide_eq_true_eq] at hl
    rw [Wire.fuelNeed] at hfu
    rw [Wire.bytes, List.append_assoc,
      parseItem_tag (parseHead_headBytes 6 n hw _ (by decide) hwf.1), isTagByte_bytes r hwf.2,
      if_neg (by rw [hl.1]; decide), if_neg (Nat.not_lt.mpr hl.2.1),
      ihI x _ r hwf.2 hl.2.2 (by omega)]
    rfl
  | prim hw n =>
    obtain ⟨hf, h32⟩ := Wire.wf_prim_iff.mp hwf
    rw [Wire.bytes, parseItem_prim (parseHead_headBytes 7 n hw r (by decide) hf),
      if_neg (fun h => Nat.not_lt.mpr (h32 h.1) h.2)]

theorem itemsComplete_succ {t : Bool} {f : Nat} (ihI : ItemComplete t f)
    (ihL : ItemsComplete t f) : ItemsComplete t (f + 1) := by
  intro xs d r hwf hl hfu
  cases xs with
  | nil => simp only [parseItems, Wire.bytesList, List.length_nil, List.nil_append]
  | cons x xs =>
    rw [Wire.wfList, Bool.and_eq_true] at hwf
    rw [Wire.inLimitsList, Bool.and_eq_true] at hl
    rw [Wire.fuelNeedList] at hfu
    simp only [parseItems, Wire.bytesList, List.length_cons, List.append_assoc,
      ihI x d _ hwf.1 hl.1 (by omega), ihL xs d r hwf.2 hl.2 (by omega)]

theorem pairsComplete_succ {t : Bool} {f : Nat} (ihI : ItemComplete t f)
    (ihP : PairsComplete t f) : PairsComplete t (f + 1) := by
  intro kvs d r hwf hl hfu
  match kvs with
  | [] => simp only [parsePairs, Wire.bytesPairs, List.length_nil, List.nil_append]
  | (k, v) :: kvs =>
    simp only [Wire.wfPairs, Bool.and_eq_true] at hwf
    simp only [Wire.inLimitsPairs, Bool.and_eq_true] at hl
    rw [Wire.fuelNeedPairs] at hfu
    simp only [parsePairs, Wire.bytesPairs, List.length_cons, List.append_assoc,
      ihI k d _ hwf.1.1 hl.1.1 (by omega), ihI v d _ hwf.1.2 hl.1.2 (by omega),
      ihP kvs d r hwf.2 hl.2 (by omega)]

theorem parse_complete (t : Bool) :
    ∀ fuel, ItemComplete t fuel ∧ ItemsComplete t fuel ∧ PairsComplete t fuel
  | 0 => ⟨fun w _ _ _ _ h => absurd w.fuelNeed_pos (by omega),
          fun xs _ _ _ _ h => by cases xs <;> simp [Wire.fuelNeedList] at h,
          fun kvs _ _ _ _ h => by cases kvs <;> simp [Wire.fuelNeedPairs] at h⟩
  | f + 1 =>
    have ⟨ihI, ihL, ihP⟩ := parse_complete t f
    ⟨itemComplete_succ ihI ihL ihP, itemsComplete_succ ihI ihL, pairsComplete_succ ihI ihP⟩

/-- the parser, characterised: it returns exactly the well-formed trees within the limits whose
    bytes start the input and whose nesting the fuel covers -/
theorem parseItem_iff {t : Bool} {fuel d : Nat} {bs : Bytes} {w : Wire} {r : Bytes} :
    parseItem t fuel d bs = some (w, r) ↔
      bs = w.bytes ++ r ∧ w.wf = true ∧ w.inLimits t d = true ∧ w.fuelNeed ≤ fuel :=
  ⟨(parse_spec t fuel).1 d bs w r,
   fun ⟨hb, hwf, hl, hfu⟩ => hb ▸ (parse_complete t fuel).1 w d r hwf hl hfu⟩


theorem parseTop_sound {t : Bool} {bs : Bytes} {w : Wire} (h : parseTop t bs = some w) :
    bs = w.bytes ∧ w.wf = true ∧ w.inLimits t 0 = true := by
  simp only [parseTop] at h
  split at h
  · rename_i w' hp
    cases h
    have := parseItem_sound t _ _ _ _ _ hp
    rwa [List.append_nil] at this
  · cases h

theorem parseFirst_sound {t : Bool} {bs : Bytes} {w : Wire} {r : Bytes}
    (h : parseFirst t bs = some (w, r)) :
    bs = w.bytes ++ r ∧ w.wf = true ∧ w.inLimits t 0 = true :=
  parseItem_sound t _ _ _ _ _ h

/-! ### fuel monotonicity -/

theorem parseItem_mono (t : Bool) : ∀ (f f' d : Nat) (bs : Bytes) (x : Wire × Bytes),
    parseItem t f d bs = some x → f ≤ f' → parseItem t f' d bs = some x :=
  fun f f' d bs x h hle =>
    have ⟨hb, hwf, hl, hfu⟩ := (parse_spec t f).1 d bs x.1 x.2 h
    hb ▸ (parse_complete t f').1 x.1 d x.2 hwf hl (Nat.le_trans hfu hle)

theorem parseItems_mono (t : Bool) : ∀ (f f' d k : Nat) (bs : Bytes) (x : List Wire × Bytes),
    parseItems t f d k bs = some x → f ≤ f' → parseItems t f' d k bs = some x :=
  fun f f' d k bs x h hle =>
    have ⟨hb, hk, hwf, hl, hfu⟩ := (parse_spec t f).2.1 d k bs x.1 x.2 h
    hb ▸ hk ▸ (parse_complete t f').2.1 x.1 d x.2 hwf hl (Nat.le_trans hfu hle)

theorem parsePairs_mono (t : Bool) : ∀ (f f' d k : Nat) (bs : Bytes)
    (x : List (Wire × Wire) × Bytes),
    parsePairs t f d k bs = some x → f ≤ f' → parsePairs t f' d k bs = some x :=
  fun f f' d k bs x h hle =>
    have ⟨hb, hk, hwf, hl, hfu⟩ := (parse_spec t f).2.2 d k bs x.1 x.2 h
    hb ▸ hk ▸ (parse_complete t f').2.2 x.1 d x.2 hwf hl (Nat.le_trans hfu hle)

/-! ### tags forbidden -/

mutual
/-- the limits gate with tags forbidden admits no tag -/
theorem Wire.hasTag_of_inLimits_false : ∀ (w : Wire) (d : Nat),
    w.inLimits false d = true → w.hasTag = false
  | .uint .., _, _ | .nint .., _, _ | .bstr .., _, _ | .tstr .., _, _ | .prim .., _, _ => rfl
  | .tag .., _, h => by rw [Wire.inLimits, Bool.false_and] at h; cases h
  | .arr _ xs, d, h => by
    rw [Wire.inLimits, Bool.and_eq_true] at h
    rw [Wire.hasTag]
    exact Wire.hasTagList_of_inLimits_false xs (d + 1) h.2
  | .map _ kvs, d, h => by
    rw [Wire.inLimits, Bool.and_eq_true] at h
    rw [Wire.hasTag]
    exact Wire.hasTagPairs_of_inLimits_false kvs (d + 1) h.2
theorem Wire.hasTagList_of_inLimits_false : ∀ (xs : List Wire) (d : Nat),
    Wire.inLimitsList false d xs = true → Wire.hasTagList xs = false
  | [], _, _ => by rw [Wire.hasTagList]
  | x :: xs, d, h => by
    rw [Wire.inLimitsList, Bool.and_eq_true] at h
    rw [Wire.hasTagList, Wire.hasTag_of_inLimits_false x d h.1,
      Wire.hasTagList_of_inLimits_false xs d h.2]
    rfl
theorem Wire.hasTagPairs_of_inLimits_false : ∀ (kvs : List (Wire × Wire)) (d : Nat),
    Wire.inLimitsPairs false d kvs = true → Wire.hasTagPairs kvs = false
  | [], _, _ => by rw [Wire.hasTagPairs]
  | (k, v) :: r, d, h => by
    simp only [Wire.inLimitsPairs, Bool.and_eq_true] at h
    rw [Wire.hasTagPairs, Wire.hasTag_of_inLimits_false k d h.1.1,
      Wire.hasTag_of_inLimits_false v d h.1.2, Wire.hasTagPairs_of_inLimits_false r d h.2]
    rfl
end

theorem parseItem_noTag (fuel d : Nat) (bs : Bytes) (w : Wire) (r : Bytes)
    (h : parseItem false fuel d bs = some (w, r)) : w.hasTag = false :=
  Wire.hasTag_of_inLimits_false w d (parseItem_sound false fuel d bs w r h).2.2

theorem parseItems_noTag : ∀ (fuel d k : Nat) (bs : Bytes) (xs : List Wire) (r : Bytes),
    parseItems false fuel d k bs = some (xs, r) → Wire.hasTagList xs = false :=
  fun fuel d k bs xs r h =>
    Wire.hasTagList_of_inLimits_false xs d (parseItems_sound false fuel d k bs xs r h).2.2.2

theorem parsePairs_noTag : ∀ (fuel d k : Nat) (bs : Bytes) (kvs : List (Wire × Wire))
    (r : Bytes), parsePairs false fuel d k bs = some (kvs, r) → Wire.hasTagPairs kvs = false :=
  fun fuel d k bs kvs r h =>
    Wire.hasTagPairs_of_inLimits_false kvs d (parsePairs_sound false fuel d k bs kvs r h).2.2.2

theorem parseTop_noTag {bs : Bytes} {w : Wire} (h : parseTop false bs = some w) :
    w.hasTag = false :=
  Wire.hasTag_of_inLimits_false w 0 (parseTop_sound h).2.2

theorem parseFirst_noTag {bs : Bytes} {w : Wire} {r : Bytes}
    (h : parseFirst false bs = some (w, r)) : w.hasTag = false :=
  parseItem_noTag _ _ _ _ _ h

/-! ### sufficient fuel -/

theorem Wire.size_pos (w : Wire) : 1 ≤ w.size := by
  cases w <;> simp [Wire.size]

mutual
theorem Wire.fuelNeed_le_size : ∀ (w : Wire), w.fuelNeed ≤ 2 * w.size
  | .uint .. | .nint .. | .bstr .. | .tstr .. | .prim .. => by simp [Wire.fuelNeed, Wire.size]
  | .arr _ xs => by
    have := Wire.fuelNeedList_le_size xs
    simp only [Wire.fuelNeed, Wire.size]; omega
  | .map _ kvs => by
    have := Wire.fuelNeedPairs_le_size kvs
    simp only [Wire.fuelNeed, Wire.size]; omega
  | .tag _ _ x => by
    have := Wire.fuelNeed_le_size x
    simp only [Wire.fuelNeed, Wire.size]; omega
theorem Wire.fuelNeedList_le_size : ∀ (xs : List Wire),
    Wire.fuelNeedList xs ≤ 2 * Wire.sizeList xs + 1
  | [] => by simp [Wire.fuelNeedList]
  | x :: xs => by
    have := Wire.fuelNeed_le_size x
    have := Wire.fuelNeedList_le_size xs
    have := x.size_pos
    simp only [Wire.fuelNeedList, Wire.sizeList]; omega
theorem Wire.fuelNeedPairs_le_size : ∀ (kvs : List (Wire × Wire)),
    Wire.fuelNeedPairs kvs ≤ 2 * Wire.sizePairs kvs + 1
  | [] => by simp [Wire.fuelNeedPairs]
  | (k, v) :: r => by
    have := Wire.fuelNeed_le_size k
    have := Wire.fuelNeed_le_size v
    have := Wire.fuelNeedPairs_le_size r
    have := k.size_pos
    have := v.size_pos
    simp only [Wire.fuelNeedPairs, Wire.sizePairs]; omega
end

mutual
/-- every node contributes at least one byte -/
theorem Wire.size_le_length : ∀ (w : Wire), w.size ≤ w.bytes.length
  | .uint .. | .nint .. | .prim .. => by
    simp only [Wire.size, Wire.bytes]
    exact headBytes_length_pos _ _ _
  | .bstr .. | .tstr .. => by
    simp only [Wire.size, Wire.bytes, List.length_append]
    exact Nat.le_add_right_of_le (headBytes_length_pos _ _ _)
  | .arr hw xs => by
    have := headBytes_length_pos 4 hw xs.length
    have := Wire.sizeList_le_length xs
    simp only [Wire.size, Wire.bytes, List.length_append]; omega
  | .map hw kvs => by
    have := headBytes_length_pos 5 hw kvs.length
    have := Wire.sizePairs_le_length kvs
    simp only [Wire.size, Wire.bytes, List.length_append]; omega
  | .tag hw t x => by
    have := headBytes_length_pos 6 hw t
    have := Wire.size_le_length x
    simp only [Wire.size, Wire.bytes, List.length_append]; omega
theorem Wire.sizeList_le_length : ∀ (xs : List Wire),
    Wire.sizeList xs ≤ (Wire.bytesList xs).length
  | [] => by simp [Wire.sizeList]
  | x :: xs => by
    have := Wire.size_le_length x
    have := Wire.sizeList_le_length xs
    simp only [Wire.sizeList, Wire.bytesList, List.length_append]; omega
theorem Wire.sizePairs_le_length : ∀ (kvs : List (Wire × Wire)),
    Wire.sizePairs kvs ≤ (Wire.bytesPairs kvs).length
  | [] => by simp [Wire.sizePairs]
  | (k, v) :: r => by
    have := Wire.size_le_length k
    have := Wire.size_le_length v
    have := Wire.sizePairs_le_length r
    simp only [Wire.sizePairs, Wire.bytesPairs, List.length_append]; omega
end

theorem parseItem_complete {t : Bool} {w : Wire} {fuel d : Nat} (r : Bytes)
    (hwf : w.wf = true) (hl : w.inLimits t d = true) (hfu : 2 * w.size ≤ fuel) :
    parseItem t fuel d (w.bytes ++ r) = some (w, r) :=
  (parse_complete t fuel).1 w d r hwf hl (Nat.le_trans w.fuelNeed_le_size hfu)

theorem parseItems_complete {t : Bool} {xs : List Wire} {fuel d : Nat} (r : Bytes)
    (hwf : Wire.wfList xs = true) (hl : Wire.inLimitsList t d xs = true)
    (hfu : 2 * Wire.sizeList xs + 1 ≤ fuel) :
    parseItems t fuel d xs.length (Wire.bytesList xs ++ r) = some (xs, r) :=
  (parse_complete t fuel).2.1 xs d r hwf hl (Nat.le_trans (Wire.fuelNeedList_le_size xs) hfu)

theorem parsePairs_complete {t : Bool} {kvs : List (Wire × Wire)} {fuel d : Nat} (r : Bytes)
    (hwf : Wire.wfPairs kvs = true) (hl : Wire.inLimitsPairs t d kvs = true)
    (hfu : 2 * Wire.sizePairs kvs + 1 ≤ fuel) :
    parsePairs t fuel d kvs.length (Wire.bytesPairs kvs ++ r) = some (kvs, r) :=
  (parse_complete t fuel).2.2 kvs d r hwf hl (Nat.le_trans (Wire.fuelNeedPairs_le_size kvs) hfu)

/-- `fuelFor` supplies enough fuel for the first item of the input, whatever follows it -/
theorem parseFirst_complete {t : Bool} {w : Wire} (r : Bytes)
    (hwf : w.wf = true) (hl : w.inLimits t 0 = true) :
    parseFirst t (w.bytes ++ r) = some (w, r) := by
  have := w.size_le_length
  exact parseItem_complete r hwf hl (by simp only [fuelFor, List.length_append]; omega)

theorem parseTop_complete {t : Bool} {w : Wire}
    (hwf : w.wf = true) (hl : w.inLimits t 0 = true) : parseTop t w.bytes = some w := by
  have h := parseFirst_complete (t := t) [] hwf hl
  simp only [List.append_nil, parseFirst] at h
  simp only [parseTop, h]

/-! ### depth -/

mutual
/-- a tree within the parser's limits when met at depth `d` is within them at any smaller depth -/
theorem Wire.inLimits_anti (t : Bool) : ∀ (w : Wire) (d d' : Nat), d' ≤ d →
    w.inLimits t d = true → w.inLimits t d' = true
  | .uint .., _, _, _, _ | .nint .., _, _, _, _ | .bstr .., _, _, _, _ | .tstr .., _, _, _, _
  | .prim .., _, _, _, _ => rfl
  | .arr _ xs, d, d', hle, h => by
    simp only [Wire.inLimits, Bool.and_eq_true, decide_eq_true_eq] at h ⊢
    exact ⟨⟨by omega, h.1.2⟩, Wire.inLimitsList_anti t xs (d + 1) (d' + 1) (by omega) h.2⟩
  | .map _ kvs, d, d', hle, h => by
    simp only [Wire.inLimits, Bool.and_eq_true, decide_eq_true_eq] at h ⊢
    exact ⟨⟨by omega, h.1.2⟩, Wire.inLimitsPairs_anti t kvs (d + 1) (d' + 1) (by omega) h.2⟩
  | .tag _ _ x, d, d', hle, h => by
    simp only [Wire.inLimits, Bool.and_eq_true, decide_eq_true_eq] at h ⊢
    cases hx : x.isTag
    · simp only [hx, Bool.false_eq_true, if_false] at h ⊢
      exact ⟨h.1, by omega, Wire.inLimits_anti t x d d' hle h.2.2⟩
    · simp only [hx, if_true] at h ⊢
      exact ⟨h.1, by omega, Wire.inLimits_anti t x (d + 1) (d' + 1) (by omega) h.2.2⟩
theorem Wire.inLimitsList_anti (t : Bool) : ∀ (xs : List Wire) (d d' : Nat), d' ≤ d →
    Wire.inLimitsList t d xs = true → Wire.inLimitsList t d' xs = true
  | [], _, _, _, _ => by simp [Wire.inLimitsList]
  | x :: xs, d, d', hle, h => by
    simp only [Wire.inLimitsList, Bool.and_eq_true] at h ⊢
    exact ⟨Wire.inLimits_anti t x d d' hle h.1, Wire.inLimitsList_anti t xs d d' hle h.2⟩
theorem Wire.inLimitsPairs_anti (t : Bool) : ∀ (kvs : List (Wire × Wire)) (d d' : Nat), d' ≤ d →
    Wire.inLimitsPairs t d kvs = true → Wire.inLimitsPairs t d' kvs = true
  | [], _, _, _, _ => by simp [Wire.inLimitsPairs]
  | (k, v) :: r, d, d', hle, h => by
    simp only [Wire.inLimitsPairs, Bool.and_eq_true] at h ⊢
    exact ⟨⟨Wire.inLimits_anti t k d d' hle h.1.1, Wire.inLimits_anti t v d d' hle h.1.2⟩,
      Wire.inLimitsPairs_anti t r d d' hle h.2⟩
end

/-- the tags-forbidden well-formedness pass (`decModeWithTagsForbidden.Wellformed`) accepts the
    bytes of every well-formed tree that is within the parser's limits from depth 0 -/
theorem wellformedNoTags_bytes {w : Wire}
    (hwf : w.wf = true) (hl : w.inLimits false 0 = true) : wellformedNoTags w.bytes = true := by
  simp only [wellformedNoTags, parseTop_complete hwf hl, Option.isSome_some]

/-- the same for a tree known to be within the limits at some depth `d` (e.g. a bucket that was
    shown to fit inside an envelope): the stand-alone pass starts at depth 0 -/
theorem wellformedNoTags_bytes_at {w : Wire} {d : Nat}
    (hwf : w.wf = true) (hl : w.inLimits false d = true) : wellformedNoTags w.bytes = true :=
  wellformedNoTags_bytes hwf (Wire.inLimits_anti false w d 0 (Nat.zero_le d) hl)

/-- what the pass accepting some bytes means: they are the bytes of one tag-free well-formed
    tree within the limits -/
theorem wellformedNoTags_iff {bs : Bytes} :
    wellformedNoTags bs = true ↔ ∃ w, parseTop false bs = some w := by
  simp only [wellformedNoTags, Option.isSome_iff_exists]

/-! ### uniqueness -/

theorem parseTop_bytes_inj {t : Bool} {bs bs' : Bytes} {w : Wire}
    (h : parseTop t bs = some w) (h' : parseTop t bs' = some w) : bs = bs' := by
  rw [(parseTop_sound h).1, (parseTop_sound h').1]

/-- prefix-freeness: a well-formed encoding determines the item and the remainder -/
theorem wire_bytes_append_inj {t : Bool} {w w' : Wire} {r r' : Bytes} (hwf : w.wf = true)
    (hwf' : w'.wf = true) (hl : w.inLimits t 0 = true) (hl' : w'.inLimits t 0 = true)
    (hb : w.bytes ++ r = w'.bytes ++ r') : w = w' ∧ r = r' := by
  have h := parseFirst_complete r hwf hl
  have h' := parseFirst_complete r' hwf' hl'
  rw [hb, h'] at h
  simp only [Option.some.injEq, Prod.mk.injEq] at h
  exact ⟨h.1.symm, h.2.symm⟩

theorem wire_bytes_inj {t : Bool} {w w' : Wire} (hwf : w.wf = true) (hwf' : w'.wf = true)
    (hl : w.inLimits t 0 = true) (hl' : w'.inLimits t 0 = true) (hb : w.bytes = w'.bytes) :
    w = w' :=
  (wire_bytes_append_inj hwf hwf' hl hl' (congrArg (· ++ []) hb)).1

end CoseModel
