/-
  CoseProofs.Lemmas.Ecdsa — I2OSP / OS2IP round trips and the fixed-width r‖s ECDSA
  signature codec (RFC 9053 §2.1), plus the EC2 coordinate left-padding facts.
  `os2ip` / `fillBytes` are `beVal` / `beBytes` of `Lemmas.Head`, whose round trips they inherit.
-/
import CoseModel.Ecdsa
import CoseProofs.Lemmas.Head
namespace CoseModel

/-! ### `SetBytes` / `FillBytes` -/

@[simp] theorem os2ip_nil : os2ip [] = 0 := rfl

theorem os2ip_append_singleton (b : Bytes) (x : UInt8) :
    os2ip (b ++ [x]) = os2ip b * 256 + x.toNat := by
  simp [os2ip, List.foldl_append]

theorem foldl_be (b : Bytes) (acc : Nat) :
    b.foldl (fun acc x => acc * 256 + x.toNat) acc = acc * 256 ^ b.length + beVal b := by
  induction b generalizing acc with
  | nil => rw [List.foldl_nil, List.length_nil, Nat.pow_zero, Nat.mul_one]; rfl
  | cons x b ih =>
    rw [List.foldl_cons, ih, beVal_cons, List.length_cons, Nat.pow_succ', Nat.add_mul,
      Nat.mul_assoc, Nat.add_assoc]

theorem os2ip_eq_beVal (b : Bytes) : os2ip b = beVal b := by
  rw [os2ip, foldl_be, Nat.zero_mul, Nat.zero_add]

theorem fillBytes_eq_beBytes (len x : Nat) : fillBytes len x = beBytes len x := by
  induction len generalizing x with
  | zero => rfl
  | succ n ih =>
    rw [fillBytes, ih, ofNat_mod256]
    simp only [beBytes, leBytes, List.reverse_cons]

theorem fillBytes_length (len x : Nat) : (fillBytes len x).length = len := by
  rw [fillBytes_eq_beBytes, beBytes_length]

theorem os2ip_fillBytes (len x : Nat) (h : x < 256 ^ len) : os2ip (fillBytes len x) = x := by
  rw [fillBytes_eq_beBytes, os2ip_eq_beVal, beVal_beBytes h]

theorem os2ip_lt (b : Bytes) : os2ip b < 256 ^ b.length :=
  os2ip_eq_beVal b ▸ beVal_lt b

theorem fillBytes_os2ip (b : Bytes) : fillBytes b.length (os2ip b) = b := by
  rw [fillBytes_eq_beBytes, os2ip_eq_beVal, beBytes_beVal]

/-- a string of `n` bytes is what `FillBytes` writes, at width `n`, for the number it denotes -/
theorem fillBytes_os2ip_of_length {b : Bytes} {n : Nat} (h : b.length = n) :
    os2ip b < 256 ^ n ∧ fillBytes n (os2ip b) = b :=
  h ▸ ⟨os2ip_lt b, fillBytes_os2ip b⟩

theorem pow256_eq (len : Nat) : 256 ^ len = 2 ^ (len * 8) := by
  rw [Nat.mul_comm, Nat.pow_mul]

/-! ### `BitLen` -/

theorem bitLen_le_iff_two_pow (x k : Nat) : bitLen x ≤ k ↔ x < 2 ^ k := by
  unfold bitLen
  by_cases hx : x = 0
  · subst hx
    simp [Nat.pow_pos]
  · rw [if_neg hx, ← Nat.log2_lt hx]
    omega

theorem bitLen_le_iff (x len : Nat) : bitLen x ≤ len * 8 ↔ x < 256 ^ len := by
  rw [pow256_eq]
  exact bitLen_le_iff_two_pow x (len * 8)

/-! ### `I2OSP` -/

theorem i2osp_eq_some_iff (x : Int) (len : Nat) (b : Bytes) :
    i2osp x len = some b ↔ 0 ≤ x ∧ x.toNat < 256 ^ len ∧ b = fillBytes len x.toNat := by
  unfold i2osp
  by_cases hneg : x < 0
  · rw [if_pos hneg]
    constructor
    · intro h; cases h
    · intro h; omega
  · rw [if_neg hneg]
    by_cases hbig : bitLen x.toNat > len * 8
    · rw [if_pos hbig]
      have : ¬ x.toNat < 256 ^ len := by
        rw [← bitLen_le_iff]; omega
      constructor
      · intro h; cases h
      · intro h; exact absurd h.2.1 this
    · rw [if_neg hbig]
      have hfit : x.toNat < 256 ^ len := by
        rw [← bitLen_le_iff]; omega
      constructor
      · intro h
        refine ⟨by omega, hfit, ?_⟩
        exact (Option.some.inj h).symm
      · intro h
        rw [h.2.2]

theorem i2osp_isSome_iff (x : Int) (len : Nat) :
    (i2osp x len).isSome ↔ 0 ≤ x ∧ x.toNat < 256 ^ len := by
  simp [Option.isSome_iff_exists, i2osp_eq_some_iff]

theorem i2osp_of_fits (x : Int) (len : Nat) (h0 : 0 ≤ x) (h : x.toNat < 256 ^ len) :
    i2osp x len = some (fillBytes len x.toNat) :=
  (i2osp_eq_some_iff x len _).mpr ⟨h0, h, rfl⟩

/-! ### the fixed-width signature codec -/

theorem encode_eq_some_iff (n : Nat) (r s : Int) (sig : Bytes) :
    encodeECDSASignature n r s = some sig ↔
      (0 ≤ r ∧ r.toNat < 256 ^ n) ∧ (0 ≤ s ∧ s.toNat < 256 ^ n) ∧
        sig = fillBytes n r.toNat ++ fillBytes n s.toNat := by
  unfold encodeECDSASignature
  constructor
  · intro h
    split at h
    · rename_i a b ha hb
      have ha' := (i2osp_eq_some_iff r n a).mp ha
      have hb' := (i2osp_eq_some_iff s n b).mp hb
      refine ⟨⟨ha'.1, ha'.2.1⟩, ⟨hb'.1, hb'.2.1⟩, ?_⟩
      rw [← ha'.2.2, ← hb'.2.2]
      exact (Option.some.inj h).symm
    · cases h
  · rintro ⟨⟨hr0, hr⟩, ⟨hs0, hs⟩, rfl⟩
    rw [i2osp_of_fits r n hr0 hr, i2osp_of_fits s n hs0 hs]

theorem encode_ok_iff (n : Nat) (r s : Int) :
    (encodeECDSASignature n r s).isSome ↔
      (0 ≤ r ∧ r.toNat < 256 ^ n) ∧ (0 ≤ s ∧ s.toNat < 256 ^ n) := by
  simp [Option.isSome_iff_exists, encode_eq_some_iff]

theorem encode_fixed_width (n : Nat) (r s : Int) (sig : Bytes)
    (h : encodeECDSASignature n r s = some sig) :
    sig.length = 2 * n ∧ sig.take n = fillBytes n r.toNat ∧ sig.drop n = fillBytes n s.toNat := by
  obtain ⟨_, _, rfl⟩ := (encode_eq_some_iff n r s sig).mp h
  have hl := fillBytes_length n r.toNat
  refine ⟨?_, ?_, ?_⟩
  · rw [List.length_append, fillBytes_length, fillBytes_length]; omega
  · exact List.take_left' hl
  · exact List.drop_left' hl

theorem decode_eq_some_iff (n : Nat) (sig : Bytes) (p : Nat × Nat) :
    decodeECDSASignature n sig = some p ↔
      sig.length = 2 * n ∧ os2ip (sig.take n) = p.1 ∧ os2ip (sig.drop n) = p.2 := by
  unfold decodeECDSASignature
  by_cases h : sig.length = n * 2
  · have h2 : sig.length = 2 * n := by omega
    rw [if_neg (by simpa using h)]
    constructor
    · intro e
      have := Option.some.inj e
      subst this
      exact ⟨h2, rfl, rfl⟩
    · rintro ⟨_, h1, h3⟩
      rw [h1, h3]
  · rw [if_pos h]
    constructor
    · intro e; cases e
    · intro e; omega

theorem decode_strict (n : Nat) (sig : Bytes) :
    (decodeECDSASignature n sig).isSome ↔ sig.length = 2 * n := by
  simp [Option.isSome_iff_exists, decode_eq_some_iff]

theorem decode_encode (n : Nat) (r s : Int) (sig : Bytes)
    (h : encodeECDSASignature n r s = some sig) :
    decodeECDSASignature n sig = some (r.toNat, s.toNat) := by
  have hfit := (encode_eq_some_iff n r s sig).mp h
  obtain ⟨hlen, htake, hdrop⟩ := encode_fixed_width n r s sig h
  rw [decode_eq_some_iff]
  refine ⟨hlen, ?_, ?_⟩
  · rw [htake]; exact os2ip_fillBytes n _ hfit.1.2
  · rw [hdrop]; exact os2ip_fillBytes n _ hfit.2.1.2

theorem encode_decode (n : Nat) (sig : Bytes) (r s : Nat)
    (h : decodeECDSASignature n sig = some (r, s)) :
    encodeECDSASignature n (r : Int) (s : Int) = some sig := by
  obtain ⟨hlen, rfl, rfl⟩ := (decode_eq_some_iff n sig (r, s)).mp h
  obtain ⟨hr, hrb⟩ := fillBytes_os2ip_of_length (b := sig.take n) (n := n) (by rw [List.length_take]; omega)
  obtain ⟨hs, hsb⟩ := fillBytes_os2ip_of_length (b := sig.drop n) (n := n) (by rw [List.length_drop]; omega)
  rw [encode_eq_some_iff, Int.toNat_natCast, Int.toNat_natCast, hrb, hsb, List.take_append_drop]
  exact ⟨⟨Int.natCast_nonneg _, hr⟩, ⟨Int.natCast_nonneg _, hs⟩, rfl⟩

theorem decode_injective {p : Nat × Nat} (n : Nat) (a b : Bytes)
    (ha : decodeECDSASignature n a = some p) (hb : decodeECDSASignature n b = some p) : a = b := by
  obtain ⟨r, s⟩ := p
  have h1 := encode_decode n a r s ha
  have h2 := encode_decode n b r s hb
  rw [h1] at h2
  exact Option.some.inj h2

theorem encode_neg (n : Nat) (r s : Int) (h : r < 0 ∨ s < 0) :
    encodeECDSASignature n r s = none := by
  cases hres : encodeECDSASignature n r s with
  | none => rfl
  | some sig =>
    have := (encode_eq_some_iff n r s sig).mp hres
    omega

/-! ### `big.Int.Bytes()` and EC2 coordinate left-padding -/

theorem natBytes_zero : natBytes 0 = [] := by
  rw [natBytes]; rfl

theorem natBytes_pos (x : Nat) (hx : x ≠ 0) :
    natBytes x = natBytes (x / 256) ++ [UInt8.ofNat (x % 256)] := by
  rw [natBytes, dif_neg hx]

theorem os2ip_natBytes (x : Nat) : os2ip (natBytes x) = x := by
  induction x using Nat.strongRecOn with
  | _ x ih =>
    by_cases hx : x = 0
    · subst hx; rw [natBytes_zero]; rfl
    · rw [natBytes_pos x hx, os2ip_append_singleton, ih (x / 256) (by omega), UInt8.toNat_ofNat']
      omega

theorem natBytes_length_le (x len : Nat) (h : x < 256 ^ len) : (natBytes x).length ≤ len := by
  induction len generalizing x with
  | zero =>
    simp only [Nat.pow_zero] at h
    have : x = 0 := by omega
    subst this
    rw [natBytes_zero]
    exact Nat.le_refl _
  | succ n ih =>
    by_cases hx : x = 0
    · subst hx; rw [natBytes_zero]; exact Nat.zero_le _
    · have h' : x / 256 < 256 ^ n := by
        rw [Nat.pow_succ] at h
        omega
      have := ih (x / 256) h'
      rw [natBytes_pos x hx, List.length_append, List.length_singleton]
      omega

theorem natBytes_length_pos (x : Nat) (hx : 0 < x) : 0 < (natBytes x).length := by
  rw [natBytes_pos x (by omega), List.length_append, List.length_singleton]
  omega

theorem os2ip_cons_zero (b : Bytes) : os2ip (0 :: b) = os2ip b := by
  simp [os2ip]

theorem os2ip_replicate_zero (k : Nat) (b : Bytes) :
    os2ip (List.replicate k 0 ++ b) = os2ip b := by
  induction k with
  | zero => simp
  | succ k ih => rw [List.replicate_succ, List.cons_append, os2ip_cons_zero, ih]

/-- `FillBytes` is `Bytes()` zero-extended on the left. -/
theorem fillBytes_eq_pad (size x : Nat) (h : x < 256 ^ size) :
    fillBytes size x = List.replicate (size - (natBytes x).length) 0 ++ natBytes x := by
  have hle := natBytes_length_le x size h
  have hlen : (List.replicate (size - (natBytes x).length) (0 : UInt8) ++ natBytes x).length
      = size := by
    rw [List.length_append, List.length_replicate]; omega
  have := fillBytes_os2ip (List.replicate (size - (natBytes x).length) 0 ++ natBytes x)
  rwa [hlen, os2ip_replicate_zero, os2ip_natBytes] at this

theorem leftPad_natBytes (size x : Nat) (hx : 0 < x) (h : x < 256 ^ size) :
    leftPad size (natBytes x) = fillBytes size x := by
  have hpos := natBytes_length_pos x hx
  have hle := natBytes_length_le x size h
  rw [fillBytes_eq_pad size x h]
  unfold leftPad
  by_cases hlt : (natBytes x).length < size
  · rw [if_pos ⟨hpos, hlt⟩]
  · rw [if_neg (fun hc => hlt hc.2)]
    have : size - (natBytes x).length = 0 := by omega
    rw [this]
    rfl

theorem leftPad_natBytes_length (size x : Nat) (hx : 0 < x) (h : x < 256 ^ size) :
    (leftPad size (natBytes x)).length = size := by
  rw [leftPad_natBytes size x hx h, fillBytes_length]

theorem os2ip_leftPad (size : Nat) (b : Bytes) : os2ip (leftPad size b) = os2ip b := by
  unfold leftPad
  split
  · exact os2ip_replicate_zero _ _
  · rfl

/-- a byte string already at the target size is left alone by the padding -/
theorem leftPad_of_length_eq (size : Nat) (b : Bytes) (h : b.length = size) : leftPad size b = b := by
  unfold leftPad
  rw [if_neg (fun hc => by omega)]

/-- `FillBytes` output is already at full width (0 included): padding it changes nothing -/
theorem leftPad_fillBytes (size x : Nat) : leftPad size (fillBytes size x) = fillBytes size x :=
  leftPad_of_length_eq size _ (fillBytes_length size x)

/-- `Bytes()` of a number has at most `size` octets exactly when the number fits `size` octets -/
theorem natBytes_length_le_iff (x size : Nat) : (natBytes x).length ≤ size ↔ x < 256 ^ size := by
  constructor
  · intro h
    have h1 := os2ip_lt (natBytes x)
    rw [os2ip_natBytes] at h1
    exact Nat.lt_of_lt_of_le h1 (Nat.pow_le_pow_right (by decide) h)
  · exact natBytes_length_le x size

/-- `FillBytes` of 0 is all zeros -/
theorem fillBytes_zero (size : Nat) : fillBytes size 0 = List.replicate size 0 := by
  induction size with
  | zero => rfl
  | succ n ih =>
    rw [fillBytes, Nat.zero_div, ih, List.replicate_succ']
    rfl

/-! ### test vectors -/

example : encodeECDSASignature 2 1 258 = some [0, 1, 1, 2] := by decide
example : decodeECDSASignature 2 [0, 1, 1, 2] = some (1, 258) := by decide
example : decodeECDSASignature 2 [0, 1, 1] = none := by decide
example : decodeECDSASignature 2 [0, 0, 1, 1, 2] = none := by decide
example : encodeECDSASignature 1 256 1 = none := by decide
example : encodeECDSASignature 1 255 0 = some [255, 0] := by decide
example : encodeECDSASignature 2 (-1) 5 = none := by decide
example : encodeECDSASignature 0 0 0 = some [] := by decide
example : i2osp 65535 2 = some [255, 255] := by decide
example : i2osp 65536 2 = none := by decide
example : bitLen 255 = 8 ∧ bitLen 256 = 9 := by decide
example : natBytes 258 = [1, 2] := by
  simp [natBytes]
example : leftPad 4 (natBytes 258) = [0, 0, 1, 2] := by
  simp [natBytes, leftPad]
example : leftPad 4 (natBytes 0) = [] := by
  simp [natBytes, leftPad]
example : leftPad 1 (natBytes 258) = [1, 2] := by
  simp [natBytes, leftPad]

end CoseModel
