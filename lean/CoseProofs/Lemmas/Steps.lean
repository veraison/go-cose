/-
  CoseProofs.Lemmas.Steps — the one shape behind every Sign and every Verify of the model.

  `Sign1.sign`, `Signature.sign`, `Countersignature.sign` are their argument checks and the
  algorithm gate (`*.signGate`) followed by `signStep`; the three `verify`, `verifyCountersign0` and
  `countersign0` are `callKey` behind `*.verifyGate`.  What a step returns, stores and hands to the
  key is said once, by `signStep_cases` and `callKey_cases`.
-/
import CoseModel.Messages
import CoseModel.HashEnvelope
import CoseProofs.Lemmas.Out
namespace CoseModel

/-! ### verification: gate, ToBeSigned, key -/

/-- the outcome of the checks, then ToBeSigned, then the key on it; second component: what the key
    was called with -/
def callKey (gate : Out Unit) (tbs : Out Bytes) (key : Bytes → Out α) : Out α × List Bytes :=
  match gate >>= fun _ => tbs with
  | .ok t => (key t, [t])
  | .err e => (.err e, [])
  | .panic => (.panic, [])
  | .unmodelled => (.unmodelled, [])

/-- either the key is reached — behind the gate, with the one ToBeSigned, and its verdict is the
    result — or it is not, and the result is not success -/
theorem callKey_cases (gate : Out Unit) (tbs : Out Bytes) (key : Bytes → Out α) :
    (∃ t, gate = .ok () ∧ tbs = .ok t ∧ callKey gate tbs key = (key t, [t])) ∨
    ((callKey gate tbs key).2 = [] ∧ ∀ a, (callKey gate tbs key).1 ≠ .ok a) := by
  cases gate with
  | ok u =>
    cases tbs with
    | ok t => exact .inl ⟨t, rfl, rfl, rfl⟩
    | err e => exact .inr ⟨rfl, nofun⟩
    | panic => exact .inr ⟨rfl, nofun⟩
    | unmodelled => exact .inr ⟨rfl, nofun⟩
  | err e => exact .inr ⟨rfl, nofun⟩
  | panic => exact .inr ⟨rfl, nofun⟩
  | unmodelled => exact .inr ⟨rfl, nofun⟩

theorem callKey_ok_iff {gate : Out Unit} {tbs : Out Bytes} {key : Bytes → Out α} {a : α} :
    (callKey gate tbs key).1 = .ok a ↔ gate = .ok () ∧ ∃ t, tbs = .ok t ∧ key t = .ok a := by
  rcases callKey_cases gate tbs key with ⟨t, hg, ht, heq⟩ | ⟨-, hne⟩
  · rw [heq, hg, ht]
    exact ⟨fun h => ⟨rfl, t, rfl, h⟩, fun ⟨_, _, ht', h⟩ => Out.ok.inj ht' ▸ h⟩
  · refine ⟨fun h => absurd h (hne a), ?_⟩
    rintro ⟨hg, t, ht, hk⟩
    rw [hg, ht] at hne
    exact absurd hk (hne a)

theorem callKey_called {gate : Out Unit} {tbs : Out Bytes} {key : Bytes → Out α}
    (h : (callKey gate tbs key).2 ≠ []) :
    ∃ t, gate = .ok () ∧ tbs = .ok t ∧ callKey gate tbs key = (key t, [t]) := by
  rcases callKey_cases gate tbs key with h' | ⟨h', -⟩
  · exact h'
  · exact absurd h' h

/-- an argument check in front of the gate makes no call -/
theorem callKey_guard (c : Prop) [Decidable c] (e : Err) (gate : Out Unit) (tbs : Out Bytes)
    (key : Bytes → Out α) :
    callKey (if c then .err e else gate) tbs key =
      if c then (.err e, []) else callKey gate tbs key := by
  split <;> rfl

/-- a key that answers every call with the error `e`: never success, `e` once it was reached -/
theorem callKey_failing_key (gate : Out Unit) (tbs : Out Bytes) {key : Bytes → Out α} {e : Err}
    (hk : ∀ t, key t = .err e) :
    (∀ a, (callKey gate tbs key).1 ≠ .ok a) ∧
    ((callKey gate tbs key).2 ≠ [] → (callKey gate tbs key).1 = .err e) := by
  rcases callKey_cases gate tbs key with ⟨t, -, -, heq⟩ | ⟨hc, hne⟩
  · rw [heq, hk t]
    exact ⟨nofun, fun _ => rfl⟩
  · exact ⟨hne, fun h => absurd hc h⟩

/-- what reaches the key, if anything, is the one ToBeSigned, and the key's verdict is the result -/
theorem callKey_calls (gate : Out Unit) (tbs : Out Bytes) (key : Bytes → Out Unit) :
    ((callKey gate tbs key).2 = [] ∧ (callKey gate tbs key).1 ≠ .ok ()) ∨
    ∃ t, (callKey gate tbs key).2 = [t] ∧ (callKey gate tbs key).1 = key t := by
  rcases callKey_cases gate tbs key with ⟨t, -, -, heq⟩ | ⟨hc, hne⟩
  · rw [heq]
    exact .inr ⟨t, rfl, rfl⟩
  · exact .inl ⟨hc, hne ()⟩

def Sign1.verifyGate (m : Sign1Msg) (ext : Option Bytes) (v : Verifier) : Out Unit :=
  if m.payload.isNone then .err .missingPayload
  else if blen m.sig = 0 then .err .emptySig
  else ensureVerificationAlgorithm m.h.p v.alg ext

theorem Sign1.verify_eq (m : Sign1Msg) (ext : Option Bytes) (v : Verifier) :
    Sign1.verify m ext v =
      callKey (Sign1.verifyGate m ext v) (Sign1.toBeSigned m ext)
        (fun t => v.verify t (m.sig.getD [])) := by
  rw [Sign1.verifyGate, callKey_guard, callKey_guard, Sign1.verify]
  cases ensureVerificationAlgorithm m.h.p v.alg ext <;> rfl

theorem Sign1.verifyGate_eq_ok {m : Sign1Msg} {ext : Option Bytes} {v : Verifier} :
    Sign1.verifyGate m ext v = .ok () ↔
      m.payload.isSome ∧ blen m.sig ≠ 0 ∧ ensureVerificationAlgorithm m.h.p v.alg ext = .ok () := by
  rw [Sign1.verifyGate, Out.guard_eq_ok, Out.guard_eq_ok, Bool.not_eq_true,
    Option.isNone_eq_false_iff]

def Signature.verifyGate (sg : SigV) (v : Verifier) (bprot : Bytes) (payload ext : Option Bytes) :
    Out Unit :=
  if payload.isNone then .err .missingPayload
  else if blen sg.sig = 0 then .err .emptySig
  else if !bodyProtOK bprot then .err .other
  else ensureVerificationAlgorithm sg.h.p v.alg ext

theorem Signature.verify_eq (sg : SigV) (v : Verifier) (bprot : Bytes) (payload ext : Option Bytes) :
    Signature.verify sg v bprot payload ext =
      callKey (Signature.verifyGate sg v bprot payload ext)
        (Signature.toBeSigned sg bprot payload ext) (fun t => v.verify t (sg.sig.getD [])) := by
  rw [Signature.verifyGate, callKey_guard, callKey_guard, callKey_guard, Signature.verify]
  cases ensureVerificationAlgorithm sg.h.p v.alg ext <;> rfl

theorem Signature.verifyGate_eq_ok {sg : SigV} {v : Verifier} {bprot : Bytes}
    {payload ext : Option Bytes} :
    Signature.verifyGate sg v bprot payload ext = .ok () ↔
      payload.isSome ∧ blen sg.sig ≠ 0 ∧ bodyProtOK bprot = true ∧
      ensureVerificationAlgorithm sg.h.p v.alg ext = .ok () := by
  rw [Signature.verifyGate, Out.guard_eq_ok, Out.guard_eq_ok, Out.guard_eq_ok,
    Bool.not_eq_true, Option.isNone_eq_false_iff, Bool.not_eq_true, Bool.not_eq_false']

def Countersignature.verifyGate (cs : SigV) (v : Verifier) (ext : Option Bytes) : Out Unit :=
  if blen cs.sig = 0 then .err .emptySig else ensureVerificationAlgorithm cs.h.p v.alg ext

theorem Countersignature.verify_eq (cs : SigV) (v : Verifier) (parent : Parent)
    (ext : Option Bytes) :
    Countersignature.verify cs v parent ext =
      callKey (Countersignature.verifyGate cs v ext) (Countersignature.toBeSigned cs parent ext)
        (fun t => v.verify t (cs.sig.getD [])) := by
  rw [Countersignature.verifyGate, callKey_guard, Countersignature.verify]
  cases ensureVerificationAlgorithm cs.h.p v.alg ext <;> rfl

theorem Countersignature.verifyGate_eq_ok {cs : SigV} {v : Verifier} {ext : Option Bytes} :
    Countersignature.verifyGate cs v ext = .ok () ↔
      blen cs.sig ≠ 0 ∧ ensureVerificationAlgorithm cs.h.p v.alg ext = .ok () := by
  rw [Countersignature.verifyGate, Out.guard_eq_ok]

theorem verifyCountersign0_eq (v : Verifier) (parent : Parent) (ext : Option Bytes) (sig : Bytes) :
    verifyCountersign0 v parent ext sig =
      callKey (.ok ()) (countersignToBeSigned true parent [0x40] ext) (fun t => v.verify t sig) :=
  rfl

/-! ### signing: gate, ToBeSigned, signer, store -/

/-- the signer's reply as every Sign reads it: success without bytes is `ErrEmptySignature` -/
def answer (sign : Bytes → Out Bytes) (t : Bytes) : Out Bytes :=
  sign t >>= fun sig => if sig.length = 0 then .err .emptySig else .ok sig

theorem answer_eq_ok {sign : Bytes → Out Bytes} {t sig : Bytes} :
    answer sign t = .ok sig ↔ sign t = .ok sig ∧ sig ≠ [] := by
  simp [answer, Out.bind_eq_ok, Out.guard_eq_ok]

theorem answer_of_err {sign : Bytes → Out Bytes} {t : Bytes} {e : Err} (h : sign t = .err e) :
    answer sign t = .err e := by
  rw [answer, h]; rfl

theorem answer_of_empty {sign : Bytes → Out Bytes} {t : Bytes} (h : sign t = .ok []) :
    answer sign t = .err .emptySig := by
  rw [answer, h]; rfl

theorem countersign0_eq (s : Signer) (parent : Parent) (ext : Option Bytes) :
    countersign0 s parent ext =
      callKey (.ok ()) (countersignToBeSigned true parent [0x40] ext) (answer s.sign) := by
  unfold countersign0 callKey answer
  rw [Out.bind_ok]
  cases countersignToBeSigned true parent [0x40] ext with
  | ok t =>
    dsimp only
    cases s.sign t with
    | ok sig => exact (apply_ite (fun o => (o, [t])) (sig.length = 0) _ _).symm
    | err e => rfl
    | panic => rfl
    | unmodelled => rfl
  | err e => rfl
  | panic => rfl
  | unmodelled => rfl

/-- what `Sign1Message.Sign`, `Signature.Sign` and `Countersignature.Sign` do once `gate` (their
    argument checks, then `ensureSigningAlgorithm`) has answered: `setP` stores the protected map
    it hands on, `tbs` builds ToBeSigned from the value so updated, `setSig` stores the signature -/
def signStep {σ : Type} (st : σ) (gate : Out GoMap) (setP : GoMap → σ) (tbs : σ → Out Bytes)
    (setSig : σ → Bytes → σ) (sign : Bytes → Out Bytes) : Res σ :=
  match gate with
  | .ok p' =>
    (match tbs (setP p') with
     | .ok t =>
       (match sign t with
        | .ok sig =>
          if sig.length = 0 then ⟨setP p', .err .emptySig, [t]⟩
          else ⟨setSig (setP p') sig, .ok (), [t]⟩
        | .err e => ⟨setP p', .err e, [t]⟩
        | .panic => ⟨setP p', .panic, [t]⟩
        | .unmodelled => ⟨setP p', .unmodelled, [t]⟩)
     | .err e => ⟨setP p', .err e, []⟩
     | .panic => ⟨setP p', .panic, []⟩
     | .unmodelled => ⟨setP p', .unmodelled, []⟩)
  | .err e => ⟨st, .err e, []⟩
  | .panic => ⟨st, .panic, []⟩
  | .unmodelled => ⟨st, .unmodelled, []⟩

/-- an argument check in front of the gate: nothing is touched, nothing is called -/
theorem signStep_guard {σ : Type} (st : σ) (c : Prop) [Decidable c] (e : Err) (gate : Out GoMap)
    (setP : GoMap → σ) (tbs : σ → Out Bytes) (setSig : σ → Bytes → σ) (sign : Bytes → Out Bytes) :
    signStep st (if c then .err e else gate) setP tbs setSig sign =
      if c then ⟨st, .err e, []⟩ else signStep st gate setP tbs setSig sign := by
  split <;> rfl

section
variable {σ : Type} (st : σ) (gate : Out GoMap) (setP : GoMap → σ) (tbs : σ → Out Bytes)
  (setSig : σ → Bytes → σ) (sign : Bytes → Out Bytes)

/-- the three ways a signing step ends: signed; signer reached and no signature stored; signer
    not reached -/
theorem signStep_cases :
    (∃ p' t sig, gate = .ok p' ∧ tbs (setP p') = .ok t ∧ answer sign t = .ok sig ∧
      signStep st gate setP tbs setSig sign = ⟨setSig (setP p') sig, .ok (), [t]⟩) ∨
    (∃ p' t o, gate = .ok p' ∧ tbs (setP p') = .ok t ∧ o ≠ .ok () ∧
      (∀ e, answer sign t = .err e → o = .err e) ∧
      signStep st gate setP tbs setSig sign = ⟨setP p', o, [t]⟩) ∨
    (∃ x o, (x = st ∨ ∃ p', x = setP p') ∧ o ≠ .ok () ∧
      signStep st gate setP tbs setSig sign = ⟨x, o, []⟩) := by
  unfold signStep
  cases gate with
  | ok p' =>
    dsimp only
    cases ht : tbs (setP p') with
    | ok t =>
      dsimp only
      have hans : answer sign t = sign t >>= fun sig =>
        if sig.length = 0 then .err .emptySig else .ok sig := rfl
      cases hs : sign t with
      | ok sig =>
        rw [hs, Out.bind_ok] at hans
        by_cases hz : sig.length = 0
        · rw [if_pos hz] at hans
          refine .inr (.inl ⟨p', t, .err .emptySig, rfl, ht, nofun, fun e h => ?_, if_pos hz⟩)
          rw [hans] at h
          cases h
          rfl
        · exact .inl ⟨p', t, sig, rfl, ht, hans.trans (if_neg hz), if_neg hz⟩
      | err e0 =>
        refine .inr (.inl ⟨p', t, .err e0, rfl, ht, nofun, fun e h => ?_, rfl⟩)
        rw [hans, hs] at h
        cases h
        rfl
      | panic =>
        refine .inr (.inl ⟨p', t, .panic, rfl, ht, nofun, fun e h => ?_, rfl⟩)
        rw [hans, hs] at h
        cases h
      | unmodelled =>
        refine .inr (.inl ⟨p', t, .unmodelled, rfl, ht, nofun, fun e h => ?_, rfl⟩)
        rw [hans, hs] at h
        cases h
    | err e => exact .inr (.inr ⟨setP p', .err e, .inr ⟨p', rfl⟩, nofun, rfl⟩)
    | panic => exact .inr (.inr ⟨setP p', .panic, .inr ⟨p', rfl⟩, nofun, rfl⟩)
    | unmodelled => exact .inr (.inr ⟨setP p', .unmodelled, .inr ⟨p', rfl⟩, nofun, rfl⟩)
  | err e => exact .inr (.inr ⟨st, .err e, .inl rfl, nofun, rfl⟩)
  | panic => exact .inr (.inr ⟨st, .panic, .inl rfl, nofun, rfl⟩)
  | unmodelled => exact .inr (.inr ⟨st, .unmodelled, .inl rfl, nofun, rfl⟩)

/-- success: the gate passed, the signer answered ToBeSigned with a non-empty signature, which
    is stored -/
theorem signStep_ok_inv (hok : (signStep st gate setP tbs setSig sign).out = .ok ()) :
    ∃ p' t sig, gate = .ok p' ∧ tbs (setP p') = .ok t ∧ sign t = .ok sig ∧ sig ≠ [] ∧
      signStep st gate setP tbs setSig sign = ⟨setSig (setP p') sig, .ok (), [t]⟩ := by
  rcases signStep_cases st gate setP tbs setSig sign with
    ⟨p', t, sig, hg, ht, ha, heq⟩ | ⟨_, _, o, -, -, ho, -, heq⟩ | ⟨_, o, -, ho, heq⟩
  · exact ⟨p', t, sig, hg, ht, (answer_eq_ok.mp ha).1, (answer_eq_ok.mp ha).2, heq⟩
  · rw [heq] at hok; exact absurd hok ho
  · rw [heq] at hok; exact absurd hok ho

/-- the signer is reached only behind the gate, with the one ToBeSigned, and its error is the
    result -/
theorem signStep_called (hc : (signStep st gate setP tbs setSig sign).calls ≠ []) :
    ∃ p' t, gate = .ok p' ∧ tbs (setP p') = .ok t ∧
      (signStep st gate setP tbs setSig sign).calls = [t] ∧
      ∀ e, answer sign t = .err e → (signStep st gate setP tbs setSig sign).out = .err e := by
  rcases signStep_cases st gate setP tbs setSig sign with
    ⟨p', t, sig, hg, ht, ha, heq⟩ | ⟨p', t, o, hg, ht, -, he, heq⟩ | ⟨_, o, -, -, heq⟩
  · refine ⟨p', t, hg, ht, by rw [heq], fun e h => ?_⟩
    rw [ha] at h; cases h
  · rw [heq]; exact ⟨p', t, hg, ht, rfl, he⟩
  · rw [heq] at hc; exact absurd rfl hc

/-- failure: whatever of the value `setP` leaves alone is as before -/
theorem signStep_fail_keeps {β : Type} (f : σ → β) (hf : ∀ p', f (setP p') = f st)
    (hne : (signStep st gate setP tbs setSig sign).out ≠ .ok ()) :
    f (signStep st gate setP tbs setSig sign).state = f st := by
  rcases signStep_cases st gate setP tbs setSig sign with
    ⟨_, _, _, -, -, -, heq⟩ | ⟨p', _, _, -, -, -, -, heq⟩ | ⟨_, _, hx, -, heq⟩
  · rw [heq] at hne; exact absurd rfl hne
  · rw [heq]; exact hf p'
  · rw [heq]
    rcases hx with rfl | ⟨p', rfl⟩
    · rfl
    · exact hf p'

/-- a signer whose reply always reads as the error `e`: never success, `e` once it was reached,
    nothing stored -/
theorem signStep_failing_signer {β : Type} (f : σ → β) (hf : ∀ p', f (setP p') = f st) {e : Err}
    (hs : ∀ t, answer sign t = .err e) :
    (signStep st gate setP tbs setSig sign).out ≠ .ok () ∧
    ((signStep st gate setP tbs setSig sign).calls ≠ [] →
      (signStep st gate setP tbs setSig sign).out = .err e) ∧
    f (signStep st gate setP tbs setSig sign).state = f st := by
  have hne : (signStep st gate setP tbs setSig sign).out ≠ .ok () := by
    intro hok
    obtain ⟨_, t, sig, -, -, h1, h2, -⟩ := signStep_ok_inv st gate setP tbs setSig sign hok
    have := hs t
    rw [answer_eq_ok.mpr ⟨h1, h2⟩] at this
    cases this
  refine ⟨hne, fun hc => ?_, signStep_fail_keeps st gate setP tbs setSig sign f hf hne⟩
  obtain ⟨_, t, -, -, -, he⟩ := signStep_called st gate setP tbs setSig sign hc
  exact he e (hs t)

end

def Sign1.signGate (m : Sign1Msg) (ext : Option Bytes) (s : Signer) : Out GoMap :=
  if m.payload.isNone then .err .missingPayload
  else if blen m.sig > 0 then .err .other
  else ensureSigningAlgorithm m.h.rawP m.h.p s.alg ext

theorem Sign1.sign_eq (m : Sign1Msg) (ext : Option Bytes) (s : Signer) :
    Sign1.sign m ext s =
      signStep m (Sign1.signGate m ext s) (fun p' => { m with h := { m.h with p := p' } })
        (Sign1.toBeSigned · ext) (fun m1 sig => { m1 with sig := some sig }) s.sign := by
  rw [Sign1.signGate, signStep_guard, signStep_guard]
  rfl

theorem Sign1.signGate_eq_ok {m : Sign1Msg} {ext : Option Bytes} {s : Signer} {p' : GoMap} :
    Sign1.signGate m ext s = .ok p' ↔
      m.payload.isNone = false ∧ ¬ blen m.sig > 0 ∧
      ensureSigningAlgorithm m.h.rawP m.h.p s.alg ext = .ok p' := by
  rw [Sign1.signGate, Out.guard_eq_ok, Out.guard_eq_ok, Bool.not_eq_true]

def Signature.signGate (sg : SigV) (s : Signer) (bprot : Bytes) (payload ext : Option Bytes) :
    Out GoMap :=
  if payload.isNone then .err .missingPayload
  else if blen sg.sig > 0 then .err .other
  else if !bodyProtOK bprot then .err .other
  else ensureSigningAlgorithm sg.h.rawP sg.h.p s.alg ext

theorem Signature.sign_eq (sg : SigV) (s : Signer) (bprot : Bytes) (payload ext : Option Bytes) :
    Signature.sign sg s bprot payload ext =
      signStep sg (Signature.signGate sg s bprot payload ext)
        (fun p' => { sg with h := { sg.h with p := p' } })
        (Signature.toBeSigned · bprot payload ext) (fun s1 sig => { s1 with sig := some sig })
        s.sign := by
  rw [Signature.signGate, signStep_guard, signStep_guard, signStep_guard]
  rfl

theorem Signature.signGate_eq_ok {sg : SigV} {s : Signer} {bprot : Bytes}
    {payload ext : Option Bytes} {p' : GoMap} :
    Signature.signGate sg s bprot payload ext = .ok p' ↔
      payload.isNone = false ∧ ¬ blen sg.sig > 0 ∧ bodyProtOK bprot = true ∧
      ensureSigningAlgorithm sg.h.rawP sg.h.p s.alg ext = .ok p' := by
  rw [Signature.signGate, Out.guard_eq_ok, Out.guard_eq_ok, Out.guard_eq_ok,
    Bool.not_eq_true, Bool.not_eq_true, Bool.not_eq_false']

def Countersignature.signGate (cs : SigV) (s : Signer) (ext : Option Bytes) : Out GoMap :=
  if blen cs.sig > 0 then .err .other else ensureSigningAlgorithm cs.h.rawP cs.h.p s.alg ext

theorem Countersignature.sign_eq (cs : SigV) (s : Signer) (parent : Parent) (ext : Option Bytes) :
    Countersignature.sign cs s parent ext =
      signStep cs (Countersignature.signGate cs s ext)
        (fun p' => { cs with h := { cs.h with p := p' } })
        (Countersignature.toBeSigned · parent ext) (fun s1 sig => { s1 with sig := some sig })
        s.sign := by
  rw [Countersignature.signGate, signStep_guard]
  rfl

theorem Countersignature.signGate_eq_ok {cs : SigV} {s : Signer} {ext : Option Bytes} {p' : GoMap} :
    Countersignature.signGate cs s ext = .ok p' ↔
      ¬ blen cs.sig > 0 ∧ ensureSigningAlgorithm cs.h.rawP cs.h.p s.alg ext = .ok p' := by
  rw [Countersignature.signGate, Out.guard_eq_ok]

/-- the argument checks of `SignMessage.Sign` / `Verify` (`n` keys were supplied), then the body
    protected bytes every slot signs -/
def Sign.gate (m : SignMsg) (n : Nat) : Out Bytes :=
  if m.payload.isNone then .err .missingPayload
  else if m.sigs.isEmpty then .err .noSignatures
  else if m.sigs.length ≠ n then .err .other
  else marshalProtected m.h

theorem Sign.gate_eq_ok {m : SignMsg} {n : Nat} {bprot : Bytes} :
    Sign.gate m n = .ok bprot ↔
      m.payload.isNone = false ∧ m.sigs.isEmpty = false ∧ m.sigs.length = n ∧
      marshalProtected m.h = .ok bprot := by
  rw [Sign.gate, Out.guard_eq_ok, Out.guard_eq_ok, Out.guard_eq_ok, Bool.not_eq_true,
    Bool.not_eq_true, Decidable.not_not]

/-- `SignMessage.Verify` is the verification loop behind `Sign.gate` -/
theorem Sign.verify_ok_iff {m : SignMsg} {ext : Option Bytes} {vs : List Verifier} :
    (Sign.verify m ext vs).1 = .ok () ↔
      ∃ bprot, Sign.gate m vs.length = .ok bprot ∧
        (verifyLoop bprot m.payload ext m.sigs vs).1 = .ok () := by
  unfold Sign.verify Sign.gate
  by_cases hp : m.payload.isNone = true
  · rw [if_pos hp, if_pos hp]
    simp
  rw [if_neg hp, if_neg hp]
  by_cases he : m.sigs.isEmpty = true
  · rw [if_pos he, if_pos he]
    simp
  rw [if_neg he, if_neg he]
  by_cases hl : m.sigs.length ≠ vs.length
  · rw [if_pos hl, if_pos hl]
    simp
  rw [if_neg hl, if_neg hl]
  cases marshalProtected m.h <;> simp

/-- `SignMessage.Sign` is the signing loop behind `Sign.gate`, or fails and leaves the message as
    it was -/
theorem Sign.sign_cases (m : SignMsg) (ext : Option Bytes) (signers : List Signer) :
    (∃ bprot, Sign.gate m signers.length = .ok bprot ∧
      Sign.sign m ext signers =
        ⟨{ m with sigs := (signLoop bprot m.payload ext m.sigs signers).1 },
          (signLoop bprot m.payload ext m.sigs signers).2.1,
          (signLoop bprot m.payload ext m.sigs signers).2.2⟩) ∨
    ((Sign.sign m ext signers).out ≠ .ok () ∧ (Sign.sign m ext signers).state = m) := by
  unfold Sign.sign Sign.gate
  by_cases hp : m.payload.isNone = true
  · rw [if_pos hp, if_pos hp]
    exact .inr ⟨nofun, rfl⟩
  rw [if_neg hp, if_neg hp]
  by_cases he : m.sigs.isEmpty = true
  · rw [if_pos he, if_pos he]
    exact .inr ⟨nofun, rfl⟩
  rw [if_neg he, if_neg he]
  by_cases hl : m.sigs.length ≠ signers.length
  · rw [if_pos hl, if_pos hl]
    exact .inr ⟨nofun, rfl⟩
  rw [if_neg hl, if_neg hl]
  cases marshalProtected m.h with
  | ok bprot => exact .inl ⟨bprot, rfl, rfl⟩
  | err e => exact .inr ⟨nofun, rfl⟩
  | panic => exact .inr ⟨nofun, rfl⟩
  | unmodelled => exact .inr ⟨nofun, rfl⟩

/-- the `Sign1` / `Sign1Untagged` helpers: sign, and encode what was signed -/
theorem sign1Helper_eq (tagged : Bool) (h : Hdrs) (payload ext : Option Bytes) (s : Signer) :
    sign1Helper tagged h payload ext s =
      ((Sign1.sign { h := h, payload := payload, sig := none } ext s).out >>= fun _ =>
          Sign1.marshal tagged (Sign1.sign { h := h, payload := payload, sig := none } ext s).state,
        (Sign1.sign { h := h, payload := payload, sig := none } ext s).calls) := by
  unfold sign1Helper
  generalize Sign1.sign { h := h, payload := payload, sig := none } ext s = r
  obtain ⟨st, o, calls⟩ := r
  cases o <;> rfl

end CoseModel
