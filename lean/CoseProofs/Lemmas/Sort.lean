/-
  CoseProofs.Lemmas.Sort — the bytewise order on encoded map keys is a strict total order,
  and sorting by an encoded key (`sortPairs`: fxamacker `SortCoreDeterministic`) yields an output
  that does not depend on the (random) Go map iteration order when keys are distinct.
-/
import CoseModel.GoVal
namespace CoseModel

/-! ### `bytesLt` / `bytesLe` : lexicographic order on `List UInt8` -/

@[simp] theorem bytesLt_nil_nil : bytesLt [] [] = false := rfl
@[simp] theorem bytesLt_nil_cons (b : UInt8) (bs : Bytes) : bytesLt [] (b :: bs) = true := rfl
@[simp] theorem bytesLt_cons_nil (a : UInt8) (as : Bytes) : bytesLt (a :: as) [] = false := rfl

theorem bytesLt_cons_cons (a b : UInt8) (as bs : Bytes) :
    bytesLt (a :: as) (b :: bs) = true ↔ (a < b ∨ (a = b ∧ bytesLt as bs = true)) := by
  simp only [bytesLt]
  by_cases h1 : a < b
  · simp [h1]
  · by_cases h2 : b < a
    · have hne : a ≠ b := by
        intro h; subst h; exact UInt8.lt_irrefl _ h2
      simp [h1, h2, hne]
    · have he : a = b := UInt8.le_antisymm (UInt8.not_lt.mp h2) (UInt8.not_lt.mp h1)
      simp [he]

/-- `bytesLt` is core Lean's lexicographic `<` on `List UInt8`, `bytesLe` its `≤`: the order
    facts below are core's -/
theorem bytesLt_iff_lt (a b : Bytes) : bytesLt a b = true ↔ a < b := by
  induction a generalizing b with
  | nil =>
    cases b with
    | nil => exact iff_of_false (fun h => (nomatch h)) (List.not_lt_nil [])
    | cons y ys => exact iff_of_true rfl (List.nil_lt_cons y ys)
  | cons x xs ih =>
    cases b with
    | nil => exact iff_of_false (fun h => (nomatch h)) (List.not_lt_nil _)
    | cons y ys => rw [bytesLt_cons_cons, List.cons_lt_cons_iff, ih]

theorem bytesLe_iff_le (a b : Bytes) : bytesLe a b = true ↔ a ≤ b := by
  rw [bytesLe, Bool.not_eq_true', ← Bool.not_eq_true, bytesLt_iff_lt]
  exact List.not_lt

theorem bytesLe_total (a b : Bytes) : bytesLe a b = true ∨ bytesLe b a = true := by
  rw [bytesLe_iff_le, bytesLe_iff_le]
  exact List.le_total a b

theorem bytesLe_trans {a b c : Bytes} (h1 : bytesLe a b = true) (h2 : bytesLe b c = true) :
    bytesLe a c = true := by
  rw [bytesLe_iff_le] at h1 h2 ⊢
  exact List.le_trans h1 h2

theorem bytesLe_antisymm {a b : Bytes} (h1 : bytesLe a b = true) (h2 : bytesLe b a = true) :
    a = b := by
  rw [bytesLe_iff_le] at h1 h2
  exact List.le_antisymm h1 h2

theorem bytesLt_of_le_of_ne {a b : Bytes} (h : bytesLe a b = true) (hne : a ≠ b) :
    bytesLt a b = true := by
  rw [bytesLe_iff_le, List.le_iff_lt_or_eq] at h
  exact (bytesLt_iff_lt a b).mpr (h.resolve_right hne)

/-- with distinct images under `f`, a member is determined by its image -/
theorem eq_of_map_eq_of_nodup {α β : Type} {f : α → β} {l : List α} (hd : (l.map f).Nodup)
    {a b : α} (ha : a ∈ l) (hb : b ∈ l) (h : f a = f b) : a = b :=
  have hd' : l.Pairwise (fun a b => f a ≠ f b) := List.pairwise_map.mp hd
  List.Pairwise.forall_of_forall_of_flip (R := fun a b => f a = f b → a = b) (fun _ _ _ => rfl)
    (hd'.imp fun hne h => absurd h hne) (hd'.imp fun hne h => absurd h.symm hne) ha hb h

/-! ### sorting by an encoded key: `sortPairs`, and `sortEntries` of `Deep/RoundTrip` -/

section
variable {α : Type} (key : α → Bytes)

theorem mergeSort_key_sorted (l : List α) :
    (l.mergeSort fun a b => bytesLe (key a) (key b)).Pairwise
      fun a b => bytesLe (key a) (key b) = true :=
  List.pairwise_mergeSort (le := fun a b => bytesLe (key a) (key b)) (fun _ _ _ => bytesLe_trans)
    (fun a b => Bool.or_eq_true_iff.mpr (bytesLe_total (key a) (key b))) l

/-- a sorted permutation of a list with distinct keys is what the sort returns: the output does
    not depend on the order of the input.  (Also how a test vector is sorted: `List.mergeSort`
    does not reduce.) -/
theorem mergeSort_key_eq_of_perm {l l' : List α} (hp : l.Perm l') (hd : (l.map key).Nodup)
    (hs : l'.Pairwise fun a b => bytesLe (key a) (key b) = true) :
    (l.mergeSort fun a b => bytesLe (key a) (key b)) = l' := by
  have hm := List.mergeSort_perm l fun a b => bytesLe (key a) (key b)
  refine List.Perm.eq_of_pairwise (le := fun a b => bytesLe (key a) (key b) = true) ?_
    (mergeSort_key_sorted key l) hs (hm.trans hp)
  intro a b ha hb hab hba
  exact eq_of_map_eq_of_nodup hd (hm.mem_iff.mp ha) (hp.mem_iff.mpr hb) (bytesLe_antisymm hab hba)

end

/-! ### `sortPairs` -/

theorem sortPairs_perm (l : List (Bytes × Bytes)) : (sortPairs l).Perm l :=
  List.mergeSort_perm l _

theorem sortPairs_length (l : List (Bytes × Bytes)) : (sortPairs l).length = l.length :=
  (sortPairs_perm l).length_eq

theorem sortPairs_sorted (l : List (Bytes × Bytes)) :
    (sortPairs l).Pairwise (fun a b => bytesLe a.1 b.1 = true) :=
  mergeSort_key_sorted Prod.fst l

theorem sortPairs_eq_of_perm {l l' : List (Bytes × Bytes)} (hp : l.Perm l')
    (hd : (l.map Prod.fst).Nodup) (hs : l'.Pairwise (fun a b => bytesLe a.1 b.1 = true)) :
    sortPairs l = l' :=
  mergeSort_key_eq_of_perm Prod.fst hp hd hs

/-- the sorted entry list is independent of Go's (random) map iteration order -/
theorem sortPairs_perm_invariant (l l' : List (Bytes × Bytes)) (hp : l.Perm l')
    (hd : (l.map Prod.fst).Nodup) : sortPairs l = sortPairs l' :=
  sortPairs_eq_of_perm (hp.trans (sortPairs_perm l').symm) hd (sortPairs_sorted l')

theorem sortPairs_of_sorted (l : List (Bytes × Bytes))
    (h : l.Pairwise (fun a b => bytesLe a.1 b.1 = true)) : sortPairs l = l :=
  List.mergeSort_of_pairwise (le := fun (a b : Bytes × Bytes) => bytesLe a.1 b.1) h

end CoseModel
