/-
  CoseProofs.Lemmas.Head — a CBOR head of width `w` carries its argument as `w.len` big-endian
  bytes, and reading them back gives the argument.  Base-256 digit lists are treated least
  significant digit first, where both round trips are plain inductions; `beBytes` / `beVal` are
  their reversals, and `headBytes` / `parseHead` are put in those terms once per width.
-/
import CoseModel.Cbor
namespace CoseModel

/-- the `k` low-order base-256 digits of `n`, least significant first -/
def leBytes : Nat → Nat → Bytes
  | 0, _ => []
  | k + 1, n => UInt8.ofNat n :: leBytes k (n / 256)

/-- the number with base-256 digits `bs`, least significant first -/
def leVal : Bytes → Nat
  | [] => 0
  | b :: r => b.toNat + 256 * leVal r

theorem leBytes_length (k n : Nat) : (leBytes k n).length = k := by
  induction k generalizing n with
  | zero => rfl
  | succ k ih => simp only [leBytes, List.length_cons, ih]

theorem leVal_leBytes (k n : Nat) : leVal (leBytes k n) = n % 256 ^ k := by
  induction k generalizing n with
  | zero => simp only [leBytes, leVal, Nat.pow_zero, Nat.mod_one]
  | succ k ih =>
    have h : n % 256 ^ (k + 1) = n % 256 + 256 * (n / 256 % 256 ^ k) := by
      rw [Nat.pow_succ, Nat.mul_comm, Nat.mod_mul]
    rw [leBytes, leVal, ih, h]
    rfl

theorem leVal_lt (bs : Bytes) : leVal bs < 256 ^ bs.length := by
  induction bs with
  | nil => decide
  | cons b r ih =>
    have := b.toNat_lt
    rw [leVal, List.length_cons, Nat.pow_succ]
    omega

theorem leBytes_leVal (bs : Bytes) : leBytes bs.length (leVal bs) = bs := by
  induction bs with
  | nil => rfl
  | cons b r ih =>
    have := b.toNat_lt
    have h1 : (b.toNat + 256 * leVal r) / 256 = leVal r := by omega
    have h2 : UInt8.ofNat (b.toNat + 256 * leVal r) = b :=
      UInt8.toNat_inj.mp (by rw [UInt8.toNat_ofNat']; omega)
    rw [List.length_cons, leVal, leBytes, h1, h2, ih]


/-- `k` big-endian bytes of `n` -/
def beBytes (k n : Nat) : Bytes := (leBytes k n).reverse

/-- the value of a big-endian byte string -/
def beVal (bs : Bytes) : Nat := leVal bs.reverse

theorem beBytes_length (k n : Nat) : (beBytes k n).length = k := by
  rw [beBytes, List.length_reverse, leBytes_length]

theorem beVal_beBytes {k n : Nat} (h : n < 256 ^ k) : beVal (beBytes k n) = n := by
  rw [beVal, beBytes, List.reverse_reverse, leVal_leBytes, Nat.mod_eq_of_lt h]

theorem beVal_lt (bs : Bytes) : beVal bs < 256 ^ bs.length := by
  have := leVal_lt bs.reverse
  rwa [List.length_reverse] at this

theorem beBytes_beVal (bs : Bytes) : beBytes bs.length (beVal bs) = bs := by
  have := leBytes_leVal bs.reverse
  rw [List.length_reverse] at this
  rw [beBytes, beVal, this, List.reverse_reverse]

theorem leVal_append (xs ys : Bytes) :
    leVal (xs ++ ys) = leVal xs + 256 ^ xs.length * leVal ys := by
  induction xs with
  | nil => rw [List.nil_append, leVal, List.length_nil, Nat.pow_zero, Nat.one_mul, Nat.zero_add]
  | cons b r ih =>
    rw [List.cons_append, leVal, leVal, ih, List.length_cons, Nat.pow_succ, Nat.mul_add,
      Nat.add_assoc, Nat.mul_comm _ 256, Nat.mul_assoc]

/-- the leading byte of a big-endian string weighs `256 ^` the number of bytes after it -/
theorem beVal_cons (b : UInt8) (bs : Bytes) :
    beVal (b :: bs) = b.toNat * 256 ^ bs.length + beVal bs := by
  rw [beVal, List.reverse_cons, leVal_append, List.length_reverse, leVal, leVal, Nat.mul_zero,
    Nat.add_zero, Nat.mul_comm, Nat.add_comm]
  rfl

/-- number of argument bytes after the initial byte -/
def HW.len : HW → Nat
  | .imm => 0 | .w1 => 1 | .w2 => 2 | .w4 => 4 | .w8 => 8

theorem HW.fits_iff {w : HW} (hw : w ≠ .imm) {n : Nat} : w.fits n = true ↔ n < 256 ^ w.len := by
  cases w with
  | imm => exact absurd rfl hw
  | _ => exact decide_eq_true_iff

theorem HW.fits_lt {w : HW} {n : Nat} (h : w.fits n = true) : n < 18446744073709551616 := by
  cases w <;> simp only [HW.fits, decide_eq_true_eq] at h <;> omega

theorem ofNat_mod256 (x : Nat) : UInt8.ofNat (x % 256) = UInt8.ofNat x := UInt8.ofNat_mod_size

theorem headBytes_be (m n : Nat) {w : HW} (hw : w ≠ .imm) :
    headBytes m w n = UInt8.ofNat (m * 32 + w.ai) :: beBytes w.len n := by
  cases w with
  | imm => exact absurd rfl hw
  | _ =>
    simp only [headBytes, HW.ai, HW.len, beBytes, leBytes, List.reverse_cons, List.reverse_nil,
      List.nil_append, List.cons_append, Nat.div_div_eq_div_mul, Nat.reduceMul, ofNat_mod256]


theorem parseHead_imm (b : UInt8) (r : Bytes) (h : b.toNat % 32 < 24) :
    parseHead (b :: r) = some (b.toNat / 32, .imm, b.toNat % 32, r) :=
  if_pos h

/-- reading a head whose argument is carried by the bytes `body` -/
theorem parseHead_be (b : UInt8) {w : HW} (hw : w ≠ .imm) (body r : Bytes)
    (hlen : body.length = w.len) (hai : b.toNat % 32 = w.ai) :
    parseHead (b :: (body ++ r)) = some (b.toNat / 32, w, beVal body, r) := by
  match w, hw, body, hlen with
  | .w1, _, [b1], _ | .w2, _, [b1, b2], _ | .w4, _, [b1, b2, b3, b4], _
  | .w8, _, [b1, b2, b3, b4, b5, b6, b7, b8], _ =>
    simp only [parseHead, hai, HW.ai, Nat.reduceLT, Nat.reduceEqDiff, reduceIte, List.cons_append,
      List.nil_append, beVal_cons, List.length_cons, List.length_nil, Nat.reduceAdd, Nat.reducePow,
      Nat.mul_one, Nat.add_assoc]
    rfl

/-- the initial byte of a head: major type in the high three bits, additional information below -/
theorem initialByte (m a : Nat) (hm : m < 8) (ha : a < 32) :
    (UInt8.ofNat (m * 32 + a)).toNat / 32 = m ∧ (UInt8.ofNat (m * 32 + a)).toNat % 32 = a := by
  rw [UInt8.toNat_ofNat', Nat.mod_eq_of_lt (by omega), Nat.mul_comm, Nat.mul_add_div (by decide),
    Nat.mul_add_mod, Nat.div_eq_of_lt ha, Nat.mod_eq_of_lt ha]
  exact ⟨rfl, rfl⟩

theorem HW.ai_lt (w : HW) : w.ai < 32 := by
  cases w <;> decide

/-- the initial byte of a head carries the major type -/
theorem headBytes_major {m n : Nat} {w : HW} (hm : m < 8) (hf : w.fits n = true) :
    ∃ b tl, headBytes m w n = b :: tl ∧ b.toNat / 32 = m := by
  by_cases hw : w = .imm
  · subst hw
    have hn : n < 24 := of_decide_eq_true hf
    exact ⟨_, [], rfl, (initialByte m n hm (by omega)).1⟩
  · exact ⟨_, _, headBytes_be m n hw, (initialByte m w.ai hm w.ai_lt).1⟩

theorem parseHead_headBytes (m n : Nat) (w : HW) (r : Bytes) (hm : m < 8) (hf : w.fits n = true) :
    parseHead (headBytes m w n ++ r) = some (m, w, n, r) := by
  by_cases hw : w = .imm
  · subst hw
    have hn : n < 24 := of_decide_eq_true hf
    obtain ⟨h1, h2⟩ := initialByte m n hm (by omega)
    rw [headBytes, List.cons_append, List.nil_append, parseHead_imm _ _ (by omega), h1, h2]
  · obtain ⟨h1, h2⟩ := initialByte m w.ai hm w.ai_lt
    rw [headBytes_be m n hw, List.cons_append,
      parseHead_be _ hw _ r (beBytes_length _ _) h2, h1, beVal_beBytes ((HW.fits_iff hw).mp hf)]


/-- the head whose initial byte is `b` and whose argument bytes are `body` -/
theorem headBytes_beVal (b : UInt8) {w : HW} (hw : w ≠ .imm) (body : Bytes)
    (hlen : body.length = w.len) (hai : b.toNat % 32 = w.ai) :
    headBytes (b.toNat / 32) w (beVal body) = b :: body ∧ w.fits (beVal body) = true := by
  have hb : UInt8.ofNat (b.toNat / 32 * 32 + w.ai) = b := by
    rw [← hai, Nat.div_add_mod', UInt8.ofNat_toNat]
  have hlt := beVal_lt body
  rw [hlen] at hlt
  rw [headBytes_be _ _ hw, hb, ← hlen, beBytes_beVal]
  exact ⟨rfl, (HW.fits_iff hw).mpr hlt⟩

theorem parseHead_be_sound (b : UInt8) {w : HW} (hw : w ≠ .imm) (body r : Bytes)
    (hlen : body.length = w.len) (hai : b.toNat % 32 = w.ai) {m : Nat} {w' : HW} {n : Nat}
    {rest : Bytes} (h : parseHead (b :: (body ++ r)) = some (m, w', n, rest)) :
    b :: (body ++ r) = headBytes m w' n ++ rest ∧ m < 8 ∧ w'.fits n = true := by
  have hb := b.toNat_lt
  obtain ⟨h1, h2⟩ := headBytes_beVal b hw body hlen hai
  rw [parseHead_be b hw body r hlen hai] at h
  cases h
  exact ⟨by rw [h1]; rfl, by omega, h2⟩

theorem parseHead_sound {bs : Bytes} {m : Nat} {w : HW} {n : Nat} {rest : Bytes}
    (h : parseHead bs = some (m, w, n, rest)) :
    bs = headBytes m w n ++ rest ∧ m < 8 ∧ w.fits n = true := by
  -- the case analysis rewrites the copy; `h` stays about `parseHead`, as `parseHead_be_sound` wants
  have h' := h
  revert h'
  fun_cases parseHead bs
  case case2 b tl _ _ hai =>
    have hb := b.toNat_lt
    rw [parseHead_imm b tl hai] at h
    cases h
    refine fun _ => ⟨?_, by omega, decide_eq_true hai⟩
    rw [headBytes, Nat.div_add_mod', UInt8.ofNat_toNat]
    rfl
  case case3 b _ _ _ hai b1 r =>
    exact fun _ => parseHead_be_sound b (w := .w1) (by decide) [b1] r rfl hai h
  case case5 b _ _ _ _ hai b1 b2 r =>
    exact fun _ => parseHead_be_sound b (w := .w2) (by decide) [b1, b2] r rfl hai h
  case case7 b _ _ _ _ _ hai b1 b2 b3 b4 r =>
    exact fun _ => parseHead_be_sound b (w := .w4) (by decide) [b1, b2, b3, b4] r rfl hai h
  case case9 b _ _ _ _ _ _ hai b1 b2 b3 b4 b5 b6 b7 b8 r =>
    exact fun _ => parseHead_be_sound b (w := .w8) (by decide) [b1, b2, b3, b4, b5, b6, b7, b8] r
      rfl hai h
  all_goals exact fun h' => nomatch h'

end CoseModel
