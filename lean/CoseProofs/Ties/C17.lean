/-
  CoseProofs.Ties.C17 — reviewed baseline of the syntactic facts of /repo that the argument for C17 rests on
  (generated by tools/gen_ties.py, by hand, after review — never at check time), and one theorem per
  fact: the facts regenerated from the current source equal the baseline.  Nothing imports this module.
-/
import CoseModel.Generated.Facts
open CoseModel

namespace C17.Expected

def table_NewSigner : List String := [
  "case AlgorithmPS256,AlgorithmPS384,AlgorithmPS512 | calls errors.New,fmt.Errorf,publicKeyOf,vk.N.BitLen | guards  | ret nil, fmt.Errorf(\"%v: %w\", alg, ErrInvalidPubKey)",
  "case AlgorithmES256,AlgorithmES384,AlgorithmES512 | calls fmt.Errorf,publicKeyOf | guards  | ret nil, fmt.Errorf(\"%v: %w\", alg, ErrInvalidPubKey)",
  "case AlgorithmEdDSA | calls fmt.Errorf,len,publicKeyOf | guards !ok || len(vk) != ed25519.PublicKeySize | ret nil, fmt.Errorf(\"%v: %w\", alg, ErrInvalidPubKey)",
  "case AlgorithmReserved | calls  | guards  | ret ",
  "case AlgorithmRS256,AlgorithmRS384,AlgorithmRS512 | calls  | guards  | ret ",
  "case default | calls  | guards  | ret "
]

def table_NewVerifier : List String := [
  "case AlgorithmPS256,AlgorithmPS384,AlgorithmPS512 | calls errors.New,fmt.Errorf,vk.N.BitLen | guards  | ret nil, fmt.Errorf(\"%v: %w\", alg, ErrInvalidPubKey)",
  "case AlgorithmES256,AlgorithmES384,AlgorithmES512 | calls err.Error,fmt.Errorf,vk.ECDH | guards  | ret nil, fmt.Errorf(\"%v: %w\", alg, ErrInvalidPubKey)",
  "case AlgorithmEdDSA | calls fmt.Errorf,len | guards !ok || len(vk) != ed25519.PublicKeySize | ret nil, fmt.Errorf(\"%v: %w\", alg, ErrInvalidPubKey)",
  "case AlgorithmReserved | calls  | guards  | ret ",
  "case AlgorithmRS256,AlgorithmRS384,AlgorithmRS512 | calls  | guards  | ret ",
  "case default | calls  | guards  | ret "
]

def body_ecdsaKeySigner_Sign : List String := [
  "digest, err := es.alg.computeHash(content)",
  "if err != nil { return nil, err }",
  "return es.SignDigest(rand, digest)"
]

def body_ecdsaCryptoSigner_Sign : List String := [
  "digest, err := es.alg.computeHash(content)",
  "if err != nil { return nil, err }",
  "return es.SignDigest(rand, digest)"
]

def body_ecdsaVerifier_Verify : List String := [
  "digest, err := ev.alg.computeHash(content)",
  "if err != nil { return err }",
  "return ev.VerifyDigest(digest, signature)"
]

def body_rsaSigner_Sign : List String := [
  "digest, err := rs.alg.computeHash(content)",
  "if err != nil { return nil, err }",
  "return rs.SignDigest(rand, digest)"
]

def body_rsaVerifier_Verify : List String := [
  "digest, err := rv.alg.computeHash(content)",
  "if err != nil { return err }",
  "return rv.VerifyDigest(digest, signature)"
]

def body_Algorithm_computeHash : List String := [
  "return computeHash(a.hashFunc(), data)"
]

def body_computeHash : List String := [
  "if !h.Available() { return nil, ErrUnavailableHashFunc }",
  "hh := h.New()",
  "if _, err := hh.Write(data); err != nil { return nil, err }",
  "return hh.Sum(nil), nil"
]

end C17.Expected

namespace C17
theorem facts_table_NewSigner : Facts.table_NewSigner = C17.Expected.table_NewSigner := rfl
theorem facts_table_NewVerifier : Facts.table_NewVerifier = C17.Expected.table_NewVerifier := rfl
theorem facts_body_ecdsaKeySigner_Sign : Facts.body_ecdsaKeySigner_Sign = C17.Expected.body_ecdsaKeySigner_Sign := rfl
theorem facts_body_ecdsaCryptoSigner_Sign : Facts.body_ecdsaCryptoSigner_Sign = C17.Expected.body_ecdsaCryptoSigner_Sign := rfl
theorem facts_body_ecdsaVerifier_Verify : Facts.body_ecdsaVerifier_Verify = C17.Expected.body_ecdsaVerifier_Verify := rfl
theorem facts_body_rsaSigner_Sign : Facts.body_rsaSigner_Sign = C17.Expected.body_rsaSigner_Sign := rfl
theorem facts_body_rsaVerifier_Verify : Facts.body_rsaVerifier_Verify = C17.Expected.body_rsaVerifier_Verify := rfl
theorem facts_body_Algorithm_computeHash : Facts.body_Algorithm_computeHash = C17.Expected.body_Algorithm_computeHash := rfl
theorem facts_body_computeHash : Facts.body_computeHash = C17.Expected.body_computeHash := rfl

/-- the algorithm identifiers the decision tables use are those of the source -/
theorem facts_algorithms :
    Facts.consts.lookup "AlgorithmPS256" = some (-37) ∧ Facts.consts.lookup "AlgorithmPS384" = some (-38) ∧
    Facts.consts.lookup "AlgorithmPS512" = some (-39) ∧ Facts.consts.lookup "AlgorithmES256" = some (-7) ∧
    Facts.consts.lookup "AlgorithmES384" = some (-35) ∧ Facts.consts.lookup "AlgorithmES512" = some (-36) ∧
    Facts.consts.lookup "AlgorithmEdDSA" = some (-8) ∧ Facts.consts.lookup "AlgorithmReserved" = some 0 ∧
    Facts.consts.lookup "AlgorithmRS256" = some (-257) ∧ Facts.consts.lookup "AlgorithmRS384" = some (-258) ∧
    Facts.consts.lookup "AlgorithmRS512" = some (-259) := by decide +kernel
/-- the hash table of the source: PS256/ES256 → SHA-256, …384 → SHA-384, …512 → SHA-512 -/
theorem facts_hash_table :
    Facts.hashTable = [("AlgorithmPS256", "crypto.SHA256"), ("AlgorithmES256", "crypto.SHA256"),
      ("AlgorithmSHA256", "crypto.SHA256"), ("AlgorithmPS384", "crypto.SHA384"), ("AlgorithmES384", "crypto.SHA384"),
      ("AlgorithmSHA384", "crypto.SHA384"), ("AlgorithmPS512", "crypto.SHA512"), ("AlgorithmES512", "crypto.SHA512"),
      ("AlgorithmSHA512", "crypto.SHA512")] := rfl
end C17
