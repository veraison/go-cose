/-
  CoseProofs.Ties.C10 — reviewed baseline of the syntactic facts of /repo that the argument for C10 rests on
  (generated by tools/gen_ties.py, by hand, after review — never at check time), and one theorem per
  fact: the facts regenerated from the current source equal the baseline.  Nothing imports this module.
-/
import CoseModel.Generated.Facts
open CoseModel

namespace C10.Expected

def table_countersignToBeSigned : List String := [
  "case *SignMessage | calls countersignToBeSigned | guards  | ret countersignToBeSigned(abbreviated, *t, signProtected, extern",
  "case SignMessage | calls errors.New,len,t.Headers.MarshalProtected | guards len(t.Signatures) == 0,sig == nil || len(sig.Signature) == 0 | ret nil, errors.New(\"SignMessage has no signatures yet\")",
  "case *Sign1Message | calls countersignToBeSigned | guards  | ret countersignToBeSigned(abbreviated, *t, signProtected, extern",
  "case Sign1Message | calls deterministicBinaryString,encMode.Marshal,errors.New,len,t.Headers.MarshalProtected | guards len(t.Signature) == 0 | ret nil, errors.New(\"Sign1Message was not signed yet\")",
  "case *Signature | calls countersignToBeSigned | guards  | ret countersignToBeSigned(abbreviated, *t, signProtected, extern",
  "case Signature | calls errors.New,len,t.Headers.MarshalProtected | guards len(t.Signature) == 0 | ret nil, err",
  "case *Countersignature | calls countersignToBeSigned | guards  | ret countersignToBeSigned(abbreviated, *t, signProtected, extern",
  "case Countersignature | calls errors.New,len,t.Headers.MarshalProtected | guards len(t.Signature) == 0 | ret nil, err",
  "case default | calls fmt.Errorf | guards  | ret nil, fmt.Errorf(\"unsupported target %T\", target)"
]

def body_Countersign0 : List String := [
  "toBeSigned, err := countersignToBeSigned(true, parent, []byte{0x40}, external)",
  "if err != nil { return nil, err }",
  "sig, err := signer.Sign(rand, toBeSigned)",
  "if err != nil { return nil, err }",
  "if len(sig) == 0 { return nil, ErrEmptySignature }",
  "return sig, nil"
]

def body_VerifyCountersign0 : List String := [
  "toBeSigned, err := countersignToBeSigned(true, parent, []byte{0x40}, external)",
  "if err != nil { return err }",
  "return verifier.Verify(toBeSigned, signature)"
]

def body_deterministicBinaryString : List String := [
  "if len(data) == 0 { return nil, io.EOF }",
  "if data[0]>>5 != 2 { return nil, errors.New(\"cbor: require bstr type\") }",
  "if err := decModeWithTagsForbidden.Wellformed(data); err != nil { return nil, err }",
  "ai := data[0] & 0x1f",
  "if ai < 24 { return data, nil }",
  "switch ai { case 24: if data[1] >= 24 { return data, nil } case 25: if data[1] != 0 { return data, nil } case 26: if data[1] != 0 || data[2] != 0 { return data, nil } case 27: if data[1] != 0 || data[2] != 0 || data[3] != 0 || data[4] != 0 { return data, nil } }",
  "var s []byte",
  "_ = decModeWithTagsForbidden.Unmarshal(data, &s)",
  "return encMode.Marshal(s)"
]

end C10.Expected

namespace C10
theorem facts_table_countersignToBeSigned : Facts.table_countersignToBeSigned = C10.Expected.table_countersignToBeSigned := rfl
theorem facts_body_Countersign0 : Facts.body_Countersign0 = C10.Expected.body_Countersign0 := rfl
theorem facts_body_VerifyCountersign0 : Facts.body_VerifyCountersign0 = C10.Expected.body_VerifyCountersign0 := rfl
theorem facts_body_deterministicBinaryString : Facts.body_deterministicBinaryString = C10.Expected.body_deterministicBinaryString := rfl

/-- the four context strings of the source, in the order of the branches
    (abbreviated / full without other_fields, abbreviated / full with other_fields) -/
theorem ctx_countersign :
    Facts.ctxCountersign = ["CounterSignature0", "CounterSignature", "CounterSignature0V2", "CounterSignatureV2"] := rfl
/-- the abbreviated form passes h'' (0x40) as sign_protected, for signing and for verifying -/
theorem abbrev_sign_protected : Facts.abbrevSignProtected = [0x40] ∧ Facts.abbrevSignProtectedVerify = [0x40] :=
  ⟨rfl, rfl⟩
end C10
