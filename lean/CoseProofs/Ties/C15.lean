/-
  CoseProofs.Ties.C15 — reviewed baseline of the syntactic facts of /repo that the argument for C15 rests on
  (generated by tools/gen_ties.py, by hand, after review — never at check time), and one theorem per
  fact: the facts regenerated from the current source equal the baseline.  Nothing imports this module.
-/
import CoseModel.Generated.Facts
open CoseModel

namespace C15.Expected

def table_Key_deriveAlgorithm : List String := [
  "case KeyTypeEC2 | calls k.EC2 | guards  | ret ",
  "case CurveP256 | calls  | guards  | ret AlgorithmES256, nil",
  "case CurveP384 | calls  | guards  | ret AlgorithmES384, nil",
  "case CurveP521 | calls  | guards  | ret AlgorithmES512, nil",
  "case default | calls crv.String,fmt.Errorf | guards  | ret AlgorithmReserved, fmt.Errorf( \"unsupported curve %q for key",
  "case KeyTypeOKP | calls k.OKP | guards  | ret ",
  "case CurveEd25519 | calls  | guards  | ret AlgorithmEdDSA, nil",
  "case default | calls crv.String,fmt.Errorf | guards  | ret AlgorithmReserved, fmt.Errorf( \"unsupported curve %q for key",
  "case default | calls fmt.Errorf,k.Type.String | guards  | ret AlgorithmReserved, fmt.Errorf(\"unexpected key type %q\", k.Ty"
]

def table_curveSize : List String := [
  "case CurveP256 | calls elliptic.P256,elliptic.P256().Params | guards  | ret ",
  "case CurveP384 | calls elliptic.P384,elliptic.P384().Params | guards  | ret ",
  "case CurveP521 | calls elliptic.P521,elliptic.P521().Params | guards  | ret "
]

def table_KeyOpFromString : List String := [
  "case \"sign\" | calls  | guards  | ret KeyOpSign, true",
  "case \"verify\" | calls  | guards  | ret KeyOpVerify, true",
  "case \"encrypt\" | calls  | guards  | ret KeyOpEncrypt, true",
  "case \"decrypt\" | calls  | guards  | ret KeyOpDecrypt, true",
  "case \"wrapKey\" | calls  | guards  | ret KeyOpWrapKey, true",
  "case \"unwrapKey\" | calls  | guards  | ret KeyOpUnwrapKey, true",
  "case \"deriveKey\" | calls  | guards  | ret KeyOpDeriveKey, true",
  "case \"deriveBits\" | calls  | guards  | ret KeyOpDeriveBits, true",
  "case default | calls  | guards  | ret KeyOpReserved, false"
]

def table_Key_validate : List String := [
  "case KeyTypeEC2 | calls curveSize,fmt.Errorf,k.EC2,k.paramIsBstr,len | guards crv == CurveReserved || (len(x) == 0 && len(y) == 0 && len(d) == 0),len(x) > size || len(y) > size || len(d) > size | ret fmt.Errorf(\"%w: x, y or d of the wrong type\", ErrInvalidKey)",
  "case KeyOpVerify | calls len | guards len(x) == 0 || len(y) == 0 | ret ErrEC2NoPub",
  "case KeyOpSign | calls len | guards len(d) == 0 | ret ErrNotPrivKey",
  "case CurveX25519,CurveX448,CurveEd25519,CurveEd448 | calls  | guards  | ret errInvalidCurve",
  "case default | calls  | guards  | ret ",
  "case KeyTypeOKP | calls fmt.Errorf,k.OKP,k.paramIsBstr,len | guards (len(x) > 0 && len(x) != ed25519.PublicKeySize) || (len(d) > 0 && len(d) != ed25519.SeedSize),crv == CurveReserved || (len(x) == 0 && len(d) == 0) | ret fmt.Errorf(\"%w: x or d of the wrong type\", ErrInvalidKey)",
  "case KeyOpVerify | calls len | guards len(x) == 0 | ret ErrOKPNoPub",
  "case KeyOpSign | calls len | guards len(d) == 0 | ret ErrNotPrivKey",
  "case CurveP256,CurveP384,CurveP521 | calls  | guards  | ret errInvalidCurve",
  "case default | calls  | guards  | ret ",
  "case KeyTypeSymmetric | calls k.Symmetric,len | guards len(k) == 0 | ret errReqParamsMissing",
  "case KeyTypeReserved | calls fmt.Errorf | guards  | ret fmt.Errorf(\"%w: kty value 0\", ErrInvalidKey)",
  "case default | calls  | guards  | ret "
]

def table_Key_UnmarshalCBOR : List String := [
  "case int64 | calls KeyOp | guards  | ret ",
  "case string | calls KeyOpFromString,fmt.Errorf | guards  | ret fmt.Errorf(\"key_ops: unknown entry value %q\", op)",
  "case default | calls fmt.Errorf | guards  | ret fmt.Errorf(\"key_ops: invalid entry type %T\", op)",
  "case int64 | calls Curve,fmt.Errorf | guards  | ret fmt.Errorf(\"crv: invalid type: expected int64, got %T\", v)",
  "case string | calls  | guards  | ret ",
  "case default | calls fmt.Errorf | guards  | ret fmt.Errorf(\"invalid label type %T\", lbl)"
]

def body_ensureUntaggedHeaderLabels : List String := [
  "if len(data) == 0 || data[0]>>5 != 5 { if _, found := scanSelfDescribedTag(data, 0); found { return errors.New(\"cbor: header: self-described CBOR tag isn't allowed\") } return nil }",
  "n, off := headArgument(data, 0)",
  "for ; n > 0 && off < len(data); n-- { isUint := data[off]>>5 == 0 label, _ := headArgument(data, off) next, found := scanSelfDescribedTag(data, off) if found { return errors.New(\"cbor: header label: self-described CBOR tag isn't allowed\") } off, found = scanSelfDescribedTag(data, next) if found && (checked == nil || isUint && checked(label)) { return errors.New(\"cbor: header parameter: self-described CBOR tag isn't allowed\") } }",
  "return nil"
]

def body_headArgument : List String := [
  "if off >= len(data) { return 0, len(data) }",
  "ai := data[off] & 0x1f",
  "next = off + 1",
  "switch { case ai < 24: return uint64(ai), next case ai <= 27: w := 1 << (ai - 24) if next+w > len(data) { return 0, len(data) } for _, b := range data[next : next+w] { n = n<<8 | uint64(b) } return n, next + w }",
  "return 0, len(data)"
]

def body_scanSelfDescribedTag : List String := [
  "if off >= len(data) { return len(data), false }",
  "major := data[off] >> 5",
  "n, next := headArgument(data, off)",
  "switch major { case 2, 3: if n > uint64(len(data)-next) { return len(data), false } next += int(n) case 4, 5: if major == 5 { n *= 2 } for ; n > 0 && next < len(data); n-- { var f bool next, f = scanSelfDescribedTag(data, next) found = found || f } case 6: var f bool next, f = scanSelfDescribedTag(data, next) found = f || n == 55799 }",
  "return next, found"
]

end C15.Expected

namespace C15
theorem facts_table_Key_deriveAlgorithm : Facts.table_Key_deriveAlgorithm = C15.Expected.table_Key_deriveAlgorithm := rfl
theorem facts_table_curveSize : Facts.table_curveSize = C15.Expected.table_curveSize := rfl
theorem facts_table_KeyOpFromString : Facts.table_KeyOpFromString = C15.Expected.table_KeyOpFromString := rfl
theorem facts_table_Key_validate : Facts.table_Key_validate = C15.Expected.table_Key_validate := rfl
theorem facts_table_Key_UnmarshalCBOR : Facts.table_Key_UnmarshalCBOR = C15.Expected.table_Key_UnmarshalCBOR := rfl
theorem facts_body_ensureUntaggedHeaderLabels : Facts.body_ensureUntaggedHeaderLabels = C15.Expected.body_ensureUntaggedHeaderLabels := rfl
theorem facts_body_headArgument : Facts.body_headArgument = C15.Expected.body_headArgument := rfl
theorem facts_body_scanSelfDescribedTag : Facts.body_scanSelfDescribedTag = C15.Expected.body_scanSelfDescribedTag := rfl

theorem facts_key_constants :
    Facts.consts.lookup "KeyTypeOKP" = some 1 ∧ Facts.consts.lookup "KeyTypeEC2" = some 2 ∧
    Facts.consts.lookup "KeyTypeSymmetric" = some 4 ∧ Facts.consts.lookup "KeyTypeReserved" = some 0 ∧
    Facts.consts.lookup "KeyOpSign" = some 1 ∧ Facts.consts.lookup "KeyOpVerify" = some 2 ∧
    Facts.consts.lookup "keyLabelKeyType" = some 1 ∧ Facts.consts.lookup "keyLabelKeyOps" = some 4 ∧
    Facts.consts.lookup "keyLabelAlgorithm" = some 3 := by decide +kernel
end C15
