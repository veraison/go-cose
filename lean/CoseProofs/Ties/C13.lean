/-
  CoseProofs.Ties.C13 — reviewed baseline of the syntactic facts of /repo that the argument for C13 rests on
  (generated by tools/gen_ties.py, by hand, after review — never at check time), and one theorem per
  fact: the facts regenerated from the current source equal the baseline.  Nothing imports this module.
-/
import CoseModel.Generated.Facts
open CoseModel

namespace C13.Expected

def table_validateHeaderParameters : List String := [
  "case HeaderLabelAlgorithm | calls canInt,canTstr,errors.New | guards  | ret errors.New(\"header parameter: alg: require int / tstr type\")",
  "case HeaderLabelCritical | calls ensureCritical,errors.New,fmt.Errorf | guards !protected | ret errors.New(\"header parameter: crit: not allowed\")",
  "case HeaderLabelType | calls canTstr,canUint,errors.New,len,strings.Count | guards len(v) == 0,v[0] == ' ' || v[len(v)-1] == ' ' | ret errors.New(\"header parameter: type: require tstr / uint type",
  "case HeaderLabelContentType | calls canTstr,canUint,errors.New,len,strings.Count | guards len(v) == 0,v[0] == ' ' || v[len(v)-1] == ' ' | ret errors.New(\"header parameter: content type: require tstr / u",
  "case HeaderLabelKeyID | calls canBstr,errors.New | guards  | ret errors.New(\"header parameter: kid: require bstr type\")",
  "case HeaderLabelIV | calls canBstr,errors.New,hasLabel | guards  | ret errors.New(\"header parameter: IV: require bstr type\")",
  "case HeaderLabelPartialIV | calls canBstr,errors.New,hasLabel | guards  | ret errors.New(\"header parameter: Partial IV: require bstr type\"",
  "case HeaderLabelCounterSignature | calls errors.New,isCountersignatureValue | guards protected | ret errors.New(\"header parameter: counter signature: not allowed",
  "case HeaderLabelCounterSignature0 | calls canBstr,errors.New | guards protected | ret errors.New(\"header parameter: countersignature0: not allowed",
  "case HeaderLabelCounterSignatureV2 | calls errors.New,isCountersignatureValue | guards protected | ret errors.New(\"header parameter: Countersignature version 2: no",
  "case HeaderLabelCounterSignature0V2 | calls canBstr,errors.New | guards protected | ret errors.New(\"header parameter: Countersignature0 version 2: n"
]

def table_normalizeLabel : List String := [
  "case int | calls int64 | guards  | ret ",
  "case int8 | calls int64 | guards  | ret ",
  "case int16 | calls int64 | guards  | ret ",
  "case int32 | calls int64 | guards  | ret ",
  "case int64 | calls int64 | guards  | ret ",
  "case uint | calls int64,uint64 | guards  | ret nil, false",
  "case uint8 | calls int64 | guards  | ret ",
  "case uint16 | calls int64 | guards  | ret ",
  "case uint32 | calls int64 | guards  | ret ",
  "case uint64 | calls int64 | guards  | ret nil, false",
  "case string | calls  | guards  | ret ",
  "case default | calls  | guards  | ret nil, false"
]

def table_canUint : List String := [
  "case uint,uint8,uint16,uint32,uint64 | calls  | guards  | ret true",
  "case int | calls  | guards  | ret v >= 0",
  "case int8 | calls  | guards  | ret v >= 0",
  "case int16 | calls  | guards  | ret v >= 0",
  "case int32 | calls  | guards  | ret v >= 0",
  "case int64 | calls  | guards  | ret v >= 0"
]

def table_canInt : List String := [
  "case int,int8,int16,int32,int64,uint,uint8,uint16,uint32,uint64 | calls  | guards  | ret true"
]

def body_validateHeaderLabelCBOR : List String := [
  "var header map[headerLabelValidator]discardedCBORMessage",
  "if err := decMode.Unmarshal(data, &header); err != nil { return err }",
  "return ensureUntaggedHeaderLabels(data, typeCheckedHeaderLabel)"
]

def body_ensureUntaggedHeaderLabels : List String := [
  "if len(data) == 0 || data[0]>>5 != 5 { if _, found := scanSelfDescribedTag(data, 0); found { return errors.New(\"cbor: header: self-described CBOR tag isn't allowed\") } return nil }",
  "n, off := headArgument(data, 0)",
  "for ; n > 0 && off < len(data); n-- { isUint := data[off]>>5 == 0 label, _ := headArgument(data, off) next, found := scanSelfDescribedTag(data, off) if found { return errors.New(\"cbor: header label: self-described CBOR tag isn't allowed\") } off, found = scanSelfDescribedTag(data, next) if found && (checked == nil || isUint && checked(label)) { return errors.New(\"cbor: header parameter: self-described CBOR tag isn't allowed\") } }",
  "return nil"
]

def body_typeCheckedHeaderLabel : List String := [
  "switch int64(label) { case HeaderLabelAlgorithm, HeaderLabelCritical, HeaderLabelContentType, HeaderLabelKeyID, HeaderLabelIV, HeaderLabelPartialIV, HeaderLabelCounterSignature, HeaderLabelCounterSignature0, HeaderLabelCounterSignatureV2, HeaderLabelCounterSignature0V2, HeaderLabelType, HeaderLabelPayloadHashAlgorithm, HeaderLabelPayloadPreimageContentType, HeaderLabelPayloadLocation: return true }",
  "return false"
]

def body_headArgument : List String := [
  "if off >= len(data) { return 0, len(data) }",
  "ai := data[off] & 0x1f",
  "next = off + 1",
  "switch { case ai < 24: return uint64(ai), next case ai <= 27: w := 1 << (ai - 24) if next+w > len(data) { return 0, len(data) } for _, b := range data[next : next+w] { n = n<<8 | uint64(b) } return n, next + w }",
  "return 0, len(data)"
]

def body_scanSelfDescribedTag : List String := [
  "if off >= len(data) { return len(data), false }",
  "major := data[off] >> 5",
  "n, next := headArgument(data, off)",
  "switch major { case 2, 3: if n > uint64(len(data)-next) { return len(data), false } next += int(n) case 4, 5: if major == 5 { n *= 2 } for ; n > 0 && next < len(data); n-- { var f bool next, f = scanSelfDescribedTag(data, next) found = found || f } case 6: var f bool next, f = scanSelfDescribedTag(data, next) found = f || n == 55799 }",
  "return next, found"
]

end C13.Expected

namespace C13
theorem facts_table_validateHeaderParameters : Facts.table_validateHeaderParameters = C13.Expected.table_validateHeaderParameters := rfl
theorem facts_table_normalizeLabel : Facts.table_normalizeLabel = C13.Expected.table_normalizeLabel := rfl
theorem facts_table_canUint : Facts.table_canUint = C13.Expected.table_canUint := rfl
theorem facts_table_canInt : Facts.table_canInt = C13.Expected.table_canInt := rfl
theorem facts_body_validateHeaderLabelCBOR : Facts.body_validateHeaderLabelCBOR = C13.Expected.body_validateHeaderLabelCBOR := rfl
theorem facts_body_ensureUntaggedHeaderLabels : Facts.body_ensureUntaggedHeaderLabels = C13.Expected.body_ensureUntaggedHeaderLabels := rfl
theorem facts_body_typeCheckedHeaderLabel : Facts.body_typeCheckedHeaderLabel = C13.Expected.body_typeCheckedHeaderLabel := rfl
theorem facts_body_headArgument : Facts.body_headArgument = C13.Expected.body_headArgument := rfl
theorem facts_body_scanSelfDescribedTag : Facts.body_scanSelfDescribedTag = C13.Expected.body_scanSelfDescribedTag := rfl

theorem facts_labels :
    Facts.consts.lookup "HeaderLabelAlgorithm" = some 1 ∧ Facts.consts.lookup "HeaderLabelCritical" = some 2 ∧
    Facts.consts.lookup "HeaderLabelContentType" = some 3 ∧ Facts.consts.lookup "HeaderLabelKeyID" = some 4 ∧
    Facts.consts.lookup "HeaderLabelIV" = some 5 ∧ Facts.consts.lookup "HeaderLabelPartialIV" = some 6 ∧
    Facts.consts.lookup "HeaderLabelCounterSignature" = some 7 ∧
    Facts.consts.lookup "HeaderLabelCounterSignature0" = some 9 ∧
    Facts.consts.lookup "HeaderLabelCounterSignatureV2" = some 11 ∧
    Facts.consts.lookup "HeaderLabelCounterSignature0V2" = some 12 ∧
    Facts.consts.lookup "HeaderLabelType" = some 16 := by decide +kernel
end C13
