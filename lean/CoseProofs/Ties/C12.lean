/-
  CoseProofs.Ties.C12 — reviewed baseline of the syntactic facts of /repo that the argument for C12 rests on
  (generated by tools/gen_ties.py, by hand, after review — never at check time), and one theorem per
  fact: the facts regenerated from the current source equal the baseline.  Nothing imports this module.
-/
import CoseModel.Generated.Facts
open CoseModel

namespace C12.Expected

def table_validateHashEnvelopeHeaders : List String := [
  "case HeaderLabelContentType | calls errors.New | guards  | ret errors.New(\"protected header parameter: content type: not al",
  "case HeaderLabelPayloadHashAlgorithm | calls canInt,errors.New | guards  | ret errors.New(\"protected header parameter: payload hash alg: re",
  "case HeaderLabelPayloadPreimageContentType | calls canText,canUint,errors.New | guards  | ret errors.New(\"protected header parameter: payload preimage con",
  "case HeaderLabelPayloadLocation | calls canText,errors.New | guards  | ret errors.New(\"protected header parameter: payload location: re",
  "case HeaderLabelContentType | calls errors.New | guards  | ret errors.New(\"unprotected header parameter: content type: not ",
  "case HeaderLabelPayloadHashAlgorithm | calls errors.New | guards  | ret errors.New(\"unprotected header parameter: payload hash alg: ",
  "case HeaderLabelPayloadPreimageContentType | calls errors.New | guards  | ret errors.New(\"unprotected header parameter: payload preimage c",
  "case HeaderLabelPayloadLocation | calls errors.New | guards  | ret errors.New(\"unprotected header parameter: payload location: "
]

def table_ProtectedHeader_PayloadHashAlgorithm : List String := [
  "case Algorithm | calls  | guards  | ret alg, nil",
  "case int | calls Algorithm | guards  | ret Algorithm(alg), nil",
  "case int8 | calls Algorithm | guards  | ret Algorithm(alg), nil",
  "case int16 | calls Algorithm | guards  | ret Algorithm(alg), nil",
  "case int32 | calls Algorithm | guards  | ret Algorithm(alg), nil",
  "case int64 | calls Algorithm | guards  | ret Algorithm(alg), nil",
  "case default | calls  | guards  | ret AlgorithmReserved, ErrInvalidAlgorithm"
]

end C12.Expected

namespace C12
theorem facts_table_validateHashEnvelopeHeaders : Facts.table_validateHashEnvelopeHeaders = C12.Expected.table_validateHashEnvelopeHeaders := rfl
theorem facts_table_ProtectedHeader_PayloadHashAlgorithm : Facts.table_ProtectedHeader_PayloadHashAlgorithm = C12.Expected.table_ProtectedHeader_PayloadHashAlgorithm := rfl

theorem facts_labels :
    Facts.consts.lookup "HeaderLabelPayloadHashAlgorithm" = some 258 ∧
    Facts.consts.lookup "HeaderLabelPayloadPreimageContentType" = some 259 ∧
    Facts.consts.lookup "HeaderLabelPayloadLocation" = some 260 ∧
    Facts.consts.lookup "HeaderLabelContentType" = some 3 ∧
    Facts.consts.lookup "AlgorithmSHA256" = some (-16) ∧ Facts.consts.lookup "AlgorithmSHA384" = some (-43) ∧
    Facts.consts.lookup "AlgorithmSHA512" = some (-44) := by decide +kernel
end C12
