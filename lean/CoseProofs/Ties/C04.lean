/-
  CoseProofs.Ties.C04 — reviewed baseline of the syntactic facts of /repo that the argument for C04 rests on
  (generated by tools/gen_ties.py, by hand, after review — never at check time), and one theorem per
  fact: the facts regenerated from the current source equal the baseline.  Nothing imports this module.
-/
import CoseModel.Generated.Facts
open CoseModel

namespace C04.Expected

def table_ProtectedHeader_Algorithm : List String := [
  "case Algorithm | calls  | guards  | ret alg, nil",
  "case int | calls Algorithm | guards  | ret Algorithm(alg), nil",
  "case int8 | calls Algorithm | guards  | ret Algorithm(alg), nil",
  "case int16 | calls Algorithm | guards  | ret Algorithm(alg), nil",
  "case int32 | calls Algorithm | guards  | ret Algorithm(alg), nil",
  "case int64 | calls Algorithm | guards  | ret Algorithm(alg), nil",
  "case string | calls fmt.Errorf | guards  | ret AlgorithmReserved, fmt.Errorf(\"Algorithm(%q): %w\", alg, ErrA",
  "case default | calls  | guards  | ret AlgorithmReserved, ErrInvalidAlgorithm"
]

def table_Headers_ensureSigningAlgorithm : List String := [
  "case nil | calls fmt.Errorf | guards  | ret fmt.Errorf(\"%w: signer %v: header %v\", ErrAlgorithmMismatch,",
  "case ErrAlgorithmNotFound | calls len,make,protected.SetAlgorithm | guards len(external) > 0 | ret nil"
]

def table_Headers_ensureVerificationAlgorithm : List String := [
  "case nil | calls fmt.Errorf | guards  | ret fmt.Errorf(\"%w: verifier %v: header %v\", ErrAlgorithmMismatc",
  "case ErrAlgorithmNotFound | calls len | guards len(external) > 0 | ret nil"
]

end C04.Expected

namespace C04
theorem facts_table_ProtectedHeader_Algorithm : Facts.table_ProtectedHeader_Algorithm = C04.Expected.table_ProtectedHeader_Algorithm := rfl
theorem facts_table_Headers_ensureSigningAlgorithm : Facts.table_Headers_ensureSigningAlgorithm = C04.Expected.table_Headers_ensureSigningAlgorithm := rfl
theorem facts_table_Headers_ensureVerificationAlgorithm : Facts.table_Headers_ensureVerificationAlgorithm = C04.Expected.table_Headers_ensureVerificationAlgorithm := rfl

/-- the label the lookups use is the `alg` label of the source -/
theorem facts_alg_label : Facts.consts.lookup "HeaderLabelAlgorithm" = some 1 := by decide +kernel
end C04
