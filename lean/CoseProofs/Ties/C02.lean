/-
  CoseProofs.Ties.C02 — reviewed baseline of the syntactic facts of /repo that the argument for C02 rests on
  (generated by tools/gen_ties.py, by hand, after review — never at check time), and one theorem per
  fact: the facts regenerated from the current source equal the baseline.  Nothing imports this module.
-/
import CoseModel.Generated.Facts
open CoseModel

namespace C02.Expected

def body_deterministicBinaryString : List String := [
  "if len(data) == 0 { return nil, io.EOF }",
  "if data[0]>>5 != 2 { return nil, errors.New(\"cbor: require bstr type\") }",
  "if err := decModeWithTagsForbidden.Wellformed(data); err != nil { return nil, err }",
  "ai := data[0] & 0x1f",
  "if ai < 24 { return data, nil }",
  "switch ai { case 24: if data[1] >= 24 { return data, nil } case 25: if data[1] != 0 { return data, nil } case 26: if data[1] != 0 || data[2] != 0 { return data, nil } case 27: if data[1] != 0 || data[2] != 0 || data[3] != 0 || data[4] != 0 { return data, nil } }",
  "var s []byte",
  "_ = decModeWithTagsForbidden.Unmarshal(data, &s)",
  "return encMode.Marshal(s)"
]

end C02.Expected

namespace C02
theorem facts_body_deterministicBinaryString : Facts.body_deterministicBinaryString = C02.Expected.body_deterministicBinaryString := rfl

/-- context strings in the Go source are the RFC's -/
theorem ctx_sign1 : Facts.ctxSign1 = ["Signature1"] := rfl
theorem ctx_signature : Facts.ctxSignature = ["Signature"] := rfl
end C02
