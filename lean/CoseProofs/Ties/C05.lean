/-
  CoseProofs.Ties.C05 — reviewed baseline of the syntactic facts of /repo that the argument for C05 rests on
  (generated by tools/gen_ties.py, by hand, after review — never at check time), and one theorem per
  fact: the facts regenerated from the current source equal the baseline.  Nothing imports this module.
-/
import CoseModel.Generated.Facts
open CoseModel

namespace C05.Expected

def body_validateHeaderLabelCBOR : List String := [
  "var header map[headerLabelValidator]discardedCBORMessage",
  "if err := decMode.Unmarshal(data, &header); err != nil { return err }",
  "return ensureUntaggedHeaderLabels(data, typeCheckedHeaderLabel)"
]

def body_ensureUntaggedHeaderLabels : List String := [
  "if len(data) == 0 || data[0]>>5 != 5 { if _, found := scanSelfDescribedTag(data, 0); found { return errors.New(\"cbor: header: self-described CBOR tag isn't allowed\") } return nil }",
  "n, off := headArgument(data, 0)",
  "for ; n > 0 && off < len(data); n-- { isUint := data[off]>>5 == 0 label, _ := headArgument(data, off) next, found := scanSelfDescribedTag(data, off) if found { return errors.New(\"cbor: header label: self-described CBOR tag isn't allowed\") } off, found = scanSelfDescribedTag(data, next) if found && (checked == nil || isUint && checked(label)) { return errors.New(\"cbor: header parameter: self-described CBOR tag isn't allowed\") } }",
  "return nil"
]

def body_typeCheckedHeaderLabel : List String := [
  "switch int64(label) { case HeaderLabelAlgorithm, HeaderLabelCritical, HeaderLabelContentType, HeaderLabelKeyID, HeaderLabelIV, HeaderLabelPartialIV, HeaderLabelCounterSignature, HeaderLabelCounterSignature0, HeaderLabelCounterSignatureV2, HeaderLabelCounterSignature0V2, HeaderLabelType, HeaderLabelPayloadHashAlgorithm, HeaderLabelPayloadPreimageContentType, HeaderLabelPayloadLocation: return true }",
  "return false"
]

def body_headArgument : List String := [
  "if off >= len(data) { return 0, len(data) }",
  "ai := data[off] & 0x1f",
  "next = off + 1",
  "switch { case ai < 24: return uint64(ai), next case ai <= 27: w := 1 << (ai - 24) if next+w > len(data) { return 0, len(data) } for _, b := range data[next : next+w] { n = n<<8 | uint64(b) } return n, next + w }",
  "return 0, len(data)"
]

def body_scanSelfDescribedTag : List String := [
  "if off >= len(data) { return len(data), false }",
  "major := data[off] >> 5",
  "n, next := headArgument(data, off)",
  "switch major { case 2, 3: if n > uint64(len(data)-next) { return len(data), false } next += int(n) case 4, 5: if major == 5 { n *= 2 } for ; n > 0 && next < len(data); n-- { var f bool next, f = scanSelfDescribedTag(data, next) found = found || f } case 6: var f bool next, f = scanSelfDescribedTag(data, next) found = f || n == 55799 }",
  "return next, found"
]

end C05.Expected

namespace C05
theorem facts_body_validateHeaderLabelCBOR : Facts.body_validateHeaderLabelCBOR = C05.Expected.body_validateHeaderLabelCBOR := rfl
theorem facts_body_ensureUntaggedHeaderLabels : Facts.body_ensureUntaggedHeaderLabels = C05.Expected.body_ensureUntaggedHeaderLabels := rfl
theorem facts_body_typeCheckedHeaderLabel : Facts.body_typeCheckedHeaderLabel = C05.Expected.body_typeCheckedHeaderLabel := rfl
theorem facts_body_headArgument : Facts.body_headArgument = C05.Expected.body_headArgument := rfl
theorem facts_body_scanSelfDescribedTag : Facts.body_scanSelfDescribedTag = C05.Expected.body_scanSelfDescribedTag := rfl

theorem facts_prefixes :
    Facts.sign1MessagePrefix = [0xd2, 0x84] ∧ Facts.signMessagePrefix = [0xd8, 0x62, 0x84] ∧
    Facts.signaturePrefix = [0x83] ∧
    Facts.consts.lookup "CBORTagSign1Message" = some 18 ∧ Facts.consts.lookup "CBORTagSignMessage" = some 98 := by
  decide +kernel
end C05
