/-
  CoseProofs.Ties.C14 — reviewed baseline of the syntactic facts of /repo that the argument for C14 rests on
  (generated by tools/gen_ties.py, by hand, after review — never at check time), and one theorem per
  fact: the facts regenerated from the current source equal the baseline.  Nothing imports this module.
-/
import CoseModel.Generated.Facts
open CoseModel

namespace C14.Expected

end C14.Expected

namespace C14

theorem facts_labels :
    Facts.consts.lookup "KeyLabelEC2X" = some (-2) ∧ Facts.consts.lookup "KeyLabelEC2Y" = some (-3) ∧
    Facts.consts.lookup "KeyLabelEC2D" = some (-4) ∧ Facts.consts.lookup "KeyLabelEC2Curve" = some (-1) ∧
    Facts.consts.lookup "CurveP256" = some 1 ∧ Facts.consts.lookup "CurveP384" = some 2 ∧
    Facts.consts.lookup "CurveP521" = some 3 ∧ Facts.consts.lookup "CurveEd25519" = some 6 := by decide +kernel
end C14
