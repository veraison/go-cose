/-
  Deep/WireClosure — the wire round trip of COSE_Sign1 and of the hash envelope for messages
  built from header maps (no retained raw header bytes) whose labels and values are scalar
  (`RoundTrip.FlatMap`).  `Sign` leaves the protected map flat (`sign_gate_flat`: at most the
  entry `int64(1): Algorithm` is added), the two flat buckets cross the wire (`protWire_flat`,
  `unprotWire_flat`), and everything above the buckets is `Deep/WireGeneric`, where namespace
  `WireClosure` begins (`ProtWire`, `UnprotWire`, `sign1_wire`, `henv_closed` … are there).

  Hypotheses that remain, and why:
  * `Matches s v`: crypto is a parameter (the verifier accepts what the signer produces,
    signatures are non-empty, same algorithm id).
  * `rawP = rawU = none`, `FlatMap`: the scope.  Valid UTF-8 inside `FlatMap` is library
    behaviour: the encoder emits a Go string as is, the decoder refuses invalid UTF-8
    (`C01.flat_needs_utf8`).
  * `UintOK`: true of every Go program; the model's `GoVal.int` does not enforce it
    (`C08.protected_bucket_roundtrip_needs_uintOK`).
  * `m.h.p.length < maxElems`, `m.h.u.length ≤ maxElems`: the decoder's `MaxMapPairs`; strict for
    the protected map because `Sign` may add `alg`.
  * `blen m.payload < 2^64`, `hsl`: a CBOR head cannot say more; true of every Go slice.
  * `int64Range s.alg`: Go's `Algorithm` is an `int64`, the model's `Int` is not
    (`C01.sign1_wire_flat_needs_halg`).
  * `hok`, `henc`: "the library signed and encoded it".  That the payload is present follows
    from `hok`; the length of the encoded protected bucket is bounded because the bytes passed
    `deterministicBinaryString` when the message was signed.
  * `sign1_wire_flat_alg` only, `hnx`: with external data and no `alg`, go-cose signs without
    inserting one, and the decoded message names none either
    (`C01.sign1_wire_flat_alg_needs_hnx`; it still verifies).
  * `henv_closed_flat` only: `h.rawU = none`, `h.p.length + 3 < maxElems` (three governed labels
    and `alg` may be added), `p.alg` in int64, a flat preimage content type, a valid UTF-8
    location, and `hpl`: only for a hash algorithm id unknown to the library (no length check) the
    hash value is assumed shorter than 2^64 bytes.  Nothing is asked of `h.rawP`:
    `SignHashEnvelope` clears it.
-/
import CoseModel.Messages
import CoseModel.HashEnvelope
import CoseProofs.Deep.WireGeneric
open CoseModel CoseSpec RoundTrip

namespace WireClosure

/-! ### the two buckets of a flat map across the wire -/

theorem protWire_flat {p : GoMap} (hf : FlatMap p) (hu : ∀ e ∈ p, UintOK e.2)
    (hlen : p.length ≤ maxElems) : ProtWire p ((sortEntries p).map decEntry) :=
  protWire_by valWire normVal hf.label (hf.itemOK encCfg 1) hf.decode (hf.validate_sorted true hu)
    (algorithmOf_sorted_decEntry hf.label) hlen

/-- the map item `mapWire u` is within the parser's limits wherever it can stand at all -/
theorem unprotWire_flat {d : Nat} {u : GoMap} (hf : FlatMap u) (hu : ∀ e ∈ u, UintOK e.2)
    (hlen : u.length ≤ maxElems) (hd : d + 1 ≤ maxNested) :
    UnprotWire d u ((sortEntries u).map normEntry) :=
  unprotWire_by valWire normVal hf.label
    (fun hv e he => ⟨hf.itemOK encCfg (d + 1) e he, hf.unprotDecode hv e he⟩)
    (hf.validate_sorted false hu) hlen hd

/-! ### what signing leaves in the protected map is still flat -/

theorem flatMap_set {h : GoMap} {k v : GoVal} (hf : FlatMap h) (hk : FlatLabel k) (hv : FlatVal v) :
    FlatMap (h.set k v) :=
  forall_mem_set hf hk hv

theorem flatLabel_lbl {n : Int} (hn : int64Range n) : FlatLabel (lbl n) := by
  simpa [lbl, FlatLabel] using hn

/-- the protected map after the signing gate (no raw protected bytes retained): still flat, at most
    one entry longer -/
theorem sign_gate_flat {p p' : GoMap} {alg : Int} {ext : Option Bytes}
    (hg : ensureSigningAlgorithm none p alg ext = .ok p')
    (hf : FlatMap p) (hu : ∀ e ∈ p, UintOK e.2) (ha : int64Range alg) :
    FlatMap p' ∧ (∀ e ∈ p', UintOK e.2) ∧ p'.length ≤ p.length + 1 :=
  ⟨sign_gate_keeps hg hf (flatMap_set hf (flatLabel_lbl (by decide)) ha),
    sign_gate_keeps (C := fun g => ∀ e ∈ g, UintOK e.2) hg hu (uintOK_set hu (by simp [UintOK])),
    sign_gate_length hg⟩

theorem gated_flat {p : GoMap} (hf : FlatMap p) (hu : ∀ e ∈ p, UintOK e.2)
    (hl : p.length < maxElems) : GatedProtWire (fun g => (sortEntries g).map decEntry) p := by
  intro alg ext p1 ha hg
  obtain ⟨hf', hu', hl'⟩ := sign_gate_flat hg hf hu ha
  exact protWire_flat hf' hu' (by omega)

/-! ### the hash-envelope rules on a flat bucket -/

theorem kind_normVal {v : GoVal} (hv : FlatVal v) (hu : UintOK v) :
    (algKind v = true → algKind (normVal v) = true) ∧
    (canUint v = true → canUint (normVal v) = true) ∧
    (canText v = true → canText (normVal v) = true) := by
  cases v <;> simp only [FlatVal] at hv <;> simp [normVal, canInt, canUint, canText, algKind]
  case int k n =>
    simp only [UintOK] at hu
    -- `normVal` retypes to the signed `int64`; for an unsigned kind `canUint` asks `0 ≤ n`: `hu`
    cases hs : k.signed <;> simp_all [IntKind.signed]

theorem hashWire_flat {p u : GoMap} (hf : FlatMap p) (hu : ∀ e ∈ p, UintOK e.2)
    (hlen : p.length ≤ maxElems) (hfu : FlatMap u) :
    HashWire p ((sortEntries p).map decEntry) u ((sortEntries u).map normEntry) where
  prot := protWire_flat hf hu hlen
  rules := hashRules_decoded decEntry normEntry
    (fun e he b hb => by
      obtain ⟨k1, k2, k3⟩ := kind_normVal (hf e he).2 (hu e he)
      exact protEntry_castEntry (protEntry_congr (e' := normEntry e)
        (normalizeLabel_normVal (hf e he).1) k1 k2 k3 hb))
    (fun e he => by simp only [normEntry]; exact normalizeLabel_normVal (hfu e he).1)
  alg hv := payloadHashAlgorithm_decoded decEntry (C08.protected_lookup_roundtrip p hf hv)
    (fun e he hne hv2 => by
      have hk : normVal e.1 = lbl 258 := by
        rw [normalizeLabel_flat (hf e he).1] at hne; exact Option.some.inj hne
      rw [C08.decEntry_other (by rw [hk]; simp [lbl]), hv2]; rfl)

end WireClosure

namespace C01
open WireClosure

/-- COSE_Sign1, end to end (tagged or untagged): a message with flat header maps that the
    library signed and encoded is decoded by the library, the decoded message verifies under the
    matching verifier with the same external data, and carries the signed payload and the signer's
    signature.  That the library decodes it and that the algorithm gate passes are conclusions. -/
theorem sign1_wire_flat (tagged : Bool) (m : Sign1Msg) (ext : Option Bytes) (s : Signer)
    (v : Verifier) (b : Bytes) (hm : Matches s v)
    (hrp : m.h.rawP = none) (hru : m.h.rawU = none)
    (hfp : FlatMap m.h.p) (hfu : FlatMap m.h.u)
    (hup : ∀ e ∈ m.h.p, UintOK e.2) (huu : ∀ e ∈ m.h.u, UintOK e.2)
    (hlp : m.h.p.length < maxElems) (hlu : m.h.u.length ≤ maxElems)
    (hpl : blen m.payload < 18446744073709551616) (halg : int64Range s.alg)
    (hsl : ∀ t sg, s.sign t = .ok sg → sg.length < 18446744073709551616)
    (hok : (Sign1.sign m ext s).out = .ok ())
    (henc : Sign1.marshal tagged (Sign1.sign m ext s).state = .ok b) :
    ∃ m2, Sign1.unmarshal tagged b = .ok m2 ∧ (Sign1.verify m2 ext v).1 = .ok () ∧
      m2.payload = m.payload ∧ m2.sig = (Sign1.sign m ext s).state.sig := by
  obtain ⟨m2, h1, h2, h3, h4, -⟩ :=
    sign1_wire _ tagged m ext s v b hm hrp hru (gated_flat hfp hup hlp)
      (unprotWire_flat hfu huu hlu (by decide)) hpl halg hsl hok henc
  exact ⟨m2, h1, h2, h3, h4⟩

/-- detached payload, end to end: sign, encode without the payload (`payload := nil`), decode,
    put the original payload back, verify.  No bound on the payload. -/
theorem sign1_wire_detached_flat (tagged : Bool) (m : Sign1Msg) (ext : Option Bytes) (s : Signer)
    (v : Verifier) (b : Bytes) (hm : Matches s v)
    (hrp : m.h.rawP = none) (hru : m.h.rawU = none)
    (hfp : FlatMap m.h.p) (hfu : FlatMap m.h.u)
    (hup : ∀ e ∈ m.h.p, UintOK e.2) (huu : ∀ e ∈ m.h.u, UintOK e.2)
    (hlp : m.h.p.length < maxElems) (hlu : m.h.u.length ≤ maxElems)
    (halg : int64Range s.alg)
    (hsl : ∀ t sg, s.sign t = .ok sg → sg.length < 18446744073709551616)
    (hok : (Sign1.sign m ext s).out = .ok ())
    (henc : Sign1.marshal tagged { (Sign1.sign m ext s).state with payload := none } = .ok b) :
    ∃ m2, Sign1.unmarshal tagged b = .ok m2 ∧
      (Sign1.verify { m2 with payload := m.payload } ext v).1 = .ok () ∧ m2.payload = none ∧
      m2.sig = (Sign1.sign m ext s).state.sig := by
  obtain ⟨m2, hdec, hpay, hs2, hver, -⟩ :=
    sign1_wire_with _ tagged m ext s v none b hm hrp hru (gated_flat hfp hup hlp)
      (unprotWire_flat hfu huu hlu (by decide)) (by simp [blen]) halg hsl hok henc
  exact ⟨m2, hdec, hver, hpay, hs2⟩

/-- the algorithm `Algorithm()` reports on the decoded message is the signer's — except where
    go-cose signs without an `alg` parameter: the caller's protected map has none and external
    data is supplied; then the decoded message has none either -/
theorem sign1_wire_flat_alg_cases (tagged : Bool) (m : Sign1Msg) (ext : Option Bytes) (s : Signer)
    (v : Verifier) (b : Bytes) (hm : Matches s v)
    (hrp : m.h.rawP = none) (hru : m.h.rawU = none)
    (hfp : FlatMap m.h.p) (hfu : FlatMap m.h.u)
    (hup : ∀ e ∈ m.h.p, UintOK e.2) (huu : ∀ e ∈ m.h.u, UintOK e.2)
    (hlp : m.h.p.length < maxElems) (hlu : m.h.u.length ≤ maxElems)
    (hpl : blen m.payload < 18446744073709551616) (halg : int64Range s.alg)
    (hsl : ∀ t sg, s.sign t = .ok sg → sg.length < 18446744073709551616)
    (hok : (Sign1.sign m ext s).out = .ok ())
    (henc : Sign1.marshal tagged (Sign1.sign m ext s).state = .ok b) :
    ∃ m2, Sign1.unmarshal tagged b = .ok m2 ∧
      (algorithmOf m2.h.p = .found s.alg ∨
        (algorithmOf m.h.p = .notFound ∧ (ext.getD []).length > 0 ∧
          algorithmOf m2.h.p = .notFound)) := by
  obtain ⟨m2, hdec, -, -, -, -, -, hcase⟩ :=
    sign1_wire _ tagged m ext s v b hm hrp hru (gated_flat hfp hup hlp)
      (unprotWire_flat hfu huu hlu (by decide)) hpl halg hsl hok henc
  exact ⟨m2, hdec, hcase⟩

/-- C04 across the wire: the typed algorithm the verifier consults on the decoded message
    equals the algorithm that was signed.  `hnx`: no external data, or the caller's protected map
    already names an algorithm; otherwise go-cose signs without an `alg` parameter and the decoded
    message names none either (`sign1_wire_flat_alg_needs_hnx`; verification still passes, through
    the same external-data exemption). -/
theorem sign1_wire_flat_alg (tagged : Bool) (m : Sign1Msg) (ext : Option Bytes) (s : Signer)
    (v : Verifier) (b : Bytes) (hm : Matches s v)
    (hrp : m.h.rawP = none) (hru : m.h.rawU = none)
    (hfp : FlatMap m.h.p) (hfu : FlatMap m.h.u)
    (hup : ∀ e ∈ m.h.p, UintOK e.2) (huu : ∀ e ∈ m.h.u, UintOK e.2)
    (hlp : m.h.p.length < maxElems) (hlu : m.h.u.length ≤ maxElems)
    (hpl : blen m.payload < 18446744073709551616) (halg : int64Range s.alg)
    (hsl : ∀ t sg, s.sign t = .ok sg → sg.length < 18446744073709551616)
    (hnx : (ext.getD []).length = 0 ∨ algorithmOf m.h.p ≠ .notFound)
    (hok : (Sign1.sign m ext s).out = .ok ())
    (henc : Sign1.marshal tagged (Sign1.sign m ext s).state = .ok b) :
    ∃ m2, Sign1.unmarshal tagged b = .ok m2 ∧ algorithmOf m2.h.p = .found s.alg := by
  obtain ⟨m2, hdec, hcase⟩ := sign1_wire_flat_alg_cases tagged m ext s v b hm hrp hru hfp hfu hup
    huu hlp hlu hpl halg hsl hok henc
  exact ⟨m2, hdec, AlgCases.found hcase hnx⟩

/-! ### non-vacuity

The signer `exS7`, the verifier `exV7` (`exSV7 : Matches exS7 exV7`) and the evaluations
`ex_det1`, `ex_det2`, `ex_mp0` are those of `Deep/Chain`. -/

theorem exS7_go : SignWireClosure.GoSigner exS7 :=
  ⟨by simp [exS7, int64Range], by intro t x h; cases h; simp⟩

/-- protected `{1: ES256}`, unprotected `{4: h'3131'}` (a kid), payload `010203`; nothing retained
    from a decoder -/
def exF : Sign1Msg :=
  { h := { p := [(lbl 1, .alg (-7))], u := [(lbl 4, .bytes [0x31, 0x31])] },
    payload := some [1, 2, 3] }

theorem exF_flat : FlatMap exF.h.p ∧ FlatMap exF.h.u ∧ (∀ e ∈ exF.h.p, UintOK e.2) ∧
    (∀ e ∈ exF.h.u, UintOK e.2) := by
  refine ⟨?_, ?_, ?_, ?_⟩ <;> intro e he <;> simp only [exF, List.mem_singleton] at he <;>
    subst he <;> simp [lbl, FlatLabel, FlatVal, int64Range, UintOK]

theorem exF_mpP : marshalProtected exF.h = .ok [0x43, 0xa1, 0x01, 0x26] := by
  simp [marshalProtected, exF, GoVal.modelledPairs, GoVal.modelled, encodeBucket, encCfg,
    validateHeaderParameters, validateLoop, normalizeLabel, wrap64, checkParam, lbl, encodePairs,
    encodeAny, encInt, encHead, encBstr, HW.shortest, headBytes, sortPairs, concatPairs]

theorem exF_mpU : marshalUnprotected exF.h = .ok [0xa1, 0x04, 0x42, 0x31, 0x31] := by
  simp [marshalUnprotected, exF, GoVal.modelledPairs, GoVal.modelled, encodeBucket, encCfg,
    validateHeaderParameters, validateLoop, normalizeLabel, wrap64, checkParam, lbl, canBstr,
    encodePairs, encodeAny, encInt, encHead, encBstr, HW.shortest, headBytes, sortPairs,
    concatPairs, wellformedNoTags, parseTop, fuelFor, parseItem, parsePairs, parseHead,
    maxNested, maxElems]

/-- `Sign1Message.Sign` with a signer that answers `sig` whatever it is asked: the gate hands on
    `p'`, the protected bytes pass `deterministicBinaryString`, the signature is stored -/
theorem sign1_sign_of {m : Sign1Msg} {ext : Option Bytes} {s : Signer} {p' : GoMap}
    {P P' sig : Bytes} (hpay : m.payload.isNone = false) (hsig : m.sig = none)
    (hg : ensureSigningAlgorithm m.h.rawP m.h.p s.alg ext = .ok p')
    (hP : marshalProtected { m.h with p := p' } = .ok P) (hd : detBstr P = .ok P')
    (hs : ∀ t, s.sign t = .ok sig) (hne : sig.length ≠ 0) :
    (Sign1.sign m ext s).out = .ok () ∧
    (Sign1.sign m ext s).state =
      { h := { m.h with p := p' }, payload := m.payload, sig := some sig } := by
  have hgate : Sign1.signGate m ext s = .ok p' :=
    Sign1.signGate_eq_ok.mpr ⟨hpay, by rw [hsig]; exact Nat.lt_irrefl 0, hg⟩
  have ht := toBeSigned1_of (m := { m with h := { m.h with p := p' } }) (ext := ext) hP hd
  rw [Sign1.sign_eq, hgate]
  simp only [signStep, ht, hs, hne, if_false]
  exact ⟨trivial, trivial⟩

theorem exF_sign : (Sign1.sign exF none exS7).out = .ok () ∧
    (Sign1.sign exF none exS7).state =
      { h := exF.h, payload := some [1, 2, 3], sig := some [7] } :=
  sign1_sign_of (p' := exF.h.p) rfl rfl rfl exF_mpP ex_det2 (fun _ => rfl) (by decide)

theorem exF_marshal : ∃ b, Sign1.marshal true (Sign1.sign exF none exS7).state = .ok b := by
  rw [exF_sign.2]
  exact ⟨_, sign1_marshal_of (by decide) (by decide) exF_mpP exF_mpU⟩

/-- non-vacuity: every hypothesis of `sign1_wire_flat` holds for `exF` (non-empty
    protected map with `alg`, a kid in the unprotected map) with the matching pair `exS7`/`exV7`;
    the theorem yields the decoded, verified message -/
example : ∃ b m2, Sign1.marshal true (Sign1.sign exF none exS7).state = .ok b ∧
    Sign1.unmarshal true b = .ok m2 ∧ (Sign1.verify m2 none exV7).1 = .ok () ∧
    m2.payload = some [1, 2, 3] ∧ m2.sig = some [7] := by
  obtain ⟨b, hb⟩ := exF_marshal
  obtain ⟨h1, h2, h3, h4⟩ := exF_flat
  obtain ⟨m2, hdec, hver, hpay, hsig⟩ :=
    sign1_wire_flat true exF none exS7 exV7 b exSV7 rfl rfl h1 h2 h3 h4
      (by simp [exF, maxElems]) (by simp [exF, maxElems]) (by simp [exF, blen])
      exS7_go.1 exS7_go.2 exF_sign.1 hb
  exact ⟨b, m2, hb, hdec, hver, hpay, by rw [hsig, exF_sign.2]⟩

example : ∃ b m2, Sign1.marshal true (Sign1.sign exF none exS7).state = .ok b ∧
    Sign1.unmarshal true b = .ok m2 ∧ algorithmOf m2.h.p = .found (-7) := by
  obtain ⟨b, hb⟩ := exF_marshal
  obtain ⟨h1, h2, h3, h4⟩ := exF_flat
  obtain ⟨m2, hdec, ha⟩ :=
    sign1_wire_flat_alg true exF none exS7 exV7 b exSV7 rfl rfl h1 h2 h3 h4
      (by simp [exF, maxElems]) (by simp [exF, maxElems]) (by simp [exF, blen])
      exS7_go.1 exS7_go.2 (.inl rfl) exF_sign.1 hb
  exact ⟨b, m2, hb, hdec, ha⟩

/-! ### why `sign1_wire_flat_alg` needs `hnx` -/

/-- no header parameters at all -/
def exN : Sign1Msg := { payload := some [1, 2, 3] }

theorem exN_sign : (Sign1.sign exN (some [9]) exS7).out = .ok () ∧
    (Sign1.sign exN (some [9]) exS7).state =
      { h := {}, payload := some [1, 2, 3], sig := some [7] } :=
  sign1_sign_of (p' := []) rfl rfl rfl ex_mp0 ex_det1 (fun _ => rfl) (by decide)

/-- `sign1_wire_flat_alg` without `hnx` is false: with external data and no `alg` in the caller's
    protected map go-cose signs without inserting the algorithm; the message crosses the wire and
    verifies (same external data), but the decoded message names no algorithm. -/
theorem sign1_wire_flat_alg_needs_hnx :
    (Sign1.sign exN (some [9]) exS7).out = .ok () ∧
    ∃ b m2, Sign1.marshal true (Sign1.sign exN (some [9]) exS7).state = .ok b ∧
      Sign1.unmarshal true b = .ok m2 ∧ (Sign1.verify m2 (some [9]) exV7).1 = .ok () ∧
      algorithmOf m2.h.p = .notFound := by
  refine ⟨exN_sign.1, ?_⟩
  have hmU : marshalUnprotected ({} : Hdrs) = .ok [0xa0] := by
    simp [marshalUnprotected, GoVal.modelledPairs, encodeBucket]
  have hb : Sign1.marshal true (Sign1.sign exN (some [9]) exS7).state =
      .ok (0xd2 :: 0x84 :: ([0x40] ++ ([0xa0] ++ (optBytesEnc (some [1, 2, 3]) ++ encBstr [7])))) := by
    rw [exN_sign.2]
    exact sign1_marshal_of (m := { h := {}, payload := some [1, 2, 3], sig := some [7] }) (by decide)
      (by decide) ex_mp0 hmU
  have hnil : FlatMap [] := fun e he => by cases he
  obtain ⟨m2, hdec, hver, -, -, hp2, -⟩ :=
    sign1_wire _ true exN (some [9]) exS7 exV7 _ exSV7 rfl rfl
      (gated_flat hnil (fun e he => by cases he) (by simp [maxElems]))
      (unprotWire_flat hnil (fun e he => by cases he) (by simp [exN, maxElems]) (by decide))
      (by simp [exN, blen]) exS7_go.1 exS7_go.2
      exN_sign.1 hb
  refine ⟨_, m2, hb, hdec, hver, ?_⟩
  rw [hp2, exN_sign.2]
  simp [sortEntries, algorithmOf, lookupLabel, GoMap.lookup, normalizeLabel, lbl]

/-! ### why `halg` and the UTF-8 conditions are needed -/

/-- a "signer" whose algorithm identifier does not fit Go's `int64` -/
def exSbig : Signer := { alg := 18446744073709551616, sign := fun _ => .ok [7] }
def exVbig : Verifier :=
  { alg := 18446744073709551616,
    verify := fun _ sg => if sg = [7] then .ok () else .err .verification }
theorem exSVbig : Matches exSbig exVbig where
  alg := rfl
  correct := by intro tbs sig h; cases h; simp [exVbig]
  nonempty := by intro tbs sig h; cases h; simp

def exPbig : Wire := .bstr .imm [0xa1, 0x01, 0x1b, 0, 0, 0, 0, 0, 0, 0, 0]

theorem exbig_mpP : marshalProtected { p := [(lbl 1, .alg 18446744073709551616)] }
    = .ok exPbig.bytes := by
  simp [marshalProtected, GoVal.modelledPairs, GoVal.modelled, encodeBucket, encCfg,
    validateHeaderParameters, validateLoop, normalizeLabel, wrap64, checkParam, lbl, encodePairs,
    encodeAny, encInt, encHead, encBstr, HW.shortest, headBytes, sortPairs, concatPairs, exPbig,
    Wire.bytes]

theorem exbig_det : detBstr exPbig.bytes = .ok exPbig.bytes := by
  simp [detBstr, parseTop, parseItem, fuelFor, parseHead, exPbig, Wire.bytes, headBytes]

theorem exbig_decP : decProtected exPbig = .ok [(lbl 1, .alg 0)] := by
  have hp : parseTop true [0xa1, 0x01, 0x1b, 0, 0, 0, 0, 0, 0, 0, 0]
      = some (.map .imm [(.uint .imm 1, .uint .w8 0)]) := by
    simp [parseTop, parseItem, parsePairs, fuelFor, parseHead, maxNested, maxElems]
  have hu : headerLabelsUntagged [0xa1, 0x01, 0x1b, 0, 0, 0, 0, 0, 0, 0, 0] = true := by decide
  unfold exPbig decProtected decProtectedContent
  simp only [hp, hu]
  rfl

theorem exbig_sign : (Sign1.sign exN none exSbig).out = .ok () ∧
    (Sign1.sign exN none exSbig).state =
      { h := { p := [(lbl 1, .alg 18446744073709551616)] }, payload := some [1, 2, 3],
        sig := some [7] } :=
  sign1_sign_of (p' := [(lbl 1, .alg 18446744073709551616)]) rfl rfl rfl exbig_mpP exbig_det
    (fun _ => rfl) (by decide)

/-- `halg` (the signer's algorithm identifier lies in Go's `int64` range) cannot be dropped: the
    model's `Int` allows 2^64 (no Go `Algorithm` value does); its head wraps to `1b 00…00`, the
    decoder reads algorithm 0, and the gate refuses the verifier. -/
theorem sign1_wire_flat_needs_halg :
    Matches exSbig exVbig ∧ (Sign1.sign exN none exSbig).out = .ok () ∧
    ∃ b m2, Sign1.marshal true (Sign1.sign exN none exSbig).state = .ok b ∧
      Sign1.unmarshal true b = .ok m2 ∧ algorithmOf m2.h.p = .found 0 ∧
      (Sign1.verify m2 none exVbig).1 = .err .algMismatch := by
  refine ⟨exSVbig, exbig_sign.1, ?_⟩
  have hmU : marshalUnprotected { p := [(lbl 1, .alg 18446744073709551616)] } = .ok exU.bytes := by
    simp [marshalUnprotected, GoVal.modelledPairs, encodeBucket, exU_bytes]
  have hb : Sign1.marshal true (Sign1.sign exN none exSbig).state =
      .ok ([0xd2] ++ (Wire.arr .imm [exPbig, exU, .bstr .imm [1, 2, 3], .bstr .imm [7]]).bytes) := by
    rw [exbig_sign.2]
    have hiv : ensureIV [(lbl 1, .alg 18446744073709551616)] [] = true := by decide
    simp [Sign1.marshal, Sign1.content, Hdrs.marshal, exbig_mpP, hmU, hiv, blen, bind, Out.bind]
    decide
  have hdec := C07.wf_sign1_accepted_full true (p := exPbig) (u := exU) (pl := .bstr .imm [1, 2, 3])
    (hw := .imm) (c := [7])
    (by simp [Wire.wf, Wire.wfList, Wire.wfPairs, HW.fits, exPbig, exU])
    (by simp [Wire.inLimits, Wire.inLimitsList, Wire.inLimitsPairs, exPbig, exU, maxNested, maxElems])
    exbig_decP ex_decU (by decide) (.inr ⟨_, _, rfl⟩) (by decide)
  refine ⟨_, _, hb, hdec, ?_, ?_⟩
  · rfl
  · rfl

/-- why `FlatVal` / `FlatLabel` ask for valid UTF-8 (real go-cose behaviour, not a model artefact):
    the encoder emits a Go string as is, the decoder refuses invalid UTF-8.  Here the payload
    location (label 260) of a hash envelope. -/
theorem flat_needs_utf8 :
    validateHeaderParameters [(lbl 260, .str [0xff])] true = true ∧
    encodeBucket encCfg true none [(lbl 260, .str [0xff])]
      = some [0x46, 0xa1, 0x19, 0x01, 0x04, 0x61, 0xff] ∧
    decProtectedContent [0xa1, 0x19, 0x01, 0x04, 0x61, 0xff] = .err .other := by
  have hv : validateHeaderParameters [(lbl 260, .str [0xff])] true = true := by decide
  refine ⟨hv, ?_, ?_⟩
  · simp only [lbl] at hv
    simp [encodeBucket, encCfg, hv, lbl, encodePairs, encodeAny, encInt, encTstr, encHead, encBstr,
      HW.shortest, headBytes, sortPairs, concatPairs]
  · have hp : parseTop true [0xa1, 0x19, 0x01, 0x04, 0x61, 0xff]
        = some (.map .imm [(.uint .w2 260, .tstr .imm [0xff])]) := by
      simp [parseTop, parseItem, parsePairs, fuelFor, parseHead, maxNested, maxElems]
    have hu : headerLabelsUntagged [0xa1, 0x19, 0x01, 0x04, 0x61, 0xff] = true := by decide
    unfold decProtectedContent
    simp only [hp, hu]
    rfl

end C01

namespace C12
open WireClosure

/-- hash envelope, closed loop across the wire, end to end: what `SignHashEnvelope` emits for
    flat caller headers (no retained raw unprotected bytes), `VerifyHashEnvelope` with the matching
    verifier accepts, returning the signed hash value.  Decoding, the algorithm gate, the header
    rules and `PayloadHashAlgorithm()` on the decoded message are conclusions. -/
theorem henv_closed_flat (s : Signer) (v : Verifier) (h : Hdrs) (p : HashPayload) (b : Bytes)
    (hm : C01.Matches s v) (hru : h.rawU = none)
    (hfp : FlatMap h.p) (hfu : FlatMap h.u)
    (hup : ∀ e ∈ h.p, UintOK e.2) (huu : ∀ e ∈ h.u, UintOK e.2)
    (hlp : h.p.length + 3 < maxElems) (hlu : h.u.length ≤ maxElems)
    (hpa : int64Range p.alg) (hpct : ∀ x, p.pct = some x → FlatVal x ∧ UintOK x)
    (hloc : utf8Valid p.location = true ∧ p.location.length < 18446744073709551616)
    (halg : int64Range s.alg)
    (hsl : ∀ t sg, s.sign t = .ok sg → sg.length < 18446744073709551616)
    (hpl : hashSize p.alg = 0 → blen p.value < 18446744073709551616)
    (hsign : (signHashEnvelope s h p).1 = .ok b) :
    ∃ m3, (verifyHashEnvelope v b).1 = .ok m3 ∧ m3.payload = p.value := by
  refine henv_closed (fun g => (sortEntries g).map decEntry) s v h p b hm hru (fun ha hg => ?_)
    (unprotWire_flat hfu huu hlu (by decide)) halg hsl hpl hsign
  have hfprot : FlatMap (setHashEnvelopeProtectedHeader h.p p) :=
    hashProt_keeps hfp (fun _ hg => flatMap_set hg (flatLabel_lbl (by decide)) hpa)
      (fun _ x hx hg => flatMap_set hg (flatLabel_lbl (by decide)) (hpct x hx).1)
      (fun _ hg => flatMap_set hg (flatLabel_lbl (by decide)) hloc)
  obtain ⟨hf', hu', hl'⟩ :=
    sign_gate_flat hg hfprot (hashProt_uintOK hup fun x hx => (hpct x hx).2) ha
  have := hashProt_length h.p p
  exact hashWire_flat hf' hu' (by omega) hfu

/-! ### non-vacuity of `henv_closed_flat` -/

def exHval : Bytes := List.replicate 32 0
theorem exHval_len : exHval.length = 32 := by simp [exHval]

def exHp : HashPayload := { alg := -16, value := some exHval, pct := none, location := [] }
def exHh : Hdrs := { p := [(lbl 1, .alg (-7))] }
def exHprot : GoMap := [(lbl 1, .alg (-7)), (lbl 258, .alg (-16))]
def exHm : Sign1Msg := { h := { p := exHprot }, payload := some exHval, sig := none }

theorem exH_prot : setHashEnvelopeProtectedHeader exHh.p exHp = exHprot := by rfl

theorem exH_sort : sortPairs [([1], [38]), ([25, 1, 2], [47])]
    = [([1], [38]), ([25, 1, 2], [47])] :=
  List.mergeSort_of_pairwise (by decide)

theorem exH_mpP : marshalProtected { p := exHprot }
    = .ok [0x47, 0xa2, 0x01, 0x26, 0x19, 0x01, 0x02, 0x2f] := by
  have hv : validateHeaderParameters [(GoVal.int .i64 1, .alg (-7)), (.int .i64 258, .alg (-16))]
      true = true := by decide
  simp [marshalProtected, exHprot, GoVal.modelledPairs, GoVal.modelled, encodeBucket, encCfg, hv,
    lbl, encodePairs, encodeAny, encInt, encHead, encBstr, HW.shortest, headBytes, exH_sort,
    concatPairs]

theorem exH_det : detBstr [0x47, 0xa2, 0x01, 0x26, 0x19, 0x01, 0x02, 0x2f]
    = .ok [0x47, 0xa2, 0x01, 0x26, 0x19, 0x01, 0x02, 0x2f] := by
  simp [detBstr, parseTop, parseItem, fuelFor, parseHead]

theorem exH_sign : (Sign1.sign exHm none C01.exS7).out = .ok () ∧
    (Sign1.sign exHm none C01.exS7).state = { exHm with sig := some [7] } :=
  C01.sign1_sign_of (p' := exHprot) rfl rfl rfl exH_mpP exH_det (fun _ => rfl) (by decide)

theorem exH_signs : ∃ b, (signHashEnvelope C01.exS7 exHh exHp).1 = .ok b := by
  have hvh : validateHash exHp.alg exHp.value = true := by
    simp [validateHash, exHp, hashSize, blen, exHval_len]
  have hr : validateHashEnvelopeHeaders exHprot [] = true := by
    simp [validateHashEnvelopeHeaders, exHprot, hashProtLoop, hashUnprotOK, normalizeLabel, wrap64,
      lbl]
  have hmU : marshalUnprotected { p := exHprot } = .ok [0xa0] := by
    simp [marshalUnprotected, GoVal.modelledPairs, encodeBucket]
  have hiv : ensureIV exHprot [] = true := by decide
  refine ⟨0xd2 :: 0x84 :: ([0x47, 0xa2, 0x01, 0x26, 0x19, 0x01, 0x02, 0x2f] ++ ([0xa0] ++
    (optBytesEnc (some exHval) ++ encBstr [7]))), ?_⟩
  have hhelp : sign1Helper true { p := exHprot } (some exHval) none C01.exS7 =
      (Sign1.marshal true { exHm with sig := some [7] }, (Sign1.sign exHm none C01.exS7).calls) := by
    have h1 : (Sign1.sign { h := { p := exHprot }, payload := some exHval, sig := none } none
        C01.exS7).out = .ok () := exH_sign.1
    have h2 : (Sign1.sign { h := { p := exHprot }, payload := some exHval, sig := none } none
        C01.exS7).state = { exHm with sig := some [7] } := exH_sign.2
    simp only [sign1Helper, h1, h2]
    rfl
  have hunf : signHashEnvelope C01.exS7 exHh exHp =
      sign1Helper true { p := exHprot } (some exHval) none C01.exS7 := by
    have hru : exHh.rawU = none := rfl
    have hu : exHh.u = [] := rfl
    simp only [signHashEnvelope, hvh, exH_prot, hru, hu, hr, Bool.not_true, Bool.false_eq_true,
      if_false]
    rfl
  rw [hunf, hhelp]
  simp [Sign1.marshal, Sign1.content, Hdrs.marshal, exHm, exH_mpP, hmU, hiv, blen, bind, Out.bind]

/-- non-vacuity of `henv_closed_flat`: a SHA-256 hash envelope over caller headers `{1: ES256}` -/
example : ∃ b m3, (signHashEnvelope C01.exS7 exHh exHp).1 = .ok b ∧
    (verifyHashEnvelope C01.exV7 b).1 = .ok m3 ∧ m3.payload = some exHval := by
  obtain ⟨b, hb⟩ := exH_signs
  obtain ⟨m3, h1, h2⟩ := henv_closed_flat C01.exS7 C01.exV7 exHh exHp b C01.exSV7 rfl
    (by intro e he; simp only [exHh, List.mem_singleton] at he; subst he
        simp [lbl, FlatLabel, FlatVal, int64Range])
    (by intro e he; cases he)
    (by intro e he; simp only [exHh, List.mem_singleton] at he; subst he; simp [UintOK])
    (by intro e he; cases he)
    (by simp [exHh, maxElems]) (by simp [exHh, maxElems])
    (by simp [exHp, int64Range]) (by intro x hx; cases hx)
    (by simp [exHp, utf8Valid]) C01.exS7_go.1 C01.exS7_go.2
    (by intro hz; simp [exHp, hashSize] at hz) hb
  exact ⟨b, m3, hb, h1, h2⟩

end C12
