/-
  CoseProofs.Deep.RoundTrip — what the library's encoder emits for a header bucket is read back
  by its decoder, for header maps in the "flat" data model (integers, algorithms, curves, text,
  byte strings, booleans, nil; no arrays, maps, floats, countersignatures).
  What does not depend on how a value is encoded — sorting, labels, the two bucket decoders,
  validation and `Algorithm()` on the decoded bucket — is proved about an arbitrary value encoding
  (section `Bucket`), so that the nested and the countersignature data models and the COSE_Key
  parameter map (`Deep/NestedBuckets.lean`, `Deep/CsigRoundTrip.lean`, `Deep/KeyRoundTrip.lean`)
  instantiate it too.
-/
import CoseModel.Messages
import CoseProofs.Lemmas.Parse
import CoseProofs.Lemmas.TagScan
import CoseProofs.Lemmas.Sort
import CoseProofs.Deep.Headers
import CoseProofs.Deep.Tbs
open CoseModel

namespace RoundTrip

/-! ### the flat data model -/

def int64Range (n : Int) : Prop := -9223372036854775808 ≤ n ∧ n ≤ 9223372036854775807

instance (n : Int) : Decidable (int64Range n) := by unfold int64Range; exact inferInstance

/-- flat values: integers of any Go integer kind / `Algorithm` / `Curve` whose value lies in the
    int64 range, valid UTF-8 text and byte strings shorter than 2^64, booleans, nil -/
def FlatVal : GoVal → Prop
  | .int _ n => int64Range n
  | .alg n => int64Range n
  | .crv n => int64Range n
  | .str b => utf8Valid b = true ∧ b.length < 18446744073709551616
  | .bytes b => b.length < 18446744073709551616
  | .bool _ => True
  | .nil => True
  | _ => False

/-- a value of an unsigned Go integer kind is not negative (true of every Go program; the model's
    `GoVal.int` does not enforce it) -/
def UintOK : GoVal → Prop
  | .int k n => k.signed = false → 0 ≤ n
  | _ => True

/-- flat labels: integers in the int64 range and valid UTF-8 text -/
def FlatLabel : GoVal → Prop
  | .int _ n => int64Range n
  | .str b => utf8Valid b = true ∧ b.length < 18446744073709551616
  | _ => False

/-- what the generic decoder yields for the encoding of a flat value -/
def normVal : GoVal → GoVal
  | .int _ n => .int .i64 n
  | .alg n => .int .i64 n
  | .crv n => .int .i64 n
  | v => v

def FlatMap (h : GoMap) : Prop := ∀ e ∈ h, FlatLabel e.1 ∧ FlatVal e.2

theorem FlatLabel.flatVal {l : GoVal} (h : FlatLabel l) : FlatVal l := by
  cases l <;> simp only [FlatLabel] at h <;> exact h

/-! ### the wire item of a flat value -/

def intWire (n : Int) : Wire :=
  if n ≥ 0 then .uint (HW.shortest n.toNat) n.toNat
  else .nint (HW.shortest (-1 - n).toNat) (-1 - n).toNat

/-- the item the encoder emits for a flat value (shortest heads) -/
def valWire : GoVal → Wire
  | .int _ n => intWire n
  | .alg n => intWire n
  | .crv n => intWire n
  | .str b => .tstr (HW.shortest b.length) b
  | .bytes b => .bstr (HW.shortest b.length) b
  | .bool b => .prim .imm (if b then 21 else 20)
  | _ => .prim .imm 22

theorem intWire_bytes (n : Int) : (intWire n).bytes = encInt n := by
  unfold intWire encInt encHead
  split <;> rfl

theorem intWire_wf {n : Int} (h : int64Range n) : (intWire n).wf = true := by
  unfold int64Range at h
  unfold intWire
  split
  · simp only [Wire.wf]; exact C02.shortest_fits (by omega)
  · simp only [Wire.wf]; exact C02.shortest_fits (by omega)

theorem intWire_decode {n : Int} (h : int64Range n) : decodeAny (intWire n) = .ok (.int .i64 n) := by
  unfold int64Range at h
  unfold intWire
  split
  next hn =>
    have h1 : n.toNat ≤ maxInt64 := by unfold maxInt64; omega
    have h2 : ((n.toNat : Nat) : Int) = n := by omega
    simp only [decodeAny, h1, if_true, h2]
  next hn =>
    have h1 : (-1 - n).toNat ≤ maxInt64 := by unfold maxInt64; omega
    have h2 : -1 - (((-1 - n).toNat : Nat) : Int) = n := by omega
    simp only [decodeAny, h1, if_true, h2]

theorem intWire_leaf (n : Int) :
    (∀ t d, (intWire n).inLimits t d = true) ∧ (intWire n).hasTag = false := by
  unfold intWire
  split <;> simp [Wire.inLimits, Wire.hasTag]

theorem valWire_bytes (cfg : EncCfg) {v : GoVal} (hv : FlatVal v) :
    encodeAny cfg v = some (valWire v).bytes := by
  cases v <;> simp only [FlatVal] at hv
  case nil => simp only [encodeAny, valWire, Wire.bytes, headBytes]; rfl
  case int k n => simp only [encodeAny, valWire, intWire_bytes]
  case alg n => simp only [encodeAny, valWire, intWire_bytes]
  case crv n => simp only [encodeAny, valWire, intWire_bytes]
  case str b => simp only [encodeAny, valWire, Wire.bytes, encTstr, encHead]
  case bytes b => simp only [encodeAny, valWire, Wire.bytes, encBstr, encHead]
  case bool b => cases b <;> simp only [encodeAny, valWire, Wire.bytes, headBytes] <;> rfl

theorem valWire_wf {v : GoVal} (hv : FlatVal v) : (valWire v).wf = true := by
  cases v <;> simp only [FlatVal] at hv
  case nil => rfl
  case int k n => exact intWire_wf hv
  case alg n => exact intWire_wf hv
  case crv n => exact intWire_wf hv
  case str b => simp only [valWire, Wire.wf]; exact C02.shortest_fits hv.2
  case bytes b => simp only [valWire, Wire.wf]; exact C02.shortest_fits hv
  case bool b => cases b <;> rfl

theorem valWire_inLimits (v : GoVal) (t : Bool) (d : Nat) : (valWire v).inLimits t d = true := by
  cases v <;> simp [valWire, Wire.inLimits, (intWire_leaf _).1]

theorem valWire_noTag (v : GoVal) : (valWire v).hasTag = false := by
  cases v <;> simp [valWire, Wire.hasTag, (intWire_leaf _).2]

theorem valWire_decode {v : GoVal} (hv : FlatVal v) : decodeAny (valWire v) = .ok (normVal v) := by
  cases v <;> simp only [FlatVal] at hv
  case nil => rfl
  case int k n => exact intWire_decode hv
  case alg n => exact intWire_decode hv
  case crv n => exact intWire_decode hv
  case str b => simp only [valWire, decodeAny, hv.1, if_true, normVal]
  case bytes b => rfl
  case bool b => cases b <;> rfl

/-! ### labels -/

theorem wrap64_of_range {n : Int} (h : int64Range n) : wrap64 n = n := by
  unfold int64Range at h
  unfold wrap64
  simp only
  split <;> omega

theorem normalizeLabel_flat {l : GoVal} (hl : FlatLabel l) : normalizeLabel l = some (normVal l) := by
  cases l <;> simp only [FlatLabel] at hl
  case int k n =>
    have hle : n ≤ (maxInt64 : Int) := by
      have := hl; unfold int64Range at this; simp only [maxInt64]; omega
    simp only [normalizeLabel_int_of_le k hle, normVal, wrap64_of_range hl]
  case str b => rfl

/-- the normal form of a flat label is again a flat label, and is its own normal form -/
theorem flatLabel_normVal {l : GoVal} (hl : FlatLabel l) : FlatLabel (normVal l) := by
  cases l <;> simp only [FlatLabel] at hl
  case int k n => exact hl
  case str b => exact hl

theorem normVal_normVal (k : GoVal) : normVal (normVal k) = normVal k := by
  cases k <;> rfl

theorem normalizeLabel_normVal {l : GoVal} (hl : FlatLabel l) :
    normalizeLabel (normVal l) = normalizeLabel l := by
  rw [normalizeLabel_flat (flatLabel_normVal hl), normalizeLabel_flat hl, normVal_normVal]

/-- one step of `labelsOK` on the wire key of a flat label -/
theorem labelsOK_cons_flat {l : GoVal} (hl : FlatLabel l) (v : Wire) (r : List (Wire × Wire))
    (seen : List GoVal) :
    labelsOK ((valWire l, v) :: r) seen =
      if seen.any (fun e => e.keyEq (normVal l)) then .err .other
      else labelsOK r (normVal l :: seen) := by
  cases l <;> simp only [FlatLabel] at hl
  case int k n =>
    unfold int64Range at hl
    simp only [valWire, intWire, normVal]
    split
    · have h1 : n.toNat ≤ maxInt64 := by unfold maxInt64; omega
      have h2 : ((n.toNat : Nat) : Int) = n := by omega
      simp only [labelsOK, Wire.stripSelfDescribed, h1, if_true, h2]
      rfl
    · have h1 : (-1 - n).toNat ≤ maxInt64 := by unfold maxInt64; omega
      have h2 : -1 - (((-1 - n).toNat : Nat) : Int) = n := by omega
      simp only [labelsOK, Wire.stripSelfDescribed, h1, if_true, h2]
      rfl
  case str b =>
    simp only [valWire, normVal, labelsOK, Wire.stripSelfDescribed, hl.1, if_true]
    rfl

/-! ### entry lists -/

def entryWire (e : GoVal × GoVal) : Wire × Wire := (valWire e.1, valWire e.2)

def wireBytes (p : Wire × Wire) : Bytes × Bytes := (p.1.bytes, p.2.bytes)

/-- the entries of a bucket in the order the encoder emits them: sorted bytewise by encoded key -/
def sortEntries (h : GoMap) : GoMap :=
  h.mergeSort (fun a b => bytesLe (valWire a.1).bytes (valWire b.1).bytes)

/-- the (key item, value item) pairs of the encoded map, in wire order -/
def wirePairs (h : GoMap) : List (Wire × Wire) := (sortEntries h).map entryWire

/-- the map item the encoder emits for a flat map -/
def mapWire (h : GoMap) : Wire := .map (HW.shortest h.length) (wirePairs h)

/-- labels normalised, values as the generic decoder types them -/
def normEntry (e : GoVal × GoVal) : GoVal × GoVal := (normVal e.1, normVal e.2)

theorem sortEntries_perm (h : GoMap) : (sortEntries h).Perm h := List.mergeSort_perm h _

theorem sortEntries_mem {h : GoMap} {e : GoVal × GoVal} : e ∈ sortEntries h ↔ e ∈ h :=
  (sortEntries_perm h).mem_iff

theorem sortEntries_length (h : GoMap) : (sortEntries h).length = h.length :=
  (sortEntries_perm h).length_eq

theorem sortEntries_sorted (h : GoMap) :
    (sortEntries h).Pairwise
      (fun a b => bytesLe (valWire a.1).bytes (valWire b.1).bytes = true) :=
  mergeSort_key_sorted (fun e : GoVal × GoVal => (valWire e.1).bytes) h

/-- how a test vector's entries are sorted (`List.mergeSort` does not reduce) -/
theorem sortEntries_eq_of_perm {g g' : GoMap} (hp : g.Perm g')
    (hd : (g.map fun e => (valWire e.1).bytes).Nodup)
    (hs : g'.Pairwise fun a b => bytesLe (valWire a.1).bytes (valWire b.1).bytes = true) :
    sortEntries g = g' :=
  mergeSort_key_eq_of_perm (fun e : GoVal × GoVal => (valWire e.1).bytes) hp hd hs

/-- sorting commutes with a map under which the order is the order of the encoded keys -/
theorem mergeSort_map_sortEntries {β : Type} (le : β → β → Bool) (f : GoVal × GoVal → β)
    (hf : ∀ a b, le (f a) (f b) = bytesLe (valWire a.1).bytes (valWire b.1).bytes) (g : GoMap) :
    (g.map f).mergeSort le = (sortEntries g).map f :=
  (List.map_mergeSort (fun a _ b _ => (hf a b).symm)).symm

theorem labelsOK_sorted {h : GoMap} (hok : LabelsOK h) : LabelsOK (sortEntries h) :=
  (labelsOK_perm (sortEntries_perm h).symm).mp hok

theorem FlatMap.sorted {h : GoMap} (hf : FlatMap h) : FlatMap (sortEntries h) :=
  fun e he => hf e (sortEntries_mem.mp he)

theorem concatPairs_wireBytes (l : List (Wire × Wire)) :
    concatPairs (l.map wireBytes) = Wire.bytesPairs l := by
  induction l with
  | nil => rfl
  | cons p r ih =>
    obtain ⟨k, v⟩ := p
    simp only [List.map_cons, wireBytes, concatPairs, Wire.bytesPairs, ih]

theorem shortest_fits_elems {n : Nat} (h : n ≤ maxElems) : (HW.shortest n).fits n = true :=
  C02.shortest_fits (by unfold maxElems at h; omega)

/-! ### map keys -/

/-- map keys that make the round trip: the flat values Go can hash and the generic decoder reads
    back inside the modelled region (integers of any Go integer kind / `Algorithm` / `Curve` in the
    int64 range, valid UTF-8 text, booleans, nil).  Byte-string keys are excluded: `[]byte` is not
    a Go map key and the decoder side of the model marks them `unmodelled`. -/
def RTKey : GoVal → Prop
  | .int _ n => int64Range n
  | .alg n => int64Range n
  | .crv n => int64Range n
  | .str b => utf8Valid b = true ∧ b.length < 18446744073709551616
  | .bool _ => True
  | .nil => True
  | _ => False

/-- the two entries have different keys after encoding: the keys the decoder reads back
    (`normVal`) are not `==` -/
def KeyDistinct (a b : GoVal × GoVal) : Prop := (normVal a.1).keyEq (normVal b.1) = false

instance (a b : GoVal × GoVal) : Decidable (KeyDistinct a b) := by
  unfold KeyDistinct; exact inferInstance

theorem RTKey.flatVal {k : GoVal} (h : RTKey k) : FlatVal k := by
  cases k <;> simp only [RTKey] at h <;> exact h

theorem FlatLabel.rtKey {k : GoVal} (h : FlatLabel k) : RTKey k := by
  cases k <;> simp only [FlatLabel] at h <;> exact h

/-- Go's `==` holds only between equal keys, so it is symmetric -/
theorem keyEq_comm (a b : GoVal) : a.keyEq b = b.keyEq a := by
  have key : ∀ x y : GoVal, x.keyEq y = true → y.keyEq x = true := by
    intro x y h
    have he := GoVal.eq_of_keyEq h
    subst he
    exact h
  exact Bool.eq_iff_iff.mpr ⟨key a b, key b a⟩

theorem KeyDistinct.symm {a b : GoVal × GoVal} (h : KeyDistinct a b) : KeyDistinct b a := by
  unfold KeyDistinct at *
  rw [keyEq_comm]; exact h

theorem keyDistinct_sorted {g : GoMap} (h : g.Pairwise KeyDistinct) :
    (sortEntries g).Pairwise KeyDistinct :=
  ((sortEntries_perm g).pairwise_iff (fun h => KeyDistinct.symm h)).mpr h

theorem keyDistinct_of_labelDistinct {a b : GoVal × GoVal} (ha : FlatLabel a.1)
    (hb : FlatLabel b.1) (h : LabelDistinct a b) : KeyDistinct a b :=
  h _ _ (normalizeLabel_flat ha) (normalizeLabel_flat hb)

theorem keyDistinct_of_labelsOK {h : GoMap} (hl : ∀ e ∈ h, FlatLabel e.1) (hok : LabelsOK h) :
    h.Pairwise KeyDistinct :=
  hok.2.imp_of_mem (fun ha hb hab => keyDistinct_of_labelDistinct (hl _ ha) (hl _ hb) hab)

/-! ### the list forms of `wf`, `inLimits`, `hasTag`, entry by entry -/

theorem wfList_iff (ws : List Wire) : Wire.wfList ws = true ↔ ∀ w ∈ ws, w.wf = true := by
  induction ws with
  | nil => simp [Wire.wfList]
  | cons w r ih => simp only [Wire.wfList, Bool.and_eq_true, ih, List.forall_mem_cons]

theorem wfPairs_iff (ps : List (Wire × Wire)) :
    Wire.wfPairs ps = true ↔ ∀ p ∈ ps, p.1.wf = true ∧ p.2.wf = true := by
  induction ps with
  | nil => simp [Wire.wfPairs]
  | cons p r ih =>
    obtain ⟨k, v⟩ := p
    simp only [Wire.wfPairs, Bool.and_eq_true, ih, List.forall_mem_cons]

theorem inLimitsList_iff (t : Bool) (d : Nat) (ws : List Wire) :
    Wire.inLimitsList t d ws = true ↔ ∀ w ∈ ws, w.inLimits t d = true := by
  induction ws with
  | nil => simp [Wire.inLimitsList]
  | cons w r ih => simp only [Wire.inLimitsList, Bool.and_eq_true, ih, List.forall_mem_cons]

theorem inLimitsPairs_iff (t : Bool) (d : Nat) (ps : List (Wire × Wire)) :
    Wire.inLimitsPairs t d ps = true ↔
      ∀ p ∈ ps, p.1.inLimits t d = true ∧ p.2.inLimits t d = true := by
  induction ps with
  | nil => simp [Wire.inLimitsPairs]
  | cons p r ih =>
    obtain ⟨k, v⟩ := p
    simp only [Wire.inLimitsPairs, Bool.and_eq_true, ih, List.forall_mem_cons]

theorem hasTagList_iff (ws : List Wire) :
    Wire.hasTagList ws = false ↔ ∀ w ∈ ws, w.hasTag = false := by
  induction ws with
  | nil => simp [Wire.hasTagList]
  | cons w r ih => simp only [Wire.hasTagList, Bool.or_eq_false_iff, ih, List.forall_mem_cons]

theorem hasTagPairs_iff (ps : List (Wire × Wire)) :
    Wire.hasTagPairs ps = false ↔ ∀ p ∈ ps, p.1.hasTag = false ∧ p.2.hasTag = false := by
  induction ps with
  | nil => simp [Wire.hasTagPairs]
  | cons p r ih =>
    obtain ⟨k, v⟩ := p
    simp only [Wire.hasTagPairs, Bool.or_eq_false_iff, ih, List.forall_mem_cons]

/-! ### lookups under `LabelsOK` -/

/-- under `LabelsOK`, `lookupLabel` returns the value of the (unique) entry whose normalised
    label is the normalised form of the label asked for -/
theorem lookupLabel_of_mem {g : GoMap} (hok : LabelsOK g) {e : GoVal × GoVal} (he : e ∈ g)
    {l n : GoVal} (hl : normalizeLabel l = some n) (hn : normalizeLabel e.1 = some n) :
    lookupLabel g l = some e.2 := by
  have huniq : ∀ e' ∈ g, normalizeLabel e'.1 = some n → e' = e :=
    fun e' he' h' => entry_eq_of_labelsOK hok he' he (h'.trans hn.symm)
  unfold lookupLabel
  cases hlk : g.lookup l with
  | some v => rw [← huniq _ (C13.goLookup_mem hlk) hl]
  | none =>
    simp only [hl]
    split
    next e' hf =>
      have hp := List.find?_some hf
      rw [huniq e' (List.mem_of_find?_eq_some hf) ((C13.labelScan_iff hl).mp hp)]
    next hf =>
      have h1 := List.find?_eq_none.mp hf e he
      exact absurd ((C13.labelScan_iff hl).mpr hn) h1

theorem lookupLabel_none {g : GoMap} {l n : GoVal} (hl : normalizeLabel l = some n)
    (hno : ∀ e ∈ g, normalizeLabel e.1 ≠ some n) : lookupLabel g l = none := by
  cases hlk : lookupLabel g l with
  | none => rfl
  | some v =>
    have h1 : hasLabel g l = true := by unfold hasLabel; rw [hlk]; rfl
    obtain ⟨e, he, hn⟩ := (C13.hasLabel_iff_mem g l n hl).mp h1
    exact absurd hn (hno e he)

theorem normalizeLabel_lbl1 : normalizeLabel (lbl 1) = some (lbl 1) :=
  normalizeLabel_flat (l := lbl 1) (by simp [lbl, FlatLabel, int64Range])

/-! ### entry-wise maps that keep the normalised labels -/

theorem normLabels_map {g : GoMap} (f : GoVal × GoVal → GoVal × GoVal)
    (hf : ∀ e ∈ g, normalizeLabel (f e).1 = normalizeLabel e.1) :
    normLabels (g.map f) = normLabels g := by
  unfold normLabels
  rw [List.map_map]
  exact List.map_congr_left hf

theorem labelsOK_map {g : GoMap} (f : GoVal × GoVal → GoVal × GoVal)
    (hf : ∀ e ∈ g, normalizeLabel (f e).1 = normalizeLabel e.1) (hok : LabelsOK g) :
    LabelsOK (g.map f) := by
  rw [labelsOK_iff_normLabels, normLabels_map f hf, ← labelsOK_iff_normLabels]
  exact hok

/-- such a map under which every value still passes the check of its label keeps a valid bucket
    valid: the checks consult the bucket only through `hasLabel`, i.e. through the normalised
    labels -/
theorem validate_map {g : GoMap} {prot : Bool} (f : GoVal × GoVal → GoVal × GoVal)
    (hf : ∀ e ∈ g, normalizeLabel (f e).1 = normalizeLabel e.1)
    (hc : ∀ e ∈ g, ∀ l, normalizeLabel e.1 = some l → checkParam g prot l e.2 = true →
      checkParam g prot l (f e).2 = true)
    (hv : validateHeaderParameters g prot = true) :
    validateHeaderParameters (g.map f) prot = true := by
  rw [C13.validate_iff] at hv ⊢
  obtain ⟨hok, hall⟩ := hv
  have hok' := labelsOK_map f hf hok
  refine ⟨hok', fun e' he' => ?_⟩
  obtain ⟨e, he, rfl⟩ := List.mem_map.mp he'
  obtain ⟨l, h1, h2⟩ := hall e he
  refine ⟨l, (hf e he).trans h1, ?_⟩
  rw [C13.checkParam_congr _ g
    (fun x hx => C13.hasLabel_congr_norm _ _ (normLabels_map f hf) x x rfl hx) hok'.1 hok.1]
  exact hc e he l h1 h2

/-- every parameter of a bucket is found again, under any spelling of its label, after the
    bucket is sorted and mapped entry-wise by a map that keeps the normalised labels -/
theorem lookupLabel_sorted_map {h : GoMap} (hok : LabelsOK h) (f : GoVal × GoVal → GoVal × GoVal)
    (hf : ∀ e ∈ h, normalizeLabel (f e).1 = normalizeLabel e.1) {e : GoVal × GoVal} (he : e ∈ h)
    {l n : GoVal} (hl : normalizeLabel l = some n) (hn : normalizeLabel e.1 = some n) :
    lookupLabel h l = some e.2 ∧ lookupLabel ((sortEntries h).map f) l = some (f e).2 :=
  ⟨lookupLabel_of_mem hok he hl hn,
    lookupLabel_of_mem
      (labelsOK_map f (fun x hx => hf x (sortEntries_mem.mp hx)) (labelsOK_sorted hok))
      (List.mem_map_of_mem (sortEntries_mem.mpr he)) hl ((hf e he).trans hn)⟩

/-- … and a label absent from the bucket stays absent -/
theorem lookupLabel_sorted_map_none {h : GoMap} (f : GoVal × GoVal → GoVal × GoVal)
    (hf : ∀ e ∈ h, normalizeLabel (f e).1 = normalizeLabel e.1) {l n : GoVal}
    (hl : normalizeLabel l = some n) (hno : ∀ e ∈ h, normalizeLabel e.1 ≠ some n) :
    lookupLabel h l = none ∧ lookupLabel ((sortEntries h).map f) l = none := by
  refine ⟨lookupLabel_none hl hno, lookupLabel_none hl ?_⟩
  intro e' he'
  obtain ⟨e, he, rfl⟩ := List.mem_map.mp he'
  rw [hf e (sortEntries_mem.mp he)]
  exact hno e (sortEntries_mem.mp he)

/-! ### the alg retyping of the protected-header decoder -/

/-- `castAlg` on the value stored under label 1 -/
def algCast : GoVal → GoVal
  | .int k a => if k.signed then .alg a else .int k a
  | v => v

def castEntry (e : GoVal × GoVal) : GoVal × GoVal :=
  if e.1.keyEq (lbl 1) then (e.1, algCast e.2) else e

/-- the entry the protected-header decoder produces for an entry of a flat bucket: label
    normalised, value as the generic decoder types it, an integer `alg` retyped to `Algorithm` -/
def decEntry (e : GoVal × GoVal) : GoVal × GoVal := castEntry (normEntry e)

theorem castEntry_fst (e : GoVal × GoVal) : (castEntry e).1 = e.1 := by
  unfold castEntry; split <;> rfl

theorem map_eq_self {α : Type} {f : α → α} : ∀ {l : List α}, (∀ x ∈ l, f x = x) → l.map f = l
  | [], _ => rfl
  | x :: xs, h => by
    rw [List.map_cons, h x (List.mem_cons_self ..),
      map_eq_self (fun y hy => h y (List.mem_cons_of_mem _ hy))]

/-- on a bucket with normalised, pairwise distinct labels `castAlg` is an entry-wise map: an entry
    whose key is `==` to label 1 is the one `Algorithm()` looks at -/
theorem castAlg_eq_map {m : GoMap} (hok : LabelsOK m)
    (hn : ∀ e ∈ m, normalizeLabel e.1 = some e.1) : castAlg m = m.map castEntry := by
  have hlk : ∀ e ∈ m, e.1.keyEq (lbl 1) = true → lookupLabel m (lbl 1) = some e.2 := by
    intro e he hk
    exact lookupLabel_of_mem hok he normalizeLabel_lbl1 (by rw [hn e he, GoVal.eq_of_keyEq hk])
  unfold castAlg algorithmOf
  cases hl : lookupLabel m (lbl 1) with
  | none =>
    refine (map_eq_self fun e he => ?_).symm
    unfold castEntry
    split
    next hk =>
      rw [hlk e he hk] at hl
      cases hl
    next => rfl
  | some v =>
    -- every entry under label 1 holds `v`, and there is one
    have hce : ∀ e ∈ m, castEntry e = if e.1.keyEq (lbl 1) then (e.1, algCast v) else e := by
      intro e he
      unfold castEntry
      split
      next hk => rw [Option.some.inj ((hlk e he hk).symm.trans hl)]
      next => rfl
    have hset : ∀ a, algCast v = .alg a → m.set (lbl 1) (.alg a) = m.map castEntry := by
      intro a ha
      have hh : hasLabel m (lbl 1) = true := by unfold hasLabel; rw [hl]; rfl
      obtain ⟨e0, he0, hn0⟩ := (C13.hasLabel_iff_mem m _ _ normalizeLabel_lbl1).mp hh
      have hk0 : e0.1.keyEq (lbl 1) = true := by
        rw [hn e0 he0] at hn0
        rw [Option.some.inj hn0]
        rfl
      have hhas : m.has (lbl 1) = true := by
        unfold GoMap.has GoMap.lookup
        cases hf : m.find? (fun e => e.1.keyEq (lbl 1)) with
        | some _ => rfl
        | none => exact absurd hk0 (by simpa using List.find?_eq_none.mp hf e0 he0)
      unfold GoMap.set
      rw [hhas, if_pos rfl, ← ha]
      exact (List.map_congr_left hce).symm
    have hid : algCast v = v → m = m.map castEntry := by
      intro ha
      refine (map_eq_self fun e he => ?_).symm
      rw [hce e he, ha]
      split
      next hk => rw [← Option.some.inj ((hlk e he hk).symm.trans hl)]
      next => rfl
    cases v with
    | int k a =>
      cases hs : k.signed
      · simp only [hs, Bool.false_eq_true, if_false]
        exact hid (by simp [algCast, hs])
      · simp only [hs, if_true]
        exact hset a (by simp [algCast, hs])
    | alg a => exact hset a rfl
    | _ => exact hid rfl

/-! ### validation: what the per-label checks see of a value -/

/-- `checkParam` looks at the value only through these five tests, monotonically -/
theorem checkParam_mono (g : GoMap) (prot : Bool) (l : GoVal) {v v' : GoVal}
    (h1 : (match v with | .alg _ => true | _ => canInt v || canTstr v) = true →
          (match v' with | .alg _ => true | _ => canInt v' || canTstr v') = true)
    (h2 : ensureCritical v g = true → ensureCritical v' g = true)
    (h3 : tstrOrUintOK v = true → tstrOrUintOK v' = true)
    (h4 : canBstr v = true → canBstr v' = true)
    (h5 : isCsigValue v = true → isCsigValue v' = true)
    (h : checkParam g prot l v = true) : checkParam g prot l v' = true := by
  unfold checkParam at h ⊢
  split at h <;> try simp only [Bool.and_eq_true] at h ⊢
  -- one goal per arm of `checkParam` but the last, in the order of the labels there
  · exact h1 h              -- 1, alg
  · exact ⟨h.1, h2 h.2⟩     -- 2, crit
  · exact h3 h              -- 16, typ
  · exact h3 h              -- 3, content type
  · exact h4 h              -- 4, kid
  · exact ⟨h4 h.1, h.2⟩     -- 5, IV
  · exact ⟨h4 h.1, h.2⟩     -- 6, partial IV
  · exact ⟨h.1, h5 h.2⟩     -- 7, countersignature
  · exact ⟨h.1, h4 h.2⟩     -- 9, countersignature0
  · exact ⟨h.1, h5 h.2⟩     -- 11, countersignature V2
  · exact ⟨h.1, h4 h.2⟩     -- 12, countersignature0 V2

/-- the per-label checks only look at the kind of a flat value, which decoding preserves -/
theorem checkParam_normVal (g : GoMap) (prot : Bool) (l : GoVal) {v : GoVal} (hv : FlatVal v)
    (hu : UintOK v) (h : checkParam g prot l v = true) : checkParam g prot l (normVal v) = true := by
  cases v <;> simp only [FlatVal] at hv <;> try exact h
  case int k n =>
    refine checkParam_mono (v := .int k n) (v' := .int .i64 n) g prot l (fun _ => rfl) (fun h => h)
      ?_ (fun h => h) (fun h => h) h
    have h64 : IntKind.i64.signed = true := rfl
    cases hs : k.signed <;> simp [tstrOrUintOK, canUint, h64, hs]
    exact hu hs
  case alg n =>
    refine checkParam_mono (v := .alg n) (v' := .int .i64 n) g prot l (fun _ => rfl) (fun h => h) ?_ (fun h => h) (fun h => h) h
    simp [tstrOrUintOK, canUint]
  case crv n =>
    refine checkParam_mono (v := .crv n) (v' := .int .i64 n) g prot l (fun _ => rfl) (fun h => h) ?_ (fun h => h) (fun h => h) h
    simp [tstrOrUintOK, canUint]

/-- validation refuses a non-countersignature value under the countersignature labels 7 and 11 -/
theorem isCsigLabel_false_of_check {g : GoMap} {l' l v : GoVal} (hv : isCsigValue v = false)
    (hl : normalizeLabel l' = some l) (h : checkParam g false l v = true) :
    isCsigLabel l' = false := by
  unfold isCsigLabel
  rw [hl]
  split
  next heq =>
    cases heq
    simp [checkParam, hv] at h
  next heq =>
    cases heq
    simp [checkParam, hv] at h
  next => rfl

theorem isCsigValue_flat {v : GoVal} (hv : FlatVal v) : isCsigValue v = false := by
  cases v <;> simp only [FlatVal] at hv <;> rfl

/-! ### a head that is read back with its width -/

theorem imm_of_fits {w : HW} {n : Nat} (h : w.fits n = true) : w = .imm → n < 24 := by
  intro hw; subst hw; simpa [HW.fits] using h

theorem imm_of_shortest (n : Nat) : HW.shortest n = .imm → n < 24 := by
  rcases HeadersDeep.shortest_cases n with ⟨a, _⟩ | ⟨_, _, e⟩ | ⟨_, _, e⟩ | ⟨_, _, e⟩ | ⟨_, e⟩
  · exact fun _ => a
  all_goals (rw [e]; intro hc; cases hc)

/-- reading back a head whose width is not `.imm` for an argument that needs more: the width
    comes back, whatever the argument bytes carry -/
theorem parseHead_width (m n : Nat) (w : HW) (r : Bytes) (hm : m < 8) (hw : w = .imm → n < 24) :
    ∃ n', parseHead (headBytes m w n ++ r) = some (m, w, n', r) := by
  by_cases hi : w = .imm
  · subst hi
    exact ⟨n, parseHead_headBytes m n .imm r hm (decide_eq_true (hw rfl))⟩
  · obtain ⟨h1, h2⟩ := initialByte m w.ai hm w.ai_lt
    exact ⟨_, by rw [headBytes_be m n hi, List.cons_append,
      parseHead_be _ hi _ r (beBytes_length _ _) h2, h1]⟩

theorem bstr_split_inj {w w' : HW} {n n' : Nat} {x y : Bytes}
    (h : headBytes 2 w n ++ x = headBytes 2 w' n' ++ y)
    (hw : w = .imm → n < 24) (hw' : w' = .imm → n' < 24) : w = w' ∧ x = y := by
  obtain ⟨a, ha⟩ := parseHead_width 2 n w x (by decide) hw
  obtain ⟨b, hb⟩ := parseHead_width 2 n' w' y (by decide) hw'
  rw [h, hb] at ha
  cases ha
  exact ⟨rfl, rfl⟩

/-! ### what `Algorithm()` will find in the decoded bucket -/

/-- what `Algorithm()` returns on the decoded bucket, read off the bucket that was encoded:
    the integer stored under label 1 whatever Go integer type (or `Algorithm`) spells it -/
def algSpec (h : GoMap) : AlgLookup :=
  match lookupLabel h (lbl 1) with
  | none => .notFound
  | some v =>
    match normVal v with
    | .int _ a => .found a
    | .str _ => .failed .algNotSupported
    | _ => .failed .invalidAlg

/-- what `Algorithm()` makes of the value stored under label 1 -/
def algOfVal : GoVal → AlgLookup
  | .alg a => .found a
  | .int k v => if k.signed then .found v else .failed .invalidAlg
  | .str _ => .failed .algNotSupported
  | _ => .failed .invalidAlg

theorem algorithmOf_eq (h : GoMap) : algorithmOf h =
    match lookupLabel h (lbl 1) with
    | none => .notFound
    | some v => algOfVal v := by
  unfold algorithmOf
  cases lookupLabel h (lbl 1) with
  | none => rfl
  | some v => cases v <;> rfl

theorem algSpec_eq (h : GoMap) : algSpec h =
    match lookupLabel h (lbl 1) with
    | none => .notFound
    | some v => algOfVal (algCast (normVal v)) := by
  unfold algSpec
  cases lookupLabel h (lbl 1) with
  | none => rfl
  | some v => cases v <;> rfl

/-! ### a bucket whose values are encoded as `wv` says and read back as `nv` says

  The flat, the nested and the countersignature data model differ in the item a value is encoded
  to (`valWire`, `wireN`, `cwire`) and in the value the decoder returns for it (`normVal`,
  `normValN`, `cnorm`); labels are flat in all three, and in the parameter map of a COSE_Key
  (`Deep/KeyRoundTrip.lean`).  Everything about a bucket as a whole is proved here once, about an
  arbitrary `wv` and `nv`, from what is known of each value. -/

section Bucket
variable (wv : GoVal → Wire) (nv : GoVal → GoVal)

def entryWireBy (e : GoVal × GoVal) : Wire × Wire := (valWire e.1, wv e.2)

def normEntryBy (e : GoVal × GoVal) : GoVal × GoVal := (normVal e.1, nv e.2)

def decEntryBy (e : GoVal × GoVal) : GoVal × GoVal := castEntry (normEntryBy nv e)

/-- the map item the encoder emits: shortest head, entries sorted bytewise by encoded key -/
def mapWireBy (h : GoMap) : Wire :=
  .map (HW.shortest h.length) ((sortEntries h).map (entryWireBy wv))

/-- the flat data model's own `entryWire`, `normEntry`, `decEntry`, `mapWire` are these at
    `valWire` / `normVal`, by unfolding; that is how a lemma of this section, taken at
    `valWire normVal`, proves a statement about them without a rewriting step.  Likewise
    `entryWireN` … `decEntryN` at `wireN` / `normValN` (`NestedBuckets.bucketBy_nested`) and
    `centryWire`, `cnormEntry`, `umapWire` at `cwire` / `cnorm` (`CsigRT.bucketBy_csig`). -/
theorem bucketBy_flat : entryWireBy valWire = entryWire ∧ normEntryBy normVal = normEntry ∧
    decEntryBy normVal = decEntry ∧ mapWireBy valWire = mapWire :=
  ⟨rfl, rfl, rfl, rfl⟩

/-- the encoder emits the item `wv v` for `v`; the item is well formed, within the decoder's
    limits when met at depth `d`, and tag free -/
structure ItemOK (cfg : EncCfg) (d : Nat) (v : GoVal) : Prop where
  enc : encodeAny cfg v = some (wv v).bytes
  wf : (wv v).wf = true
  lim : ∀ t, (wv v).inLimits t d = true
  noTag : (wv v).hasTag = false

theorem ItemOK.of_flat (cfg : EncCfg) (d : Nat) {v : GoVal} (hv : FlatVal v) :
    ItemOK valWire cfg d v :=
  ⟨valWire_bytes cfg hv, valWire_wf hv, fun t => valWire_inLimits v t d, valWire_noTag v⟩

theorem decEntryBy_fst (e : GoVal × GoVal) : (decEntryBy nv e).1 = normVal e.1 :=
  castEntry_fst _

theorem normalizeLabel_decEntryBy {e : GoVal × GoVal} (hl : FlatLabel e.1) :
    normalizeLabel (decEntryBy nv e).1 = normalizeLabel e.1 := by
  rw [decEntryBy_fst]
  exact normalizeLabel_normVal hl

/-! #### arrays -/

theorem encodeList_map {α : Type} (cfg : EncCfg) (f : α → GoVal) (w : α → Wire) : ∀ xs : List α,
    (∀ x ∈ xs, encodeAny cfg (f x) = some (w x).bytes) →
    encodeList cfg (xs.map f) = some (Wire.bytesList (xs.map w))
  | [], _ => by simp only [encodeList, List.map_nil, Wire.bytesList]
  | x :: xs, h => by
    have h1 := h x (List.mem_cons_self ..)
    have h2 := encodeList_map cfg f w xs (fun y hy => h y (List.mem_cons_of_mem _ hy))
    simp only [List.map_cons, encodeList, h1, h2, Wire.bytesList]

theorem arrWire_ok {d : Nat} {xs : List GoVal} (hw : ∀ x ∈ xs, (wv x).wf = true)
    (hl : ∀ x ∈ xs, ∀ t, (wv x).inLimits t (d + 1) = true)
    (ht : ∀ x ∈ xs, (wv x).hasTag = false) (hlen : xs.length ≤ maxElems)
    (hd : d + 1 ≤ maxNested) :
    (Wire.arr (HW.shortest xs.length) (xs.map wv)).wf = true ∧
    (∀ t, (Wire.arr (HW.shortest xs.length) (xs.map wv)).inLimits t d = true) ∧
    (Wire.arr (HW.shortest xs.length) (xs.map wv)).hasTag = false := by
  refine ⟨?_, fun t => ?_, ?_⟩
  · simp only [Wire.wf, List.length_map, shortest_fits_elems hlen, Bool.true_and, wfList_iff,
      List.forall_mem_map]
    exact hw
  · simp only [Wire.inLimits, List.length_map, hd, hlen, decide_true, Bool.true_and,
      inLimitsList_iff, List.forall_mem_map]
    exact fun x hx => hl x hx t
  · simp only [Wire.hasTag, hasTagList_iff, List.forall_mem_map]
    exact ht

/-! #### the encoder -/

theorem encodePairs_by (cfg : EncCfg) {g : GoMap}
    (h : ∀ e ∈ g, FlatVal e.1 ∧ encodeAny cfg e.2 = some (wv e.2).bytes) :
    encodePairs cfg g = some (g.map (fun e => wireBytes (entryWireBy wv e))) := by
  rw [C08.encodePairs_eq_some_iff, List.map_map]
  apply List.map_congr_left
  intro e he
  obtain ⟨h1, h2⟩ := h e he
  simp only [C08.encPair, valWire_bytes cfg h1, h2, Function.comp, wireBytes, entryWireBy]

theorem sortPairs_entryWireBy (g : GoMap) :
    sortPairs (g.map (fun e => wireBytes (entryWireBy wv e)))
      = (sortEntries g).map (fun e => wireBytes (entryWireBy wv e)) :=
  mergeSort_map_sortEntries (β := Bytes × Bytes) (fun a b => bytesLe a.1 b.1) (fun e => wireBytes (entryWireBy wv e))
    (fun _ _ => rfl) g

theorem concat_sortedBy (g : GoMap) :
    concatPairs (sortPairs (g.map (fun e => wireBytes (entryWireBy wv e))))
      = Wire.bytesPairs ((sortEntries g).map (entryWireBy wv)) := by
  rw [sortPairs_entryWireBy, ← concatPairs_wireBytes, List.map_map]
  rfl

theorem mapWireBy_bytes (h : GoMap) :
    (mapWireBy wv h).bytes = encHead 5 h.length
      ++ concatPairs (sortPairs (h.map (fun e => wireBytes (entryWireBy wv e)))) := by
  simp only [mapWireBy, Wire.bytes, List.length_map, sortEntries_length, concat_sortedBy, encHead]

theorem mapWireBy_nil_bytes : (mapWireBy wv []).bytes = [0xa0] := by
  simp only [mapWireBy, sortEntries, List.mergeSort_nil, List.map_nil, Wire.bytes,
    Wire.bytesPairs, List.length_nil, List.append_nil]
  rfl

/-- the first byte of the map item says "map" -/
theorem mapWireBy_bytes_cons {h : GoMap} (hlen : h.length ≤ maxElems) :
    ∃ b0 rest, (mapWireBy wv h).bytes = b0 :: rest ∧ b0.toNat / 32 = 5 := by
  obtain ⟨b0, tl, hb, hm⟩ :=
    headBytes_major (m := 5) (by omega) (shortest_fits_elems (n := h.length) hlen)
  refine ⟨b0, tl ++ Wire.bytesPairs ((sortEntries h).map (entryWireBy wv)), ?_, hm⟩
  simp only [mapWireBy, Wire.bytes, List.length_map, sortEntries_length, hb, List.cons_append]

theorem mapWireBy_ok (cfg : EncCfg) {d : Nat} {h : GoMap} (hk : ∀ e ∈ h, FlatVal e.1)
    (hent : ∀ e ∈ h, ItemOK wv cfg (d + 1) e.2) (hlen : h.length ≤ maxElems)
    (hd : d + 1 ≤ maxNested) :
    encodePairs cfg h = some (h.map (fun e => wireBytes (entryWireBy wv e))) ∧
    (mapWireBy wv h).wf = true ∧ (∀ t, (mapWireBy wv h).inLimits t d = true) ∧
    (mapWireBy wv h).hasTag = false := by
  refine ⟨encodePairs_by wv cfg (fun e he => ⟨hk e he, (hent e he).enc⟩), ?_, fun t => ?_, ?_⟩
  · simp only [mapWireBy, Wire.wf, List.length_map, sortEntries_length, shortest_fits_elems hlen,
      Bool.true_and, wfPairs_iff, List.forall_mem_map, sortEntries_mem]
    exact fun e he => ⟨valWire_wf (hk e he), (hent e he).wf⟩
  · simp only [mapWireBy, Wire.inLimits, List.length_map, sortEntries_length, hd, hlen,
      decide_true, Bool.true_and, inLimitsPairs_iff, List.forall_mem_map, sortEntries_mem]
    exact fun e he => ⟨valWire_inLimits _ _ _, (hent e he).lim t⟩
  · simp only [mapWireBy, Wire.hasTag, hasTagPairs_iff, List.forall_mem_map, sortEntries_mem]
    exact fun e he => ⟨valWire_noTag _, (hent e he).noTag⟩

theorem encodeAny_map_by (cfg : EncCfg) {g : GoMap}
    (h : ∀ e ∈ g, FlatVal e.1 ∧ encodeAny cfg e.2 = some (wv e.2).bytes) :
    encodeAny cfg (.map g) = some (mapWireBy wv g).bytes := by
  rw [C08.encodeAny_map, encodePairs_by wv cfg h, mapWireBy_bytes]

/-- `encodeBucket` on a non-empty validated bucket whose pairs are encoded.  `hw`: the
    tags-forbidden well-formedness pass that `UnprotectedHeader.MarshalCBOR` runs on the fresh
    bytes; the protected bucket has no such gate. -/
theorem encodeBucket_by {h : GoMap} (prot : Bool) (hv : validateHeaderParameters h prot = true)
    (hne : h ≠ [])
    (hep : encodePairs encCfg h = some (h.map (fun e => wireBytes (entryWireBy wv e))))
    (hw : prot = false → wellformedNoTags (mapWireBy wv h).bytes = true) :
    encodeBucket encCfg prot none h
      = some (if prot then encBstr (mapWireBy wv h).bytes else (mapWireBy wv h).bytes) := by
  cases h with
  | nil => exact absurd rfl hne
  | cons e es =>
    have hv' : encCfg.validate (e :: es) prot = true := hv
    rw [mapWireBy_bytes] at hw ⊢
    cases prot with
    | true =>
      simp only [encodeBucket, hv', Bool.not_true, Bool.false_eq_true, if_false, if_true, hep]
    | false =>
      simp only [encodeBucket, hv', Bool.not_true, Bool.false_eq_true, if_false, hep, hw rfl,
        if_true]

/-! #### the decoders -/

/-- labels of `g` that are pairwise distinct and fresh w.r.t. `seen` pass `labelsOK` -/
theorem labelsOK_by : ∀ (g : GoMap) (seen : List GoVal), (∀ e ∈ g, FlatLabel e.1) →
    g.Pairwise LabelDistinct →
    (∀ e ∈ g, seen.any (fun x => x.keyEq (normVal e.1)) = false) →
    labelsOK (g.map (entryWireBy wv)) seen = .ok ()
  | [], _, _, _, _ => rfl
  | e :: r, seen, hf, hp, hs => by
    have h1 := hf e (List.mem_cons_self ..)
    rw [List.pairwise_cons] at hp
    rw [List.map_cons, entryWireBy, labelsOK_cons_flat h1, hs e (List.mem_cons_self ..)]
    simp only [Bool.false_eq_true, if_false]
    apply labelsOK_by r _ (fun x hx => hf x (List.mem_cons_of_mem _ hx)) hp.2
    intro e' he'
    rw [List.any_cons, hs e' (List.mem_cons_of_mem _ he'), Bool.or_false]
    exact hp.1 e' he' _ _ (normalizeLabel_flat h1)
      (normalizeLabel_flat (hf e' (List.mem_cons_of_mem _ he')))

theorem labelsOK_sortedBy {h : GoMap} (hl : ∀ e ∈ h, FlatLabel e.1) (hok : LabelsOK h) :
    labelsOK ((sortEntries h).map (entryWireBy wv)) [] = .ok () :=
  labelsOK_by wv (sortEntries h) [] (fun e he => hl e (sortEntries_mem.mp he))
    (labelsOK_sorted hok).2 (fun _ _ => rfl)

theorem decodePairs_cons_by {e : GoVal × GoVal} (h1 : RTKey e.1)
    (h2 : decodeAny (wv e.2) = .ok (nv e.2)) (r : List (Wire × Wire)) (acc : GoMap) :
    decodePairs (entryWireBy wv e :: r) acc =
      if acc.any (fun x => x.1.keyEq (normVal e.1)) then .err .other
      else decodePairs r (normEntryBy nv e :: acc) := by
  obtain ⟨k, v⟩ := e
  simp only [entryWireBy, decodePairs, valWire_decode h1.flatVal, h2, normEntryBy]
  cases k <;> simp only [RTKey] at h1 <;>
    simp only [normVal, keyHashable, Bool.not_true, Bool.false_eq_true, if_false]

theorem decodePairs_by : ∀ (g : GoMap) (acc : GoMap),
    (∀ e ∈ g, RTKey e.1 ∧ decodeAny (wv e.2) = .ok (nv e.2)) →
    g.Pairwise KeyDistinct →
    (∀ e ∈ g, acc.any (fun x => x.1.keyEq (normVal e.1)) = false) →
    decodePairs (g.map (entryWireBy wv)) acc = .ok (acc.reverse ++ g.map (normEntryBy nv))
  | [], acc, _, _, _ => by simp [decodePairs]
  | e :: r, acc, hf, hp, hs => by
    obtain ⟨h1, h2⟩ := hf e (List.mem_cons_self ..)
    rw [List.pairwise_cons] at hp
    rw [List.map_cons, decodePairs_cons_by wv nv h1 h2, hs e (List.mem_cons_self ..)]
    simp only [Bool.false_eq_true, if_false]
    rw [decodePairs_by r _ (fun x hx => hf x (List.mem_cons_of_mem _ hx)) hp.2]
    · simp
    · intro e' he'
      rw [List.any_cons, hs e' (List.mem_cons_of_mem _ he'), Bool.or_false]
      exact hp.1 e' he'

theorem decodePairs_sortedBy {h : GoMap}
    (hent : ∀ e ∈ h, RTKey e.1 ∧ decodeAny (wv e.2) = .ok (nv e.2))
    (hdist : h.Pairwise KeyDistinct) :
    decodePairs ((sortEntries h).map (entryWireBy wv)) []
      = .ok ((sortEntries h).map (normEntryBy nv)) := by
  have := decodePairs_by wv nv (sortEntries h) [] (fun e he => hent e (sortEntries_mem.mp he))
    (keyDistinct_sorted hdist) (fun _ _ => rfl)
  simpa using this

/-- the unprotected-header decoder chooses the countersignature branch by the decoded label -/
theorem decUnprotPairs_by : ∀ (g : GoMap),
    (∀ e ∈ g, FlatLabel e.1 ∧
      (if isCsigLabel (normVal e.1) then decCsigValue (wv e.2) else decodeAny (wv e.2))
        = .ok (nv e.2)) →
    decUnprotPairs (g.map (entryWireBy wv)) = .ok (g.map (normEntryBy nv))
  | [], _ => by simp [decUnprotPairs]
  | e :: r, hf => by
    obtain ⟨h1, h2⟩ := hf e (List.mem_cons_self ..)
    have ih := decUnprotPairs_by r (fun x hx => hf x (List.mem_cons_of_mem _ hx))
    rw [List.map_cons, entryWireBy, decUnprotPairs]
    simp only [valWire_decode h1.flatVal, h2, ih, List.map_cons, normEntryBy]

/-- validation keeps values that are no countersignatures away from labels 7 and 11, so the
    unprotected-header decoder reads them generically -/
theorem decUnprot_branch_of_validate {h : GoMap} (hl : ∀ e ∈ h, FlatLabel e.1)
    (hv : validateHeaderParameters h false = true) {e : GoVal × GoVal} (he : e ∈ h)
    (hcs : isCsigValue e.2 = false) (hd : decodeAny (wv e.2) = .ok (nv e.2)) :
    (if isCsigLabel (normVal e.1) then decCsigValue (wv e.2) else decodeAny (wv e.2))
      = .ok (nv e.2) := by
  obtain ⟨l, h1, h2⟩ := ((C13.validate_iff _ _).mp hv).2 e he
  simp only [isCsigLabel_false_of_check hcs ((normalizeLabel_normVal (hl e he)).trans h1) h2,
    Bool.false_eq_true, if_false]
  exact hd

/-- the unprotected bucket whose map item is met at depth `d`: what `MarshalUnprotected` emits
    and what `UnprotectedHeader.UnmarshalCBOR` makes of it.  The scan for tag 55799
    (`headerLabelsUntagged`) is run on the bytes of the map, and only a map within the decoder's
    limits is known to read back as itself. -/
theorem unprotBucket_by {d : Nat} {h : GoMap} (hl : ∀ e ∈ h, FlatLabel e.1)
    (hent : ∀ e ∈ h, ItemOK wv encCfg (d + 1) e.2)
    (hdec : ∀ e ∈ h,
      (if isCsigLabel (normVal e.1) then decCsigValue (wv e.2) else decodeAny (wv e.2))
        = .ok (nv e.2))
    (hv : validateHeaderParameters h false = true)
    (hvn : validateHeaderParameters ((sortEntries h).map (normEntryBy nv)) false = true)
    (hlen : h.length ≤ maxElems) (hd : d + 1 ≤ maxNested) :
    encodeBucket encCfg false none h = some (mapWireBy wv h).bytes ∧ (mapWireBy wv h).wf = true ∧
      (∀ t, (mapWireBy wv h).inLimits t d = true) ∧ (mapWireBy wv h).hasTag = false ∧
      decUnprot (mapWireBy wv h) = .ok ((sortEntries h).map (normEntryBy nv)) := by
  obtain ⟨hep, hwf, hlim, hnt⟩ :=
    mapWireBy_ok wv encCfg (fun e he => (hl e he).flatVal) hent hlen hd
  refine ⟨?_, hwf, hlim, hnt, ?_⟩
  · by_cases hne : h = []
    · subst hne
      simp only [encodeBucket, Bool.false_eq_true, if_false, mapWireBy_nil_bytes]
    · -- the encoder's well-formedness pass starts at depth 0, whatever depth the bucket is met at
      exact encodeBucket_by wv false hv hne hep
        (fun _ => wellformedNoTags_bytes_at hwf (hlim false))
  · have hscan : headerLabelsUntagged (mapWireBy wv h).bytes = true :=
      ensureUntagged_bytes_noTag _ hwf (hlim true) hnt
    have hdp := decUnprotPairs_by wv nv (sortEntries h)
      (fun e he => ⟨hl e (sortEntries_mem.mp he), hdec e (sortEntries_mem.mp he)⟩)
    unfold mapWireBy at hscan
    simp only [mapWireBy, decUnprot, labelsOK_sortedBy wv hl (C13.validate_labels h false hv),
      hscan, hdp, hvn, if_true, Bool.not_true, Bool.false_eq_true, if_false]

theorem castAlg_normEntryBy {g : GoMap} (hl : ∀ e ∈ g, FlatLabel e.1) (hok : LabelsOK g) :
    castAlg (g.map (normEntryBy nv)) = g.map (decEntryBy nv) := by
  rw [castAlg_eq_map (labelsOK_map _ (fun e he => normalizeLabel_normVal (hl e he)) hok),
    List.map_map]
  · rfl
  · intro e' he'
    obtain ⟨e, he, rfl⟩ := List.mem_map.mp he'
    exact (normalizeLabel_flat (flatLabel_normVal (hl e he))).trans
      (congrArg some (normVal_normVal e.1))

/-- `ProtectedHeader.UnmarshalCBOR` on the content of the protected byte string -/
theorem decProtectedContent_mapWireBy {h : GoMap} (hl : ∀ e ∈ h, FlatLabel e.1)
    (hent : ∀ e ∈ h, ItemOK wv encCfg 1 e.2)
    (hdec : ∀ e ∈ h, decodeAny (wv e.2) = .ok (nv e.2)) (hok : LabelsOK h)
    (hlen : h.length ≤ maxElems) :
    decProtectedContent (mapWireBy wv h).bytes =
      if validateHeaderParameters ((sortEntries h).map (normEntryBy nv)) true = true
      then .ok ((sortEntries h).map (decEntryBy nv)) else .err .other := by
  obtain ⟨b0, rest, hc, hb0⟩ := mapWireBy_bytes_cons wv hlen
  obtain ⟨-, hwf, hlim, hnt⟩ := mapWireBy_ok wv encCfg (d := 0) (fun e he => (hl e he).flatVal)
    hent hlen (by unfold maxNested; omega)
  have hparse : parseTop true (b0 :: rest)
      = some (.map (HW.shortest h.length) ((sortEntries h).map (entryWireBy wv))) := by
    rw [← hc]
    exact parseTop_complete hwf (hlim true)
  have hscan : headerLabelsUntagged (b0 :: rest) = true :=
    ensureUntagged_of_parse_noTag _ hparse hnt
  have hdp := decodePairs_sortedBy wv nv (fun e he => ⟨(hl e he).rtKey, hdec e he⟩)
    (keyDistinct_of_labelsOK hl hok)
  rw [hc]
  simp only [decProtectedContent, hb0, ne_eq, not_true_eq_false, if_false, hparse,
    labelsOK_sortedBy wv hl hok, hdp, hscan, Bool.not_true, Bool.false_eq_true, Out.bind_ok,
    castAlg_normEntryBy nv (fun e he => hl e (sortEntries_mem.mp he)) (labelsOK_sorted hok)]
  cases validateHeaderParameters ((sortEntries h).map (normEntryBy nv)) true <;> rfl

/-- a header map as one item: what the encoder emits, that the parser reads it back, and what the
    generic map decoder makes of it -/
theorem map_roundtrip_by (cfg : EncCfg) (h : GoMap) (hl : ∀ e ∈ h, FlatLabel e.1)
    (hent : ∀ e ∈ h, ItemOK wv cfg 1 e.2) (hdec : ∀ e ∈ h, decodeAny (wv e.2) = .ok (nv e.2))
    (hok : LabelsOK h) (hlen : h.length ≤ maxElems) :
    ∃ (ps : List (Bytes × Bytes)) (kvs : List (Wire × Wire)) (m' : GoMap),
      encodePairs cfg h = some ps ∧
      kvs = (sortEntries h).map (entryWireBy wv) ∧ kvs.Perm (h.map (entryWireBy wv)) ∧
      kvs.Pairwise (fun a b => bytesLe a.1.bytes b.1.bytes = true) ∧
      concatPairs (sortPairs ps) = Wire.bytesPairs kvs ∧
      (Wire.map (HW.shortest h.length) kvs).wf = true ∧
      (∀ t, (Wire.map (HW.shortest h.length) kvs).inLimits t 0 = true) ∧
      (Wire.map (HW.shortest h.length) kvs).hasTag = false ∧
      encodeAny cfg (.map h) = some (Wire.map (HW.shortest h.length) kvs).bytes ∧
      (∀ t, parseTop t (Wire.map (HW.shortest h.length) kvs).bytes
              = some (Wire.map (HW.shortest h.length) kvs)) ∧
      labelsOK kvs [] = .ok () ∧
      decodePairs kvs [] = .ok m' ∧
      m' = (sortEntries h).map (normEntryBy nv) ∧ m'.Perm (h.map (normEntryBy nv)) ∧
      decodeAny (Wire.map (HW.shortest h.length) kvs) = .ok (.map m') := by
  have hk : ∀ e ∈ h, FlatVal e.1 := fun e he => (hl e he).flatVal
  obtain ⟨hep, hwf, hlim, hnt⟩ :=
    mapWireBy_ok wv cfg (d := 0) hk hent hlen (by unfold maxNested; omega)
  have hdp := decodePairs_sortedBy wv nv (fun e he => ⟨(hl e he).rtKey, hdec e he⟩)
    (keyDistinct_of_labelsOK hl hok)
  refine ⟨_, _, _, hep, rfl, (sortEntries_perm h).map _, ?_, concat_sortedBy wv h, hwf, hlim, hnt,
    encodeAny_map_by wv cfg (fun e he => ⟨hk e he, (hent e he).enc⟩),
    fun t => parseTop_complete hwf (hlim t), labelsOK_sortedBy wv hl hok, hdp, rfl,
    (sortEntries_perm h).map _, ?_⟩
  · rw [List.pairwise_map]
    exact sortEntries_sorted h
  · simp only [decodeAny, hdp]

/-! #### validation and `Algorithm()` on the decoded bucket -/

/-- validation survives the decoder's retyping of the values when each per-label check does -/
theorem validate_normEntryBy {g : GoMap} (prot : Bool) (hl : ∀ e ∈ g, FlatLabel e.1)
    (hc : ∀ e ∈ g, ∀ l, checkParam g prot l e.2 = true → checkParam g prot l (nv e.2) = true)
    (hv : validateHeaderParameters g prot = true) :
    validateHeaderParameters (g.map (normEntryBy nv)) prot = true :=
  validate_map (normEntryBy nv) (fun e he => normalizeLabel_normVal (hl e he))
    (fun e he l _ => hc e he l) hv

/-- … and so does the sorted form the decoder builds -/
theorem validate_sorted_normEntryBy {g : GoMap} (prot : Bool) (hl : ∀ e ∈ g, FlatLabel e.1)
    (hc : ∀ e ∈ g, ∀ l, checkParam g prot l e.2 = true → checkParam g prot l (nv e.2) = true)
    (hv : validateHeaderParameters g prot = true) :
    validateHeaderParameters ((sortEntries g).map (normEntryBy nv)) prot = true := by
  rw [C13.validate_perm_invariant _ _ ((sortEntries_perm g).map _)]
  exact validate_normEntryBy nv prot hl hc hv

/-- `Algorithm()` on the decoded protected bucket: label 1 holds the retyped decoded form of what it
    held, which `Algorithm()` reads as it reads the retyped `normVal` form -/
theorem algorithmOf_sorted_decEntryBy {h : GoMap} (hl : ∀ e ∈ h, FlatLabel e.1) (hok : LabelsOK h)
    (hnv : ∀ v, algOfVal (algCast (nv v)) = algOfVal (algCast (normVal v))) :
    algorithmOf ((sortEntries h).map (decEntryBy nv)) = algSpec h := by
  have hf := fun x hx => normalizeLabel_decEntryBy nv (hl x hx)
  rw [algorithmOf_eq, algSpec_eq]
  by_cases hex : ∃ e ∈ h, normalizeLabel e.1 = some (lbl 1)
  · obtain ⟨e, he, hn⟩ := hex
    obtain ⟨h1, h2⟩ := lookupLabel_sorted_map hok (decEntryBy nv) hf he normalizeLabel_lbl1 hn
    have hk : normVal e.1 = lbl 1 := by
      rw [normalizeLabel_flat (hl e he)] at hn; exact Option.some.inj hn
    have hde : (decEntryBy nv e).2 = algCast (nv e.2) := by
      simp only [decEntryBy, castEntry, normEntryBy, hk]
      rw [if_pos (show (lbl 1).keyEq (lbl 1) = true from GoVal.keyEq_int_self .i64 1)]
    rw [h1, h2, hde]
    exact hnv e.2
  · obtain ⟨h1, h2⟩ := lookupLabel_sorted_map_none (decEntryBy nv) hf normalizeLabel_lbl1
      (fun e he hc => hex ⟨e, he, hc⟩)
    rw [h1, h2]

/-! #### the protected bucket as a whole -/

/-- what `MarshalProtected` emits is a byte string with a shortest head whose content
    `ProtectedHeader.UnmarshalCBOR` reads back entry by entry, in wire order.  `hvn`: the decoded
    form validates; `halg`: what `Algorithm()` finds in it. -/
theorem protected_bucket_roundtrip_by (h : GoMap) (hl : ∀ e ∈ h, FlatLabel e.1)
    (hent : ∀ e ∈ h, ItemOK wv encCfg 1 e.2) (hdec : ∀ e ∈ h, decodeAny (wv e.2) = .ok (nv e.2))
    (hv : validateHeaderParameters h true = true)
    (hvn : validateHeaderParameters ((sortEntries h).map (normEntryBy nv)) true = true)
    (halg : algorithmOf ((sortEntries h).map (decEntryBy nv)) = algSpec h)
    (hlen : h.length ≤ maxElems) (b : Bytes) (he : encodeBucket encCfg true none h = some b) :
    ∃ (hw : HW) (content : Bytes) (m : GoMap),
      b = headBytes 2 hw content.length ++ content ∧ hw = HW.shortest content.length ∧
      (h ≠ [] → content = (mapWireBy wv h).bytes) ∧
      decProtectedContent content = .ok m ∧
      m = (sortEntries h).map (decEntryBy nv) ∧ m.Perm (h.map (decEntryBy nv)) ∧
      algorithmOf m = algSpec h := by
  by_cases hne : h = []
  · subst hne
    simp only [encodeBucket, if_true, Option.some.injEq] at he
    subst he
    exact ⟨.imm, [], [], by decide, by decide, fun hc => absurd rfl hc,
      by simp [decProtectedContent], by simp [sortEntries], by simp,
      rfl⟩
  · have hep := encodePairs_by wv encCfg (fun e he => ⟨(hl e he).flatVal, (hent e he).enc⟩)
    rw [encodeBucket_by wv true hv hne hep (fun hc => Bool.noConfusion hc)] at he
    simp only [if_true, Option.some.injEq] at he
    refine ⟨HW.shortest (mapWireBy wv h).bytes.length, (mapWireBy wv h).bytes,
      (sortEntries h).map (decEntryBy nv), ?_, rfl, fun _ => rfl, ?_, rfl,
      (sortEntries_perm h).map _, halg⟩
    · rw [← he]; rfl
    · rw [decProtectedContent_mapWireBy wv nv hl hent hdec (C13.validate_labels h true hv) hlen,
        if_pos hvn]

/-- the same read from the decoder's side: any split of the emitted bytes into a fitting
    byte-string head and a content the decoder accepts is the split above -/
theorem decoded_alg_by (h : GoMap) (hne : h ≠ []) (hl : ∀ e ∈ h, FlatLabel e.1)
    (hent : ∀ e ∈ h, ItemOK wv encCfg 1 e.2) (hdec : ∀ e ∈ h, decodeAny (wv e.2) = .ok (nv e.2))
    (hv : validateHeaderParameters h true = true)
    (halg : algorithmOf ((sortEntries h).map (decEntryBy nv)) = algSpec h)
    (hlen : h.length ≤ maxElems)
    (b content : Bytes) (hw : HW) (hfit : hw = .imm → content.length < 24)
    (he : encodeBucket encCfg true none h = some b)
    (hb : b = headBytes 2 hw content.length ++ content) (m : GoMap)
    (hd : decProtectedContent content = .ok m) :
    content = (mapWireBy wv h).bytes ∧ m = (sortEntries h).map (decEntryBy nv) ∧
      m.Perm (h.map (decEntryBy nv)) ∧ algorithmOf m = algSpec h := by
  have hep := encodePairs_by wv encCfg (fun e he => ⟨(hl e he).flatVal, (hent e he).enc⟩)
  rw [encodeBucket_by wv true hv hne hep (fun hc => Bool.noConfusion hc)] at he
  simp only [if_true, Option.some.injEq] at he
  have hc : content = (mapWireBy wv h).bytes := by
    have h1 : headBytes 2 (HW.shortest (mapWireBy wv h).bytes.length) (mapWireBy wv h).bytes.length
        ++ (mapWireBy wv h).bytes = headBytes 2 hw content.length ++ content := by
      rw [← hb, ← he]; rfl
    exact (bstr_split_inj h1 (imm_of_shortest _) hfit).2.symm
  subst hc
  rw [decProtectedContent_mapWireBy wv nv hl hent hdec (C13.validate_labels h true hv) hlen] at hd
  split at hd
  · simp only [Out.ok.injEq] at hd
    subst hd
    exact ⟨rfl, rfl, (sortEntries_perm h).map _, halg⟩
  · cases hd

theorem unprotected_bucket_roundtrip_by (h : GoMap) (hl : ∀ e ∈ h, FlatLabel e.1)
    (hent : ∀ e ∈ h, ItemOK wv encCfg 1 e.2)
    (hdec : ∀ e ∈ h,
      (if isCsigLabel (normVal e.1) then decCsigValue (wv e.2) else decodeAny (wv e.2))
        = .ok (nv e.2))
    (hv : validateHeaderParameters h false = true)
    (hvn : validateHeaderParameters ((sortEntries h).map (normEntryBy nv)) false = true)
    (hlen : h.length ≤ maxElems) (b : Bytes) (he : encodeBucket encCfg false none h = some b) :
    ∃ (w : Wire) (m : GoMap), b = w.bytes ∧ w = mapWireBy wv h ∧ (∀ t, parseTop t b = some w) ∧
      w.hasTag = false ∧ decUnprot w = .ok m ∧
      m = (sortEntries h).map (normEntryBy nv) ∧ m.Perm (h.map (normEntryBy nv)) := by
  obtain ⟨hue, hwf, hlim, htag, hd⟩ :=
    unprotBucket_by wv nv (d := 0) hl hent hdec hv hvn hlen (by unfold maxNested; omega)
  rw [hue] at he
  cases he
  exact ⟨_, _, rfl, rfl, fun t => parseTop_complete hwf (hlim t), htag, hd, rfl,
    (sortEntries_perm h).map _⟩

end Bucket

/-! ### a byte string as one item -/

/-- bytes that split into a shortest byte-string head and its content are one byte-string item -/
theorem bstr_item_of_split {b content : Bytes} {hw : HW}
    (hb : b = headBytes 2 hw content.length ++ content) (hhw : hw = HW.shortest content.length)
    (hb64 : b.length < 18446744073709551616) :
    b = (Wire.bstr hw content).bytes ∧ ∀ t, parseTop t b = some (.bstr hw content) := by
  have hfit : hw.fits content.length = true := by
    rw [hhw]
    apply C02.shortest_fits
    have := congrArg List.length hb
    simp only [List.length_append] at this
    omega
  refine ⟨hb, fun t => ?_⟩
  rw [hb]
  exact parseTop_complete (w := .bstr hw content) hfit rfl

/-! ### the flat bucket -/

theorem FlatMap.label {h : GoMap} (hf : FlatMap h) : ∀ e ∈ h, FlatLabel e.1 :=
  fun e he => (hf e he).1

theorem FlatMap.itemOK (cfg : EncCfg) (d : Nat) {h : GoMap} (hf : FlatMap h) :
    ∀ e ∈ h, ItemOK valWire cfg d e.2 :=
  fun e he => ItemOK.of_flat cfg d (hf e he).2

theorem FlatMap.decode {h : GoMap} (hf : FlatMap h) :
    ∀ e ∈ h, decodeAny (valWire e.2) = .ok (normVal e.2) :=
  fun e he => valWire_decode (hf e he).2

theorem FlatMap.unprotDecode {h : GoMap} (hf : FlatMap h)
    (hv : validateHeaderParameters h false = true) : ∀ e ∈ h,
    (if isCsigLabel (normVal e.1) then decCsigValue (valWire e.2) else decodeAny (valWire e.2))
      = .ok (normVal e.2) :=
  fun e he => decUnprot_branch_of_validate valWire normVal hf.label hv he
    (isCsigValue_flat (hf e he).2) (hf.decode e he)

theorem FlatMap.validate_sorted {h : GoMap} (prot : Bool) (hf : FlatMap h)
    (hu : ∀ e ∈ h, UintOK e.2) (hv : validateHeaderParameters h prot = true) :
    validateHeaderParameters ((sortEntries h).map normEntry) prot = true :=
  validate_sorted_normEntryBy normVal prot hf.label
    (fun e he l => checkParam_normVal h prot l (hf e he).2 (hu e he)) hv

/-- `algSpec` is `algorithmOf` except where `Algorithm()` refuses the Go type of the stored value
    (an unsigned integer type, or a non-integer non-text value) -/
theorem algSpec_eq_algorithmOf (h : GoMap) (hne : algorithmOf h ≠ .failed .invalidAlg) :
    algSpec h = algorithmOf h := by
  unfold algSpec algorithmOf at *
  cases hl : lookupLabel h (lbl 1) with
  | none => rfl
  | some v =>
    rw [hl] at hne
    cases v <;> simp only [normVal] at hne ⊢ <;> try (exact absurd rfl hne)
    case int k a =>
      cases hs : k.signed with
      | true => rw [if_pos rfl]
      | false => exact absurd (by rw [hs]; rfl) hne

theorem algorithmOf_sorted_decEntry {h : GoMap} (hl : ∀ e ∈ h, FlatLabel e.1) (hok : LabelsOK h) :
    algorithmOf ((sortEntries h).map decEntry) = algSpec h :=
  algorithmOf_sorted_decEntryBy normVal hl hok (fun _ => rfl)

/-! ### buckets encoded from the map -/

/-- an empty retained slice counts as none -/
theorem encodeBucket_no_raw (cfg : EncCfg) (prot : Bool) {raw : Option Bytes}
    (hraw : ∀ x xs, raw ≠ some (x :: xs)) (u : GoMap) :
    encodeBucket cfg prot raw u = encodeBucket cfg prot none u := by
  rcases raw with _ | (_ | ⟨x, xs⟩)
  · rfl
  · cases u <;> simp only [encodeBucket]
  · exact absurd rfl (hraw x xs)

/-! ### the one-entry bucket `{99: v}`

  Label 99 is unconstrained in `checkParam`, so such a bucket is encoded whenever `v` is; in the
  unprotected case the fresh bytes must pass the encoder's own well-formedness gate. -/

theorem sortPairs_one (x : Bytes × Bytes) : sortPairs [x] = [x] := by
  simp [sortPairs]

theorem validate_lbl99 (v : GoVal) (prot : Bool) :
    validateHeaderParameters [(lbl 99, v)] prot = true := by
  simp [validateHeaderParameters, validateLoop, normalizeLabel, wrap64, checkParam, lbl]

theorem encodeBucket_lbl99 (prot : Bool) (v : GoVal) :
    encodeBucket encCfg prot none [(lbl 99, v)] =
      (encodeAny encCfg v).bind fun bs =>
        if prot then some (encBstr (0xa1 :: 0x18 :: 0x63 :: bs))
        else if wellformedNoTags (0xa1 :: 0x18 :: 0x63 :: bs) then some (0xa1 :: 0x18 :: 0x63 :: bs)
        else none := by
  have hv : encCfg.validate [(lbl 99, v)] prot = true := validate_lbl99 v prot
  have hk : encodeAny encCfg (lbl 99) = some [0x18, 0x63] := by
    simp [lbl, encodeAny, encInt, encHead, HW.shortest, headBytes]
  cases he : encodeAny encCfg v with
  | none => simp [encodeBucket, hv, encodePairs, hk, he]
  | some bs =>
    cases prot <;>
      simp [encodeBucket, hv, encodePairs, hk, he, sortPairs_one, concatPairs, encHead,
        HW.shortest, headBytes]

theorem modelledPairs_lbl99 (v : GoVal) : GoVal.modelledPairs [(lbl 99, v)] = v.modelled := by
  simp [GoVal.modelledPairs, GoVal.modelled, lbl]

end RoundTrip

namespace C08
open RoundTrip

/-- every flat value is encoded as one well-formed leaf item that the generic decoder maps
    back to the normalised value -/
theorem flat_value_roundtrip (cfg : EncCfg) (v : GoVal) (hv : FlatVal v) :
    ∃ w : Wire, encodeAny cfg v = some w.bytes ∧ w.wf = true ∧ (∀ t d, w.inLimits t d = true) ∧
      w.hasTag = false ∧ decodeAny w = .ok (normVal v) :=
  ⟨valWire v, valWire_bytes cfg hv, valWire_wf hv, valWire_inLimits v, valWire_noTag v,
    valWire_decode hv⟩

/-- a flat label is encoded as one well-formed leaf item; the generic decoder and
    `normalizeLabel` agree on its normal form, and `labelsOK` accepts the wire key (it only
    checks that the decoded key was not seen before) -/
theorem flat_label_roundtrip (cfg : EncCfg) (l : GoVal) (hl : FlatLabel l) :
    ∃ w : Wire, encodeAny cfg l = some w.bytes ∧ w.wf = true ∧ (∀ t d, w.inLimits t d = true) ∧
      w.hasTag = false ∧ decodeAny w = .ok (normVal l) ∧ normalizeLabel l = some (normVal l) ∧
      ∀ (v : Wire) (r : List (Wire × Wire)) (seen : List GoVal),
        labelsOK ((w, v) :: r) seen =
          if seen.any (fun e => e.keyEq (normVal l)) then .err .other
          else labelsOK r (normVal l :: seen) :=
  ⟨valWire l, valWire_bytes cfg hl.flatVal, valWire_wf hl.flatVal, valWire_inLimits l,
    valWire_noTag l, valWire_decode hl.flatVal, normalizeLabel_flat hl, labelsOK_cons_flat hl⟩

/-- a flat map with pairwise distinct normalised labels: the encoder emits the map item
    `mapWire h` (entries sorted by encoded key), which is well formed, within the parser's limits,
    parsed back by `parseTop`, accepted by `labelsOK`, and decoded by `decodePairs` to the entries
    of `h` — labels normalised, values as the generic decoder types them — in wire order. -/
theorem flat_map_roundtrip (cfg : EncCfg) (h : GoMap) (hf : FlatMap h) (hok : LabelsOK h)
    (hlen : h.length ≤ maxElems) :
    ∃ (ps : List (Bytes × Bytes)) (kvs : List (Wire × Wire)) (m' : GoMap),
      encodePairs cfg h = some ps ∧
      kvs = wirePairs h ∧ kvs.Perm (h.map entryWire) ∧
      kvs.Pairwise (fun a b => bytesLe a.1.bytes b.1.bytes = true) ∧
      concatPairs (sortPairs ps) = Wire.bytesPairs kvs ∧
      (Wire.map (HW.shortest h.length) kvs).wf = true ∧
      (∀ t, (Wire.map (HW.shortest h.length) kvs).inLimits t 0 = true) ∧
      (Wire.map (HW.shortest h.length) kvs).hasTag = false ∧
      encodeAny cfg (.map h) = some (Wire.map (HW.shortest h.length) kvs).bytes ∧
      (∀ t, parseTop t (Wire.map (HW.shortest h.length) kvs).bytes
              = some (Wire.map (HW.shortest h.length) kvs)) ∧
      labelsOK kvs [] = .ok () ∧
      decodePairs kvs [] = .ok m' ∧
      m' = (sortEntries h).map normEntry ∧ m'.Perm (h.map normEntry) ∧
      decodeAny (Wire.map (HW.shortest h.length) kvs) = .ok (.map m') :=
  map_roundtrip_by valWire normVal cfg h hf.label (hf.itemOK cfg 1) hf.decode hok hlen

/-- the protected bucket: what `MarshalProtected` emits for a flat, validated bucket is a
    byte string with a shortest head whose content `UnmarshalCBOR` of `ProtectedHeader` reads back
    as the same parameters — labels normalised, integer values as `int64`, `alg` retyped to
    `Algorithm` (`decEntry`) — in wire order.
    `hu` (values of unsigned Go integer types are not negative) is needed: see
    `protected_bucket_roundtrip_needs_uintOK`. -/
theorem protected_bucket_roundtrip (h : GoMap) (hf : FlatMap h) (hu : ∀ e ∈ h, UintOK e.2)
    (hv : validateHeaderParameters h true = true) (hlen : h.length ≤ maxElems) (b : Bytes)
    (he : encodeBucket encCfg true none h = some b) :
    ∃ (hw : HW) (content : Bytes) (m : GoMap),
      b = headBytes 2 hw content.length ++ content ∧ hw = HW.shortest content.length ∧
      (h ≠ [] → content = (mapWire h).bytes) ∧
      decProtectedContent content = .ok m ∧
      m = (sortEntries h).map decEntry ∧ m.Perm (h.map decEntry) ∧
      algorithmOf m = algSpec h :=
  protected_bucket_roundtrip_by valWire normVal h hf.label (hf.itemOK encCfg 1) hf.decode hv
    (hf.validate_sorted true hu hv)
    (algorithmOf_sorted_decEntry hf.label (C13.validate_labels h true hv)) hlen b he

/-- the algorithm found in the decoded protected bucket is the integer that was
    stored under label 1 of the encoded bucket (`algSpec`).  No `UintOK` hypothesis: that the
    decoder's validation passed is part of `hd`. -/
theorem decoded_alg (h : GoMap) (hne : h ≠ []) (hf : FlatMap h)
    (hv : validateHeaderParameters h true = true) (hlen : h.length ≤ maxElems)
    (b content : Bytes) (hw : HW) (hfit : hw = .imm → content.length < 24)
    (he : encodeBucket encCfg true none h = some b)
    (hb : b = headBytes 2 hw content.length ++ content) (m : GoMap)
    (hd : decProtectedContent content = .ok m) :
    content = (mapWire h).bytes ∧ m = (sortEntries h).map decEntry ∧ m.Perm (h.map decEntry) ∧
      algorithmOf m = algSpec h :=
  decoded_alg_by valWire normVal h hne hf.label (hf.itemOK encCfg 1) hf.decode hv
    (algorithmOf_sorted_decEntry hf.label (C13.validate_labels h true hv)) hlen b content hw hfit
    he hb m hd

/-- `decoded_alg` with `algorithmOf h` for `algSpec h`, under the hypothesis that makes it true:
    `Algorithm()` on the bucket that was
    encoded does not refuse the Go type of the stored value.  (Without it the statement fails:
    for `h = {1: uint8(5)}` validation and encoding succeed, `algorithmOf h = .failed .invalidAlg`,
    but the decoded bucket is `{1: Algorithm(5)}` with `algorithmOf m = .found 5`.) -/
theorem decoded_alg_eq_algorithmOf (h : GoMap) (hne : h ≠ []) (hf : FlatMap h)
    (hv : validateHeaderParameters h true = true) (hlen : h.length ≤ maxElems)
    (b content : Bytes) (hw : HW) (hfit : hw.fits content.length = true)
    (he : encodeBucket encCfg true none h = some b)
    (hb : b = headBytes 2 hw content.length ++ content) (m : GoMap)
    (hd : decProtectedContent content = .ok m)
    (halg : algorithmOf h ≠ .failed .invalidAlg) : algorithmOf m = algorithmOf h := by
  rw [(decoded_alg h hne hf hv hlen b content hw (imm_of_fits hfit) he hb m hd).2.2.2,
    algSpec_eq_algorithmOf h halg]

theorem decoded_alg_found (h : GoMap) (hne : h ≠ []) (hf : FlatMap h)
    (hv : validateHeaderParameters h true = true) (hlen : h.length ≤ maxElems)
    (b content : Bytes) (hw : HW) (hfit : hw.fits content.length = true)
    (he : encodeBucket encCfg true none h = some b)
    (hb : b = headBytes 2 hw content.length ++ content) (m : GoMap)
    (hd : decProtectedContent content = .ok m) (a : Int)
    (halg : algorithmOf h = .found a) : algorithmOf m = .found a := by
  rw [decoded_alg_eq_algorithmOf h hne hf hv hlen b content hw hfit he hb m hd (by rw [halg]; simp), halg]

theorem decoded_alg_notFound (h : GoMap) (hne : h ≠ []) (hf : FlatMap h)
    (hv : validateHeaderParameters h true = true) (hlen : h.length ≤ maxElems)
    (b content : Bytes) (hw : HW) (hfit : hw.fits content.length = true)
    (he : encodeBucket encCfg true none h = some b)
    (hb : b = headBytes 2 hw content.length ++ content) (m : GoMap)
    (hd : decProtectedContent content = .ok m)
    (halg : algorithmOf h = .notFound) : algorithmOf m = .notFound := by
  rw [decoded_alg_eq_algorithmOf h hne hf hv hlen b content hw hfit he hb m hd (by rw [halg]; simp), halg]

theorem decoded_alg_text (h : GoMap) (hne : h ≠ []) (hf : FlatMap h)
    (hv : validateHeaderParameters h true = true) (hlen : h.length ≤ maxElems)
    (b content : Bytes) (hw : HW) (hfit : hw.fits content.length = true)
    (he : encodeBucket encCfg true none h = some b)
    (hb : b = headBytes 2 hw content.length ++ content) (m : GoMap)
    (hd : decProtectedContent content = .ok m)
    (halg : algorithmOf h = .failed .algNotSupported) : algorithmOf m = .failed .algNotSupported := by
  rw [decoded_alg_eq_algorithmOf h hne hf hv hlen b content hw hfit he hb m hd (by rw [halg]; simp), halg]

/-- the unprotected bucket (flat: validation already excludes the countersignature labels 7
    and 11, whose values are not flat): `MarshalUnprotected` emits the map item `mapWire h`, which
    `UnmarshalCBOR` of `UnprotectedHeader` reads back as the same parameters, labels normalised,
    values as the generic decoder types them, in wire order. -/
theorem unprotected_bucket_roundtrip (h : GoMap) (hf : FlatMap h) (hu : ∀ e ∈ h, UintOK e.2)
    (hv : validateHeaderParameters h false = true) (hlen : h.length ≤ maxElems) (b : Bytes)
    (he : encodeBucket encCfg false none h = some b) :
    ∃ (w : Wire) (m : GoMap), b = w.bytes ∧ w = mapWire h ∧ (∀ t, parseTop t b = some w) ∧
      w.hasTag = false ∧ decUnprot w = .ok m ∧
      m = (sortEntries h).map normEntry ∧ m.Perm (h.map normEntry) :=
  unprotected_bucket_roundtrip_by valWire normVal h hf.label (hf.itemOK encCfg 1)
    (hf.unprotDecode hv) hv (hf.validate_sorted false hu hv) hlen b he

/-- `protected_bucket_roundtrip` on the wire item: the bytes `MarshalProtected` returns parse (in
    either decode mode) to a
    byte-string item that `ProtectedHeader.UnmarshalCBOR` accepts.  `hb64`: the encoding is
    shorter than 2^64 bytes (true of every Go slice). -/
theorem protected_bucket_wire_roundtrip (h : GoMap) (hf : FlatMap h) (hu : ∀ e ∈ h, UintOK e.2)
    (hv : validateHeaderParameters h true = true) (hlen : h.length ≤ maxElems) (b : Bytes)
    (he : encodeBucket encCfg true none h = some b) (hb64 : b.length < 18446744073709551616) :
    ∃ (w : Wire) (m : GoMap), b = w.bytes ∧ (∀ t, parseTop t b = some w) ∧ w.hasTag = false ∧
      decProtected w = .ok m ∧ m = (sortEntries h).map decEntry ∧ m.Perm (h.map decEntry) ∧
      algorithmOf m = algSpec h := by
  obtain ⟨hw, content, m, hb, hhw, -, hd, hm, hp, ha⟩ :=
    protected_bucket_roundtrip h hf hu hv hlen b he
  obtain ⟨h1, h2⟩ := bstr_item_of_split hb hhw hb64
  exact ⟨.bstr hw content, m, h1, h2, rfl, hd, hm, hp, ha⟩

/-- every parameter of the encoded bucket is found again, under any spelling of its label, in
    the decoded protected bucket -/
theorem protected_lookup_roundtrip (h : GoMap) (hf : FlatMap h)
    (hv : validateHeaderParameters h true = true) (e : GoVal × GoVal) (he : e ∈ h) (l : GoVal)
    (hl : normalizeLabel l = normalizeLabel e.1) :
    lookupLabel h l = some e.2 ∧
      lookupLabel ((sortEntries h).map decEntry) l = some (decEntry e).2 :=
  lookupLabel_sorted_map (C13.validate_labels h true hv) decEntry
    (fun x hx => normalizeLabel_decEntryBy normVal (hf x hx).1) he
    (hl.trans (normalizeLabel_flat (hf e he).1)) (normalizeLabel_flat (hf e he).1)

/-- a label absent from the encoded bucket is absent from the decoded one -/
theorem protected_lookup_absent (h : GoMap) (hf : FlatMap h) (l n : GoVal)
    (hl : normalizeLabel l = some n) (hno : ∀ e ∈ h, normalizeLabel e.1 ≠ some n) :
    lookupLabel h l = none ∧ lookupLabel ((sortEntries h).map decEntry) l = none :=
  lookupLabel_sorted_map_none decEntry (fun x hx => normalizeLabel_decEntryBy normVal (hf x hx).1)
    hl hno

/-- the same for the unprotected bucket -/
theorem unprotected_lookup_roundtrip (h : GoMap) (hf : FlatMap h)
    (hv : validateHeaderParameters h false = true) (e : GoVal × GoVal) (he : e ∈ h) (l : GoVal)
    (hl : normalizeLabel l = normalizeLabel e.1) :
    lookupLabel h l = some e.2 ∧
      lookupLabel ((sortEntries h).map normEntry) l = some (normVal e.2) :=
  lookupLabel_sorted_map (C13.validate_labels h false hv) normEntry
    (fun x hx => normalizeLabel_normVal (hf x hx).1) he
    (hl.trans (normalizeLabel_flat (hf e he).1)) (normalizeLabel_flat (hf e he).1)

/-- the entries of the decoded protected bucket, spelt out -/
theorem decEntry_alg {e : GoVal × GoVal} (hk : normVal e.1 = lbl 1) {a : Int}
    (hv : normVal e.2 = .int .i64 a) : decEntry e = (lbl 1, .alg a) := by
  simp only [decEntry, castEntry, normEntry, hk, hv]
  rw [if_pos (by simp [lbl, GoVal.keyEq])]
  rfl

theorem decEntry_other {e : GoVal × GoVal} (hk : normVal e.1 ≠ lbl 1) :
    decEntry e = (normVal e.1, normVal e.2) := by
  have hne : (normVal e.1).keyEq (lbl 1) = false := by
    cases hc : (normVal e.1).keyEq (lbl 1) with
    | false => rfl
    | true =>
      exact absurd (GoVal.eq_of_keyEq hc) hk
  simp only [decEntry, castEntry, normEntry, hne, Bool.false_eq_true, if_false]

/-! ### the encoder's own well-formedness gate (`UnprotectedHeader.MarshalCBOR`) -/

/-- `UnprotectedHeader.MarshalCBOR` runs `decModeWithTagsForbidden.Wellformed` on the bytes it
    has just produced.  Hence every unprotected bucket that is encoded from the map (no retained
    raw bytes: `raw` is `none` or empty) passes that pass — whatever the map holds and whatever the
    validation hooks are.  Retained raw bytes are returned verbatim and are not re-checked
    (`retained_unprotected_bucket_verbatim`). -/
theorem fresh_unprotected_bucket_wellformed (cfg : EncCfg) (raw : Option Bytes) (u : GoMap)
    (hraw : ∀ x xs, raw ≠ some (x :: xs)) (b : Bytes)
    (he : encodeBucket cfg false raw u = some b) : wellformedNoTags b = true := by
  rw [encodeBucket_no_raw cfg false hraw] at he
  cases u with
  | nil =>
    simp only [encodeBucket, Bool.false_eq_true, if_false, Option.some.injEq] at he
    subst he
    simp [wellformedNoTags, parseTop, fuelFor, parseItem, parsePairs, parseHead, maxNested]
  | cons e es =>
    simp only [encodeBucket, Bool.false_eq_true, if_false] at he
    split at he
    · cases he
    · split at he
      · split at he
        next hw =>
          cases he
          exact hw
        next => cases he
      · cases he

/-- the retained-raw path is untouched by the gate: non-empty retained bytes are returned as they
    are, in either bucket -/
theorem retained_unprotected_bucket_verbatim (cfg : EncCfg) (prot : Bool) (x : UInt8) (xs : Bytes)
    (u : GoMap) : encodeBucket cfg prot (some (x :: xs)) u = some (x :: xs) :=
  encodeBucket_raw cfg prot x xs u

/-- the gate at the level of `Headers.MarshalUnprotected`: with nothing retained, what it returns is
    the encoding of exactly one well-formed, tag-free item within the decoder's nesting and size
    limits — the bytes are accepted by the well-formedness pass of every decoder of the library
    that will meet them at top level. -/
theorem marshalUnprotected_fresh_wellformed (h : Hdrs) (hraw : ∀ x xs, h.rawU ≠ some (x :: xs))
    (b : Bytes) (hm : marshalUnprotected h = .ok b) :
    wellformedNoTags b = true ∧
    ∃ w, parseTop false b = some w ∧ b = w.bytes ∧ w.wf = true ∧ w.inLimits false 0 = true ∧
      w.hasTag = false := by
  have he : encodeBucket encCfg false h.rawU h.u = some b := by
    unfold marshalUnprotected at hm
    split at hm
    · cases hm
    · split at hm
      next b' hb =>
        cases hm
        exact hb
      next => cases hm
  have hw := fresh_unprotected_bucket_wellformed encCfg h.rawU h.u hraw b he
  obtain ⟨w, hp⟩ := wellformedNoTags_iff.mp hw
  obtain ⟨h1, h2, h3⟩ := parseTop_sound hp
  exact ⟨hw, w, hp, h1, h2, h3, parseTop_noTag hp⟩

/-- the simple-value face of the gate: the encoder writes `SimpleValue(24..31)` as `f8 xx`,
    which no decoder accepts; in the unprotected bucket it is refused at encoding time (the
    protected bucket has no such gate and still emits it). -/
theorem unprotected_reserved_simple_refused :
    marshalUnprotected { u := [(lbl 99, .simple 25)] } = .err .other ∧
    marshalProtected { p := [(lbl 99, .simple 25)] } = .ok [0x45, 0xa1, 0x18, 0x63, 0xf8, 0x19] ∧
    marshalUnprotected { u := [(lbl 99, .simple 32)] } = .ok [0xa1, 0x18, 0x63, 0xf8, 0x20] := by
  have he : ∀ n, encodeAny encCfg (.simple n) = some (encHead 7 n) := fun n => by
    simp only [encodeAny]
  refine ⟨?_, ?_, ?_⟩
  · simp [marshalUnprotected, modelledPairs_lbl99, GoVal.modelled, encodeBucket_lbl99, he, encHead,
      HW.shortest, headBytes, wellformedNoTags, parseTop, fuelFor, parseItem, parsePairs,
      parseHead, maxNested, maxElems]
  · simp [marshalProtected, modelledPairs_lbl99, GoVal.modelled, encodeBucket_lbl99, he, encHead,
      encBstr, HW.shortest, headBytes]
  · simp [marshalUnprotected, modelledPairs_lbl99, GoVal.modelled, encodeBucket_lbl99, he, encHead,
      HW.shortest, headBytes, wellformedNoTags, parseTop, fuelFor, parseItem, parsePairs,
      parseHead, maxNested, maxElems]

/-! ### why the extra hypotheses are needed -/

/-- `hu` in `protected_bucket_roundtrip` and `unprotected_bucket_roundtrip` cannot be dropped: the
    model's `GoVal.int` admits a "negative `uint8`"
    (no Go program has one); content type (label 3) accepts any unsigned Go type on the way out,
    but the decoder types the integer as `int64` and then rejects the negative value. -/
theorem protected_bucket_roundtrip_needs_uintOK :
    FlatMap [(lbl 3, .int .u8 (-5))] ∧
    validateHeaderParameters [(lbl 3, .int .u8 (-5))] true = true ∧
    encodeBucket encCfg true none [(lbl 3, .int .u8 (-5))] = some [0x43, 0xa1, 0x03, 0x24] ∧
    decProtectedContent [0xa1, 0x03, 0x24] = .err .other := by
  refine ⟨?_, ?_, ?_, ?_⟩
  · intro e he
    simp only [List.mem_singleton] at he
    subst he
    simp [lbl, FlatLabel, FlatVal, int64Range]
  · decide
  · simp [encodeBucket, encCfg, validateHeaderParameters, validateLoop, normalizeLabel, wrap64,
      checkParam, lbl, tstrOrUintOK, canUint, IntKind.signed, encodePairs, encodeAny, encInt,
      encHead, encBstr, HW.shortest, headBytes, sortPairs, concatPairs]
  · -- the parser is evaluated by rewriting; what the decoder does with the item, by the kernel
    have hp : parseTop true [0xa1, 0x03, 0x24]
        = some (.map .imm [(.uint .imm 3, .nint .imm 4)]) := by
      simp [parseTop, parseItem, parsePairs, fuelFor, parseHead, maxNested, maxElems]
    have hu : headerLabelsUntagged [0xa1, 0x03, 0x24] = true := by decide
    unfold decProtectedContent
    simp only [hp, hu]
    rfl

/-- `decoded_alg` with `algorithmOf h` for `algSpec h` (`algorithmOf m = algorithmOf h`) fails
    when `alg` is spelt with an
    unsigned Go integer type: `Algorithm()` refuses that type on the bucket that was encoded, but
    the decoder retypes the value to `Algorithm`. -/
theorem decoded_alg_eq_counterexample :
    FlatMap [(lbl 1, .int .u8 5)] ∧ (∀ e ∈ ([(lbl 1, .int .u8 5)] : GoMap), UintOK e.2) ∧
    validateHeaderParameters [(lbl 1, .int .u8 5)] true = true ∧
    encodeBucket encCfg true none [(lbl 1, .int .u8 5)] = some [0x43, 0xa1, 0x01, 0x05] ∧
    decProtectedContent [0xa1, 0x01, 0x05] = .ok [(lbl 1, .alg 5)] ∧
    algorithmOf [(lbl 1, .int .u8 5)] = .failed .invalidAlg ∧
    algorithmOf [(lbl 1, .alg 5)] = .found 5 := by
  refine ⟨?_, ?_, ?_, ?_, ?_, ?_, ?_⟩
  · intro e he
    simp only [List.mem_singleton] at he
    subst he
    simp [lbl, FlatLabel, FlatVal, int64Range]
  · intro e he
    simp only [List.mem_singleton] at he
    subst he
    simp [UintOK]
  · decide
  · simp [encodeBucket, encCfg, validateHeaderParameters, validateLoop, normalizeLabel, wrap64,
      checkParam, lbl, canInt, encodePairs, encodeAny, encInt,
      encHead, encBstr, HW.shortest, headBytes, sortPairs, concatPairs]
  · have hp : parseTop true [0xa1, 0x01, 0x05]
        = some (.map .imm [(.uint .imm 1, .uint .imm 5)]) := by
      simp [parseTop, parseItem, parsePairs, fuelFor, parseHead, maxNested, maxElems]
    have hu : headerLabelsUntagged [0xa1, 0x01, 0x05] = true := by decide
    unfold decProtectedContent
    simp only [hp, hu]
    rfl
  · decide
  · decide

/-- the decomposition hypothesis of `decoded_alg` needs a fitting head width: with `hw = .imm` and a
    279-byte map the same bytes split as "head `59`, 281 bytes of content" -/
theorem bstr_split_needs_fit (m : Bytes) (hm : m.length = 279) :
    headBytes 2 (HW.shortest m.length) m.length ++ m
      = headBytes 2 .imm (0x01 :: 0x17 :: m).length ++ (0x01 :: 0x17 :: m) := by
  simp [hm, HW.shortest, headBytes]

end C08
