/-
  CoseProofs.Deep.NestedBuckets — the header-bucket round trip and the COSE_Sign1 wire round trip
  for header maps whose values are nested (arrays and maps of any shape: `crit`, CWT claims,
  application parameters holding arrays of maps …).  The value level is `Deep/NestedRoundTrip`
  (`RTVal`, `wireN`, `normValN`).  The one argument of its own is the transport of header
  validation across the decoder's retyping (`checkParam_normValN`: of the per-label checks only
  `crit` can accept an array, and its entries are found again under the same normalised labels);
  with it the bucket theorems are the instance `wireN` / `normValN` of section `Bucket` of
  `Deep/RoundTrip`, and the message theorems that of `Deep/WireGeneric`.

  Data model: `NestedMapAt d h` — every label flat, every value `RTVal d` (met at depth `d`);
  `NestedMap = NestedMapAt 1`; every `FlatMap` is one at every depth.  Countersignature values
  (labels 7 and 11) are outside it (`Deep/CsigRoundTrip`): validation of a `NestedMap` refuses
  those labels (`isCsigValue_rtVal`), so the unprotected decoder never enters its
  countersignature branch.

  Hypotheses that remain, and why:
  * `Pairwise KeyDistinct` inside `RTVal` (keys of a map-valued parameter distinct after
    encoding): `protected_bucket_roundtrip_nested_needs_distinct` — `SetCWTClaims` and validation
    accept `{int64(1): "a", int(1): "b"}`, `MarshalProtected` emits it, `UnmarshalCBOR` refuses
    the duplicate key.
  * unprotected values at depth 2 in `sign1_wire_nested`, one level stricter than in the bucket
    theorems, since inside a message the unprotected map is itself one level down:
    `sign1_wire_nested_needs_depth2`.  The encoder of the unprotected bucket checks its fresh bytes
    against the same limit (in `UnprotectedHeader.MarshalCBOR`) but counts from the bucket's own map
    (`C08.unprotected_depth_gate`).  The protected bucket is a byte string parsed on its own.
  * `UintOK` on the top-level values only (`C08.protected_bucket_roundtrip_needs_uintOK`):
    validation inspects the integer kind of a value only at the top level; inside `crit` any
    integer kind passes.
  * lengths within `maxElems`, payload and signature shorter than 2^64, `int64Range s.alg`,
    `Matches`, no retained raw buckets: as in `C01.sign1_wire_flat` (`Deep/WireClosure`).
  The validation transport goes one way (accepted ⟹ decoded form accepted), which is what the
  round trip needs; the converse fails harmlessly
  (`C08.validate_decoded_nested_converse_counterexample`).
-/
import CoseProofs.Deep.NestedRoundTrip
import CoseProofs.Deep.WireClosure
open CoseModel CoseSpec RoundTrip

namespace NestedBuckets

/-! ### the data model at a given depth -/

/-- a header map with flat labels whose values fit when met at depth `d` (the bucket item itself
    sits at depth `d - 1`) -/
def NestedMapAt (d : Nat) (h : GoMap) : Prop := ∀ e ∈ h, FlatLabel e.1 ∧ RTVal d e.2

theorem nestedMapAt_one {h : GoMap} : NestedMapAt 1 h ↔ NestedMap h := Iff.rfl

theorem NestedMapAt.mono {d d' : Nat} {h : GoMap} (hle : d' ≤ d) (hf : NestedMapAt d h) :
    NestedMapAt d' h :=
  fun e he => ⟨(hf e he).1, RTVal.mono e.2 d d' hle (hf e he).2⟩

theorem nestedMapAt_of_flat (d : Nat) {h : GoMap} (hf : FlatMap h) : NestedMapAt d h :=
  fun e he => ⟨(hf e he).1, RTVal.of_flat d (hf e he).2⟩

theorem NestedMapAt.sorted {d : Nat} {h : GoMap} (hf : NestedMapAt d h) :
    NestedMapAt d (sortEntries h) :=
  fun e he => hf e (sortEntries_mem.mp he)

/-- the map item the encoder emits for a header map with nested values -/
def mapWireN (h : GoMap) : Wire := .map (HW.shortest h.length) ((sortEntries h).map entryWireN)

/-- the entry the protected-header decoder produces: label normalised, value in decoded normal
    form, an integer `alg` retyped to `Algorithm` -/
def decEntryN (e : GoVal × GoVal) : GoVal × GoVal := castEntry (normEntryN e)

/-- the definitions of the nested data model are those of section `Bucket` at `wireN` /
    `normValN`, by unfolding: a lemma of that section taken at `wireN normValN` is a statement
    about them -/
theorem bucketBy_nested : entryWireBy wireN = entryWireN ∧ normEntryBy normValN = normEntryN ∧
    decEntryBy normValN = decEntryN ∧ mapWireBy wireN = mapWireN :=
  ⟨rfl, rfl, rfl, rfl⟩

theorem NestedMapAt.label {d : Nat} {h : GoMap} (hf : NestedMapAt d h) : ∀ e ∈ h, FlatLabel e.1 :=
  fun e he => (hf e he).1

theorem NestedMapAt.itemOK (cfg : EncCfg) {d : Nat} {h : GoMap} (hf : NestedMapAt d h) :
    ∀ e ∈ h, ItemOK wireN cfg d e.2 :=
  fun e he => (vok_of_rtVal cfg e.2 d (hf e he).2).toItemOK

theorem NestedMapAt.decode {d : Nat} {h : GoMap} (hf : NestedMapAt d h) :
    ∀ e ∈ h, decodeAny (wireN e.2) = .ok (normValN e.2) :=
  fun e he => (vok_of_rtVal encCfg e.2 d (hf e he).2).dec

/-- no value of the nested data model is a countersignature -/
theorem isCsigValue_rtVal {d : Nat} {v : GoVal} (hv : RTVal d v) : isCsigValue v = false := by
  cases v <;> (try simp only [RTVal, FlatVal] at hv) <;> simp [isCsigValue]

theorem NestedMapAt.unprotDecode {d : Nat} {h : GoMap} (hf : NestedMapAt d h)
    (hv : validateHeaderParameters h false = true) : ∀ e ∈ h,
    (if isCsigLabel (normVal e.1) then decCsigValue (wireN e.2) else decodeAny (wireN e.2))
      = .ok (normValN e.2) :=
  fun e he => decUnprot_branch_of_validate wireN normValN hf.label hv he
    (isCsigValue_rtVal (hf e he).2) (hf.decode e he)

/-! ### header validation is transported across the decoder's retyping -/

/-- a `crit` entry (an integer one within int64: a `uint64` above that is not a label since
    0eeddbc, and its decoded form `int64`-typed with the same out-of-range value is not a Go
    value at all) and its decoded form: still an integer / text, and present in the bucket under
    the same normalised label -/
theorem critLabel_normValN (g : GoMap) {l : GoVal} (hl : (canInt l || canTstr l) = true)
    (hr : ∀ k n, l = .int k n → n ≤ maxInt64) :
    (canInt (normValN l) || canTstr (normValN l)) = true ∧
      hasLabel g (normValN l) = hasLabel g l := by
  cases l <;> simp [canInt, canTstr] at hl
  case int k n =>
    refine ⟨rfl, ?_⟩
    have hle := hr k n rfl
    have h1 : normalizeLabel (normValN (.int k n)) = normalizeLabel (.int k n) := by
      show normalizeLabel (.int .i64 n) = _
      rw [normalizeLabel_int_of_le _ hle, normalizeLabel_int_of_le _ hle]
    exact C13.hasLabel_congr_norm g g rfl _ _ h1 (by rw [h1, normalizeLabel_int_of_le _ hle]; simp)
  case str b =>
    refine ⟨?_, rfl⟩
    show (canInt (.str b) || canTstr (.str b)) = true
    simpa [canInt, canTstr] using hl

/-- `ensureCritical` passes on the decoded form of a `crit` value it passed on (integer entries
    within int64) -/
theorem ensureCritical_normValN (g : GoMap) (v : GoVal)
    (hr : ∀ ls, v = .arr ls → ∀ x ∈ ls, ∀ k n, x = .int k n → n ≤ maxInt64)
    (h : ensureCritical v g = true) :
    ensureCritical (normValN v) g = true := by
  cases v <;> simp only [ensureCritical, Bool.false_eq_true] at h
  case arr ls =>
    rw [normValN_arr]
    simp only [ensureCritical, Bool.and_eq_true, Bool.not_eq_true', List.all_eq_true,
      List.isEmpty_eq_false_iff] at h ⊢
    refine ⟨by simpa using h.1, ?_⟩
    intro y hy
    obtain ⟨x, hx, rfl⟩ := List.mem_map.mp hy
    obtain ⟨hc, hh⟩ := h.2 x hx
    obtain ⟨hc', hh'⟩ := critLabel_normValN g hc (hr ls rfl x hx)
    exact ⟨hc', by rw [hh']; exact hh⟩

/-- the per-label checks give the same (accepting) verdict on the decoded normal form -/
theorem checkParam_normValN (g : GoMap) (prot : Bool) (l : GoVal) {d : Nat} {v : GoVal}
    (hv : RTVal d v) (hu : UintOK v) (h : checkParam g prot l v = true) :
    checkParam g prot l (normValN v) = true := by
  cases hn : isNode v with
  | false =>
    rw [normValN_leaf hn]
    exact checkParam_normVal g prot l ((rtVal_leaf d hn).mp hv) hu h
  | true =>
    -- an array or a map fails every test but `ensureCritical`, before and after decoding
    cases v <;> simp only [isNode, reduceCtorEq] at hn
    case arr xs =>
      have hr : ∀ ls, GoVal.arr xs = .arr ls → ∀ x ∈ ls, ∀ k n, x = .int k n → n ≤ maxInt64 := by
        rintro ls ⟨rfl⟩ x hx k n rfl
        simp only [RTVal] at hv
        have := (rtList_iff _ _).mp hv.2.2 _ hx
        simp only [RTVal, FlatVal, int64Range] at this
        simp only [maxInt64]; omega
      exact checkParam_mono (v := .arr xs) (v' := normValN (.arr xs)) g prot l (fun h => h)
        (ensureCritical_normValN g _ hr) (fun h => h) (fun h => h) (fun h => h) h
    case map kvs =>
      exact checkParam_mono (v := .map kvs) (v' := normValN (.map kvs)) g prot l (fun h => h)
        (fun h => h) (fun h => h) (fun h => h) (fun h => h) h

theorem validate_normEntryN {d : Nat} {g : GoMap} (prot : Bool) (hf : NestedMapAt d g)
    (hu : ∀ e ∈ g, UintOK e.2) (hv : validateHeaderParameters g prot = true) :
    validateHeaderParameters (g.map normEntryN) prot = true :=
  validate_normEntryBy normValN prot hf.label
    (fun e he l => checkParam_normValN g prot l (hf e he).2 (hu e he)) hv

theorem validate_sorted_normEntryN {d : Nat} {g : GoMap} (prot : Bool) (hf : NestedMapAt d g)
    (hu : ∀ e ∈ g, UintOK e.2) (hv : validateHeaderParameters g prot = true) :
    validateHeaderParameters ((sortEntries g).map normEntryN) prot = true :=
  validate_sorted_normEntryBy normValN prot hf.label
    (fun e he l => checkParam_normValN g prot l (hf e he).2 (hu e he)) hv

/-! ### the wire item of a header map with nested values -/

/-- everything the round trip establishes for the map item of a bucket met at depth `d` -/
theorem mapWireN_ok (cfg : EncCfg) {d : Nat} {h : GoMap} (hf : NestedMapAt (d + 1) h)
    (hok : LabelsOK h) (hlen : h.length ≤ maxElems) (hd : d + 1 ≤ maxNested) :
    encodePairs cfg h = some (h.map (fun e => wireBytes (entryWireN e))) ∧
    (mapWireN h).wf = true ∧ (∀ t, (mapWireN h).inLimits t d = true) ∧
    (mapWireN h).hasTag = false ∧
    labelsOK ((sortEntries h).map entryWireN) [] = .ok () ∧
    decodePairs ((sortEntries h).map entryWireN) [] = .ok ((sortEntries h).map normEntryN) ∧
    (∀ e ∈ h, decodeAny (wireN e.2) = .ok (normValN e.2)) := by
  obtain ⟨h1, h2, h3, h4⟩ := mapWireBy_ok wireN cfg (fun e he => (hf e he).1.flatVal)
    (hf.itemOK cfg) hlen hd
  exact ⟨h1, h2, h3, h4, labelsOK_sortedBy wireN hf.label hok,
    decodePairs_sortedBy wireN normValN (fun e he => ⟨(hf e he).1.rtKey, hf.decode e he⟩)
      (keyDistinct_of_labelsOK hf.label hok), hf.decode⟩

theorem encodeBucket_N {d : Nat} {h : GoMap} (hf : NestedMapAt (d + 1) h) (prot : Bool)
    (hv : validateHeaderParameters h prot = true) (hlen : h.length ≤ maxElems)
    (hd : d + 1 ≤ maxNested) (hne : h ≠ []) :
    encodeBucket encCfg prot none h
      = some (if prot then encBstr (mapWireN h).bytes else (mapWireN h).bytes) := by
  obtain ⟨hep, hwf, hlim, -⟩ := mapWireBy_ok wireN encCfg (fun e he => (hf e he).1.flatVal)
    (hf.itemOK encCfg) hlen hd
  -- the tags-forbidden well-formedness pass of `UnprotectedHeader.MarshalCBOR` starts at
  -- depth 0, whatever depth `d` the bucket is later met at
  exact encodeBucket_by wireN prot hv hne hep (fun _ => wellformedNoTags_bytes_at hwf (hlim false))

theorem mapWireN_nil_bytes : (mapWireN []).bytes = [0xa0] := mapWireBy_nil_bytes wireN

/-! ### the unprotected bucket -/

/-- `UnprotectedHeader.UnmarshalCBOR` on the map item of a validated bucket met at depth `d` -/
theorem decUnprot_mapWireN {d : Nat} {h : GoMap} (hf : NestedMapAt (d + 1) h)
    (hu : ∀ e ∈ h, UintOK e.2) (hv : validateHeaderParameters h false = true)
    (hlen : h.length ≤ maxElems) (hd : d + 1 ≤ maxNested) :
    decUnprot (mapWireN h) = .ok ((sortEntries h).map normEntryN) :=
  (unprotBucket_by wireN normValN hf.label (hf.itemOK encCfg) (hf.unprotDecode hv) hv
    (validate_sorted_normEntryN false hf hu hv) hlen hd).2.2.2.2

/-! ### the protected bucket -/

theorem decProtectedContent_mapWireN {h : GoMap} (hf : NestedMap h) (hok : LabelsOK h)
    (hlen : h.length ≤ maxElems) :
    decProtectedContent (mapWireN h).bytes =
      if validateHeaderParameters ((sortEntries h).map normEntryN) true = true
      then .ok ((sortEntries h).map decEntryN) else .err .other :=
  decProtectedContent_mapWireBy wireN normValN hf.label (NestedMapAt.itemOK encCfg (d := 1) hf)
    (NestedMapAt.decode (d := 1) hf) hok hlen

theorem algorithmOf_sorted_decEntryN {h : GoMap} (hl : ∀ e ∈ h, FlatLabel e.1)
    (hok : LabelsOK h) : algorithmOf ((sortEntries h).map decEntryN) = algSpec h :=
  algorithmOf_sorted_decEntryBy normValN hl hok (fun v => by cases v <;> rfl)

end NestedBuckets

/-! ## the buckets -/

namespace C08
open NestedBuckets

/-- the protected bucket with nested values (the nested form of `protected_bucket_roundtrip`):
    what `MarshalProtected` emits for a validated bucket with flat labels and nested values
    (`crit` arrays, CWT-claims maps, application arrays / maps) is a byte string with a shortest
    head whose content `ProtectedHeader.UnmarshalCBOR` reads back as the same parameters — labels
    normalised, values in decoded normal form (`normValN`), `alg` retyped to `Algorithm`
    (`decEntryN`) — in wire order; `Algorithm()` on the result is `algSpec h`. -/
theorem protected_bucket_roundtrip_nested (h : GoMap) (hf : NestedMap h)
    (hu : ∀ e ∈ h, UintOK e.2) (hv : validateHeaderParameters h true = true)
    (hlen : h.length ≤ maxElems) (b : Bytes)
    (he : encodeBucket encCfg true none h = some b) :
    ∃ (hw : HW) (content : Bytes) (m : GoMap),
      b = headBytes 2 hw content.length ++ content ∧ hw = HW.shortest content.length ∧
      (h ≠ [] → content = (mapWireN h).bytes) ∧
      decProtectedContent content = .ok m ∧
      m = (sortEntries h).map decEntryN ∧ m.Perm (h.map decEntryN) ∧
      algorithmOf m = algSpec h :=
  protected_bucket_roundtrip_by wireN normValN h hf.label (NestedMapAt.itemOK encCfg (d := 1) hf)
    (NestedMapAt.decode (d := 1) hf) hv (validate_sorted_normEntryN (d := 1) true hf hu hv)
    (algorithmOf_sorted_decEntryN hf.label (C13.validate_labels h true hv)) hlen b he

/-- `protected_bucket_roundtrip_nested` on the wire item: the bytes `MarshalProtected` returns
    parse (in either decode mode) to a
    byte-string item that `ProtectedHeader.UnmarshalCBOR` accepts.  `hb64`: the encoding is
    shorter than 2^64 bytes (true of every Go slice). -/
theorem protected_bucket_wire_roundtrip_nested (h : GoMap) (hf : NestedMap h)
    (hu : ∀ e ∈ h, UintOK e.2) (hv : validateHeaderParameters h true = true)
    (hlen : h.length ≤ maxElems) (b : Bytes)
    (he : encodeBucket encCfg true none h = some b) (hb64 : b.length < 18446744073709551616) :
    ∃ (w : Wire) (m : GoMap), b = w.bytes ∧ (∀ t, parseTop t b = some w) ∧ w.hasTag = false ∧
      decProtected w = .ok m ∧ m = (sortEntries h).map decEntryN ∧ m.Perm (h.map decEntryN) ∧
      algorithmOf m = algSpec h := by
  obtain ⟨hw, content, m, hb, hhw, -, hd, hm, hp, ha⟩ :=
    protected_bucket_roundtrip_nested h hf hu hv hlen b he
  obtain ⟨h1, h2⟩ := bstr_item_of_split hb hhw hb64
  exact ⟨.bstr hw content, m, h1, h2, rfl, hd, hm, hp, ha⟩

/-- the unprotected bucket with nested values (the nested form of `unprotected_bucket_roundtrip`):
    `MarshalUnprotected` emits the map item `mapWireN h`, which `UnprotectedHeader.UnmarshalCBOR`
    reads back as the same parameters, labels normalised, values in decoded normal form, in wire
    order.  Validation already excludes the countersignature labels 7 and 11 (their values are
    not in the nested data model). -/
theorem unprotected_bucket_roundtrip_nested (h : GoMap) (hf : NestedMap h)
    (hu : ∀ e ∈ h, UintOK e.2) (hv : validateHeaderParameters h false = true)
    (hlen : h.length ≤ maxElems) (b : Bytes)
    (he : encodeBucket encCfg false none h = some b) :
    ∃ (w : Wire) (m : GoMap), b = w.bytes ∧ w = mapWireN h ∧ (∀ t, parseTop t b = some w) ∧
      w.hasTag = false ∧ decUnprot w = .ok m ∧
      m = (sortEntries h).map normEntryN ∧ m.Perm (h.map normEntryN) :=
  unprotected_bucket_roundtrip_by wireN normValN h hf.label (NestedMapAt.itemOK encCfg (d := 1) hf)
    (NestedMapAt.unprotDecode (d := 1) hf hv) hv (validate_sorted_normEntryN (d := 1) false hf hu hv)
    hlen b he

/-- the algorithm found in the decoded protected bucket is the integer stored under label 1
    of the encoded bucket (`algSpec`), for any decomposition of the emitted bytes into a fitting
    byte-string head and content.  No `UintOK` hypothesis: that the decoder's validation passed
    is part of `hd`. -/
theorem decoded_alg_nested (h : GoMap) (hne : h ≠ []) (hf : NestedMap h)
    (hv : validateHeaderParameters h true = true) (hlen : h.length ≤ maxElems)
    (b content : Bytes) (hw : HW) (hfit : hw = .imm → content.length < 24)
    (he : encodeBucket encCfg true none h = some b)
    (hb : b = headBytes 2 hw content.length ++ content) (m : GoMap)
    (hd : decProtectedContent content = .ok m) :
    content = (mapWireN h).bytes ∧ m = (sortEntries h).map decEntryN ∧
      m.Perm (h.map decEntryN) ∧ algorithmOf m = algSpec h :=
  decoded_alg_by wireN normValN h hne hf.label (NestedMapAt.itemOK encCfg (d := 1) hf)
    (NestedMapAt.decode (d := 1) hf) hv
    (algorithmOf_sorted_decEntryN hf.label (C13.validate_labels h true hv)) hlen b content hw hfit
    he hb m hd

/-- every parameter of the encoded bucket is found again, under any spelling of its label, in
    the decoded protected bucket -/
theorem protected_lookup_roundtrip_nested (h : GoMap) (hf : NestedMap h)
    (hv : validateHeaderParameters h true = true) (e : GoVal × GoVal) (he : e ∈ h) (l : GoVal)
    (hl : normalizeLabel l = normalizeLabel e.1) :
    lookupLabel h l = some e.2 ∧
      lookupLabel ((sortEntries h).map decEntryN) l = some (decEntryN e).2 :=
  lookupLabel_sorted_map (C13.validate_labels h true hv) decEntryN
    (fun x hx => normalizeLabel_decEntryBy normValN (hf x hx).1) he
    (hl.trans (normalizeLabel_flat (hf e he).1)) (normalizeLabel_flat (hf e he).1)

/-- the same for the unprotected bucket -/
theorem unprotected_lookup_roundtrip_nested (h : GoMap) (hf : NestedMap h)
    (hv : validateHeaderParameters h false = true) (e : GoVal × GoVal) (he : e ∈ h) (l : GoVal)
    (hl : normalizeLabel l = normalizeLabel e.1) :
    lookupLabel h l = some e.2 ∧
      lookupLabel ((sortEntries h).map normEntryN) l = some (normValN e.2) :=
  lookupLabel_sorted_map (C13.validate_labels h false hv) normEntryN
    (fun x hx => normalizeLabel_normVal (hf x hx).1) he
    (hl.trans (normalizeLabel_flat (hf e he).1)) (normalizeLabel_flat (hf e he).1)

/-- a validated bucket of the nested data model is encoded (the `he` premise of the two bucket
    theorems is not
    an extra assumption): the encoder's only other failure causes are values outside the model -/
theorem bucket_encodes_nested (h : GoMap) (prot : Bool) (hf : NestedMap h)
    (hv : validateHeaderParameters h prot = true) (hlen : h.length ≤ maxElems) :
    ∃ b, encodeBucket encCfg prot none h = some b := by
  by_cases hne : h = []
  · subst hne; exact ⟨if prot then [0x40] else [0xa0], by simp only [encodeBucket]⟩
  · exact ⟨_, encodeBucket_N (d := 0) hf prot hv hlen (by unfold maxNested; omega) hne⟩

/-- header validation across the decoder's retyping: a validated bucket of the nested data model
    is still valid after every label is normalised and every value replaced by its decoded normal
    form — `crit` included, whose entries change Go type (`int` → `int64`) and are looked up
    through `normalizeLabel`. -/
theorem validate_decoded_nested (h : GoMap) (prot : Bool) (hf : NestedMap h)
    (hu : ∀ e ∈ h, UintOK e.2) (hv : validateHeaderParameters h prot = true) :
    validateHeaderParameters (h.map normEntryN) prot = true ∧
      validateHeaderParameters ((sortEntries h).map normEntryN) prot = true :=
  ⟨validate_normEntryN (d := 1) prot hf hu hv, validate_sorted_normEntryN (d := 1) prot hf hu hv⟩

/-- the transport is one-directional by nature: a `crit` entry of Go type `Algorithm` is refused
    by `ensureCritical` (not an integer kind), so the bucket is never encoded; its "decoded form"
    `[int64(4)]` would be accepted.  Nothing reaches the wire, so this is not a round-trip
    failure. -/
theorem validate_decoded_nested_converse_counterexample :
    validateHeaderParameters [(lbl 2, .arr [.alg 4]), (lbl 4, .bytes [1])] true = false ∧
    encodeBucket encCfg true none [(lbl 2, .arr [.alg 4]), (lbl 4, .bytes [1])] = none ∧
    validateHeaderParameters
      ([(lbl 2, .arr [.alg 4]), (lbl 4, .bytes [1])].map normEntryN) true = true := by
  have h1 : validateHeaderParameters [(lbl 2, .arr [.alg 4]), (lbl 4, .bytes [1])] true = false := by
    decide
  exact ⟨h1, by simp [encodeBucket, encCfg, h1], by decide⟩

end C08

/-! ## COSE_Sign1 across the wire, nested header values -/

namespace NestedBuckets
open WireClosure

theorem protWireN {p : GoMap} (hf : NestedMap p) (hu : ∀ e ∈ p, UintOK e.2)
    (hlen : p.length ≤ maxElems) : ProtWire p ((sortEntries p).map decEntryN) :=
  protWire_by wireN normValN hf.label (NestedMapAt.itemOK encCfg (d := 1) hf)
    (NestedMapAt.decode (d := 1) hf) (validate_sorted_normEntryN (d := 1) true hf hu)
    (algorithmOf_sorted_decEntryN hf.label) hlen

/-- the unprotected bucket whose map item is met at depth `d`, so that its values are met at depth
    `d + 1` (1 inside a COSE_Sign1, a COSE_Sign body or a stand-alone countersignature, 3 inside a
    signer slot of a COSE_Sign) -/
theorem unprotWireN {d : Nat} {u : GoMap} (hf : NestedMapAt (d + 1) u)
    (hu : ∀ e ∈ u, UintOK e.2) (hlen : u.length ≤ maxElems) (hd : d + 1 ≤ maxNested) :
    UnprotWire d u ((sortEntries u).map normEntryN) :=
  unprotWire_by wireN normValN hf.label
    (fun hv e he => ⟨hf.itemOK encCfg e he, hf.unprotDecode hv e he⟩)
    (validate_sorted_normEntryN false hf hu) hlen hd

theorem ensureIV_decodedN {dp du : Nat} {p u : GoMap} (hfp : NestedMapAt dp p)
    (hfu : NestedMapAt du u) (h : ensureIV p u = true) :
    ensureIV ((sortEntries p).map decEntryN) ((sortEntries u).map normEntryN) = true :=
  ensureIV_decoded
    (hasLabel_sorted_map decEntryN (fun e he => normalizeLabel_decEntryBy normValN (hfp e he).1))
    (hasLabel_sorted_map normEntryN (fun e he => normalizeLabel_normVal (hfu e he).1)) h

/-! ### what signing leaves in the protected map is still in the nested data model -/

theorem nestedMapAt_set {d : Nat} {h : GoMap} {k v : GoVal} (hf : NestedMapAt d h)
    (hk : FlatLabel k) (hv : RTVal d v) : NestedMapAt d (h.set k v) :=
  forall_mem_set hf hk hv

theorem sign_gate_nested {d : Nat} {p p' : GoMap} {alg : Int} {ext : Option Bytes}
    (hg : ensureSigningAlgorithm none p alg ext = .ok p')
    (hf : NestedMapAt d p) (hu : ∀ e ∈ p, UintOK e.2) (ha : int64Range alg) :
    NestedMapAt d p' ∧ (∀ e ∈ p', UintOK e.2) ∧ p'.length ≤ p.length + 1 :=
  ⟨sign_gate_keeps hg hf
      (nestedMapAt_set hf (flatLabel_lbl (by decide)) (RTVal.of_flat d (v := .alg alg) ha)),
    sign_gate_keeps (C := fun g => ∀ e ∈ g, UintOK e.2) hg hu (uintOK_set hu (by simp [UintOK])),
    sign_gate_length hg⟩

theorem gatedN {p : GoMap} (hf : NestedMap p) (hu : ∀ e ∈ p, UintOK e.2)
    (hl : p.length < maxElems) : GatedProtWire (fun g => (sortEntries g).map decEntryN) p := by
  intro alg ext p1 ha hg
  obtain ⟨hf', hu', hl'⟩ := sign_gate_nested (d := 1) hg hf hu ha
  exact protWireN hf' hu' (by omega)

end NestedBuckets

namespace C01
open WireClosure NestedBuckets

/-- COSE_Sign1 end to end (tagged or untagged), nested header values: a message whose header
    maps have flat labels and values in the nested data model (scalars, arrays, maps: `crit`, CWT
    claims, application parameters) that the library signed and encoded is decoded by the
    library, the decoded message verifies under the matching verifier with the same external
    data, and carries the signed payload and the signer's signature. -/
theorem sign1_wire_nested (tagged : Bool) (m : Sign1Msg) (ext : Option Bytes) (s : Signer)
    (v : Verifier) (b : Bytes) (hm : Matches s v)
    (hrp : m.h.rawP = none) (hru : m.h.rawU = none)
    (hfp : NestedMap m.h.p) (hfu : NestedMapAt 2 m.h.u)
    (hup : ∀ e ∈ m.h.p, UintOK e.2) (huu : ∀ e ∈ m.h.u, UintOK e.2)
    (hlp : m.h.p.length < maxElems) (hlu : m.h.u.length ≤ maxElems)
    (hpl : blen m.payload < 18446744073709551616) (halg : int64Range s.alg)
    (hsl : ∀ t sg, s.sign t = .ok sg → sg.length < 18446744073709551616)
    (hok : (Sign1.sign m ext s).out = .ok ())
    (henc : Sign1.marshal tagged (Sign1.sign m ext s).state = .ok b) :
    ∃ m2, Sign1.unmarshal tagged b = .ok m2 ∧ (Sign1.verify m2 ext v).1 = .ok () ∧
      m2.payload = m.payload ∧ m2.sig = (Sign1.sign m ext s).state.sig ∧
      m2.h.p = (sortEntries (Sign1.sign m ext s).state.h.p).map decEntryN ∧
      m2.h.u = (sortEntries m.h.u).map normEntryN := by
  obtain ⟨m2, h1, h2, h3, h4, h5, h6, -⟩ :=
    sign1_wire _ tagged m ext s v b hm hrp hru (gatedN hfp hup hlp)
      (unprotWireN hfu huu hlu (by decide)) hpl halg hsl hok henc
  exact ⟨m2, h1, h2, h3, h4, h5, h6⟩

/-- detached payload, end to end, nested header values -/
theorem sign1_wire_detached_nested (tagged : Bool) (m : Sign1Msg) (ext : Option Bytes)
    (s : Signer) (v : Verifier) (b : Bytes) (hm : Matches s v)
    (hrp : m.h.rawP = none) (hru : m.h.rawU = none)
    (hfp : NestedMap m.h.p) (hfu : NestedMapAt 2 m.h.u)
    (hup : ∀ e ∈ m.h.p, UintOK e.2) (huu : ∀ e ∈ m.h.u, UintOK e.2)
    (hlp : m.h.p.length < maxElems) (hlu : m.h.u.length ≤ maxElems)
    (halg : int64Range s.alg)
    (hsl : ∀ t sg, s.sign t = .ok sg → sg.length < 18446744073709551616)
    (hok : (Sign1.sign m ext s).out = .ok ())
    (henc : Sign1.marshal tagged { (Sign1.sign m ext s).state with payload := none } = .ok b) :
    ∃ m2, Sign1.unmarshal tagged b = .ok m2 ∧
      (Sign1.verify { m2 with payload := m.payload } ext v).1 = .ok () ∧ m2.payload = none ∧
      m2.sig = (Sign1.sign m ext s).state.sig := by
  obtain ⟨m2, hdec, hpay, hs2, hver, -⟩ :=
    sign1_wire_with _ tagged m ext s v none b hm hrp hru (gatedN hfp hup hlp)
      (unprotWireN hfu huu hlu (by decide)) (by simp [blen]) halg hsl hok henc
  exact ⟨m2, hdec, hver, hpay, hs2⟩

/-- C04 across the wire: `hnx` — no external data, or the caller's protected map already
    names an algorithm (needed: `C01.sign1_wire_flat_alg_needs_hnx`) -/
theorem sign1_wire_nested_alg (tagged : Bool) (m : Sign1Msg) (ext : Option Bytes)
    (s : Signer) (v : Verifier) (b : Bytes) (hm : Matches s v)
    (hrp : m.h.rawP = none) (hru : m.h.rawU = none)
    (hfp : NestedMap m.h.p) (hfu : NestedMapAt 2 m.h.u)
    (hup : ∀ e ∈ m.h.p, UintOK e.2) (huu : ∀ e ∈ m.h.u, UintOK e.2)
    (hlp : m.h.p.length < maxElems) (hlu : m.h.u.length ≤ maxElems)
    (hpl : blen m.payload < 18446744073709551616) (halg : int64Range s.alg)
    (hsl : ∀ t sg, s.sign t = .ok sg → sg.length < 18446744073709551616)
    (hnx : (ext.getD []).length = 0 ∨ algorithmOf m.h.p ≠ .notFound)
    (hok : (Sign1.sign m ext s).out = .ok ())
    (henc : Sign1.marshal tagged (Sign1.sign m ext s).state = .ok b) :
    ∃ m2, Sign1.unmarshal tagged b = .ok m2 ∧ algorithmOf m2.h.p = .found s.alg := by
  obtain ⟨m2, hdec, -, -, -, -, -, hcase⟩ :=
    sign1_wire _ tagged m ext s v b hm hrp hru (gatedN hfp hup hlp)
      (unprotWireN hfu huu hlu (by decide)) hpl halg hsl hok henc
  exact ⟨m2, hdec, hcase.found hnx⟩

end C01

/-! ## why the hypotheses are needed -/

-- the examples `exS7`, `exV7`, `exSV7`, `ex_det1`, `exP`, `exU` are those of Deep/Chain.lean,
-- `exF_*` those of Deep/WireClosure.lean (all in namespace `C01`)
namespace NestedBuckets
open NestedExamples

/-- CWT claims `{int64(1): "a", int(1): "b"}`: two different Go map keys -/
def exDupClaims : GoMap := [(.int .i64 1, .str [0x61]), (.int .i 1, .str [0x62])]

/-- `Pairwise KeyDistinct` inside `RTVal` (keys of a map-valued parameter distinct after encoding)
    cannot be dropped from the bucket theorems: `SetCWTClaims` accepts `exDupClaims`, header
    validation accepts the bucket (it only looks at top-level labels), `MarshalProtected` emits
    `49 a1 0f a2 01 61 61 01 61 62`, and `ProtectedHeader.UnmarshalCBOR` refuses the content
    (duplicate key inside the claims map). -/
theorem protected_bucket_roundtrip_nested_needs_distinct :
    setCWTClaims [] exDupClaims = .ok [(lbl 15, .map exDupClaims)] ∧
    validateHeaderParameters [(lbl 15, .map exDupClaims)] true = true ∧
    encodeBucket encCfg true none [(lbl 15, .map exDupClaims)]
      = some [0x49, 0xa1, 0x0f, 0xa2, 0x01, 0x61, 0x61, 0x01, 0x61, 0x62] ∧
    decProtectedContent [0xa1, 0x0f, 0xa2, 0x01, 0x61, 0x61, 0x01, 0x61, 0x62] = .err .other := by
  have hs : sortPairs [([1], [0x61, 0x61]), ([1], [0x61, 0x62])]
      = [([1], [0x61, 0x61]), ([1], [0x61, 0x62])] :=
    List.mergeSort_of_pairwise (by decide)
  have hv : validateHeaderParameters [(GoVal.int .i64 15, .map exDupClaims)] true = true := by
    decide
  refine ⟨rfl, hv, ?_, ?_⟩
  · simp only [exDupClaims] at hv
    simp [encodeBucket, encCfg, hv, exDupClaims, lbl, encodePairs, encodeAny, encInt, encTstr,
      encHead, encBstr, HW.shortest, headBytes, hs, sortPairs_one, concatPairs]
  · have hp : parseTop true [0xa1, 0x0f, 0xa2, 0x01, 0x61, 0x61, 0x01, 0x61, 0x62]
        = some (.map .imm [(.uint .imm 15,
            .map .imm [(.uint .imm 1, .tstr .imm [0x61]), (.uint .imm 1, .tstr .imm [0x62])])]) := by
      simp [parseTop, parseItem, parsePairs, fuelFor, parseHead, maxNested, maxElems]
    have hu : headerLabelsUntagged [0xa1, 0x0f, 0xa2, 0x01, 0x61, 0x61, 0x01, 0x61, 0x62] = true := by
      decide
    unfold decProtectedContent
    simp only [hp, hu]
    rfl

/-- unprotected `{99: [[…[nil]…]]}` with 31 nested arrays -/
def exDeep : Sign1Msg :=
  { h := { p := [(lbl 1, .alg (-7))], u := [(lbl 99, nestArr 31)] }, payload := some [1, 2, 3] }

def exDeepU : Bytes := 0xa1 :: 0x18 :: 0x63 :: (List.replicate 31 0x81 ++ [0xf6])

theorem nestMap_nested {n : Nat} (h : 1 + n ≤ maxNested) : NestedMap [(lbl 99, nestArr n)] := by
  intro e he
  simp only [List.mem_singleton] at he
  subst he
  exact ⟨by simp [lbl, FlatLabel, int64Range], nestArr_rt n 1 h⟩

theorem exDeep_nested : NestedMap exDeep.h.p ∧ NestedMap exDeep.h.u ∧
    (∀ e ∈ exDeep.h.p, UintOK e.2) ∧ (∀ e ∈ exDeep.h.u, UintOK e.2) := by
  refine ⟨?_, nestMap_nested (by unfold maxNested; omega), ?_, ?_⟩
  · intro e he
    cases List.mem_singleton.mp he
    simp [lbl, FlatLabel, RTVal, FlatVal, int64Range]
  · intro e he
    cases List.mem_singleton.mp he
    trivial
  · intro e he
    cases List.mem_singleton.mp he
    trivial

theorem nestArr_modelled : ∀ n, (nestArr n).modelled = true
  | 0 => rfl
  | n + 1 => by simp [nestArr, GoVal.modelled, GoVal.modelledList, nestArr_modelled n]

theorem exDeep_mpP : marshalProtected exDeep.h = .ok [0x43, 0xa1, 0x01, 0x26] := C01.exF_mpP

/-- the encoder's gate on `{99: [[…[nil]…]]}` lets the map and `n` arrays through when these are
    within `maxNested` levels: such a bucket is in the nested data model, so it is encoded -/
theorem nestBucket_gate_ok {n : Nat} (h : 1 + n ≤ maxNested) :
    wellformedNoTags (0xa1 :: 0x18 :: 0x63 :: (List.replicate n 0x81 ++ [0xf6])) = true := by
  have he := encodeBucket_N (d := 0) (nestMap_nested h) false (validate_lbl99 _ _)
    (by simp [maxElems]) (by unfold maxNested; omega) (by simp)
  rw [encodeBucket_lbl99, nestArr_enc] at he
  simp only [Option.bind_some, Bool.false_eq_true, if_false] at he
  split at he
  · assumption
  · cases he

/-- … and refuses them beyond -/
theorem nestBucket_gate_fail {n : Nat} (h : 1 + n > maxNested) :
    wellformedNoTags (0xa1 :: 0x18 :: 0x63 :: (List.replicate n 0x81 ++ [0xf6])) = false := by
  have hdeep := fun f => parseItem_too_deep false [0xf6] n f 1 h (by unfold maxNested; omega)
  have hf : fuelFor (0xa1 :: 0x18 :: 0x63 :: (List.replicate n 0x81 ++ [0xf6]))
      = (2 * n + 7) + 3 := by
    simp [fuelFor]; omega
  simp only [wellformedNoTags, parseTop, hf]
  simp [parseItem, parsePairs, parseHead, maxNested, maxElems, hdeep]

theorem exDeep_encU : encodeBucket encCfg false none [(lbl 99, nestArr 31)] = some exDeepU := by
  rw [encodeBucket_lbl99, nestArr_enc]
  simp only [Option.bind_some, Bool.false_eq_true, if_false,
    nestBucket_gate_ok (n := 31) (by unfold maxNested; omega), if_true, exDeepU]

theorem exDeep_mpU : marshalUnprotected exDeep.h = .ok exDeepU := by
  have hm : GoVal.modelledPairs exDeep.h.u = true := by
    simp [exDeep, GoVal.modelledPairs, GoVal.modelled, nestArr_modelled, lbl]
  have he : encodeBucket encCfg false exDeep.h.rawU exDeep.h.u = some exDeepU := exDeep_encU
  simp only [marshalUnprotected, hm, he, Bool.not_true, Bool.false_eq_true, if_false]

theorem exDeep_parse (tail : Bytes) (hdeep : ∀ f, parseItem false f 2 tail = none) {fuel : Nat}
    (hfuel : 6 ≤ fuel) :
    parseItem false fuel 0
      (0x84 :: 0x43 :: 0xa1 :: 0x01 :: 0x26 :: 0xa1 :: 0x18 :: 0x63 :: tail) = none := by
  obtain ⟨f, rfl⟩ := Nat.exists_eq_add_of_le' hfuel
  simp [parseItem, parseItems, parsePairs, parseHead, maxNested, maxElems, hdeep]

theorem exDeep_sign : (Sign1.sign exDeep none C01.exS7).out = .ok () ∧
    (Sign1.sign exDeep none C01.exS7).state =
      { h := exDeep.h, payload := some [1, 2, 3], sig := some [7] } :=
  C01.sign1_sign_of (p' := exDeep.h.p) rfl rfl rfl exDeep_mpP C01.ex_det2 (fun _ => rfl)
    (by decide)

/-- In `sign1_wire_nested` the unprotected values must fit at depth 2 (`NestedMapAt 2`), one level
    less than what the bucket theorems allow (`NestedMap` = depth 1): inside a message the
    unprotected map is itself one level down.  `exDeep` satisfies every hypothesis of
    `sign1_wire_nested` with `NestedMap` in place of `NestedMapAt 2` (its unprotected bucket makes
    the stand-alone round trip `C08.unprotected_bucket_roundtrip_nested`), the library signs and
    encodes it, and `UnmarshalCBOR` refuses the bytes (nesting level 33 > 32). -/
theorem sign1_wire_nested_needs_depth2 :
    NestedMap exDeep.h.p ∧ NestedMap exDeep.h.u ∧
    (∃ w m, encodeBucket encCfg false none exDeep.h.u = some w.bytes ∧
      (∀ t, parseTop t w.bytes = some w) ∧ decUnprot w = .ok m) ∧
    (Sign1.sign exDeep none C01.exS7).out = .ok () ∧
    Sign1.marshal true (Sign1.sign exDeep none C01.exS7).state
      = .ok (0xd2 :: 0x84 :: ([0x43, 0xa1, 0x01, 0x26] ++ (exDeepU ++ [0x43, 1, 2, 3, 0x41, 7]))) ∧
    Sign1.unmarshal true
      (0xd2 :: 0x84 :: ([0x43, 0xa1, 0x01, 0x26] ++ (exDeepU ++ [0x43, 1, 2, 3, 0x41, 7])))
      = .err .other := by
  obtain ⟨h1, h2, -, h4⟩ := exDeep_nested
  refine ⟨h1, h2, ?_, exDeep_sign.1, ?_, ?_⟩
  · obtain ⟨-, heU⟩ := WireClosure.marshalUnprotected_ok_inv exDeep_mpU
    have heU' : encodeBucket encCfg false none exDeep.h.u = some exDeepU := heU
    obtain ⟨w, m, hb, -, hpt, -, hdu, -⟩ :=
      C08.unprotected_bucket_roundtrip_nested exDeep.h.u h2 h4
        (WireClosure.validate_of_encodeBucket heU') (by simp [exDeep, maxElems]) _ heU'
    exact ⟨w, m, by rw [heU', hb], fun t => by rw [← hb]; exact hpt t, hdu⟩
  · rw [exDeep_sign.2]
    exact WireClosure.sign1_marshal_of
      (m := { h := exDeep.h, payload := some [1, 2, 3], sig := some [7] }) (by decide) rfl
      exDeep_mpP exDeep_mpU
  · have hdeep := fun f => parseItem_too_deep false [0xf6, 0x43, 1, 2, 3, 0x41, 7] 31 f 2
      (by unfold maxNested; omega) (by unfold maxNested; omega)
    simp only [Sign1.unmarshal, if_true, Sign1.decodeArr, parseTop, fuelFor, exDeepU,
      List.cons_append, List.nil_append, List.append_assoc, List.length_cons, List.length_append,
      List.length_replicate, List.length_nil, exDeep_parse _ hdeep (fuel := 94) (by omega)]

/-- a byte string of 24 to 255 bytes has the two-byte head `58 nn` -/
theorem encBstr_w1 (b : Bytes) (n : Nat) (hl : b.length = n) (h1 : 24 ≤ n) (h2 : n < 256) :
    encBstr b = 0x58 :: UInt8.ofNat n :: b := by
  subst hl
  have h3 : ¬ b.length < 24 := by omega
  simp [encBstr, encHead, HW.shortest, headBytes, h2, h3]

/-- a countersignature with an empty protected bucket, unprotected `{99: v}` and signature `01`
    is encoded iff its unprotected bucket is: that bucket goes through `encodeBucket`, gate
    included, on its own -/
theorem encodeAny_csig99 (v : GoVal) :
    encodeAny encCfg (.csig none [] none [(lbl 99, v)] (some [1])) =
      (encodeBucket encCfg false none [(lbl 99, v)]).map
        (fun ub => 0x83 :: 0x40 :: (ub ++ [0x41, 0x01])) := by
  have hiv : encCfg.ensureIV [] [(lbl 99, v)] = true := rfl
  have hp : encodeBucket encCfg true none [] = some [0x40] := by simp [encodeBucket]
  cases h : encodeBucket encCfg false none [(lbl 99, v)] with
  | none => simp [encodeAny, hiv, hp, h]
  | some ub => simp [encodeAny, hiv, hp, h, encBstr, encHead, HW.shortest, headBytes]

end NestedBuckets

namespace C08
open NestedBuckets NestedExamples

/-- The depth face of the gate in `UnprotectedHeader.MarshalCBOR` (the
    tags-forbidden well-formedness pass on the freshly encoded bytes; general statement:
    `C08.fresh_unprotected_bucket_wellformed`).  Unprotected `{99: [[…[nil]…]]}`: with 31 nested
    arrays (32 levels with the map) it is encoded, with 32 it is refused; the protected bucket has
    no such gate and still encodes 32; and the gate is run by every `UnprotectedHeader` on its own
    bytes, so a countersignature whose unprotected bucket is too deep makes the encoding fail also
    where no enclosing unprotected bucket exists (here: stored in a protected bucket) — which is
    why the model has the check in `encodeBucket` and not only in `marshalUnprotected`. -/
theorem unprotected_depth_gate :
    marshalUnprotected exDeep.h = .ok exDeepU ∧
    marshalUnprotected { u := [(lbl 99, nestArr 32)] } = .err .other ∧
    marshalProtected { p := [(lbl 99, nestArr 32)] }
      = .ok (0x58 :: 0x24 :: 0xa1 :: 0x18 :: 0x63 :: (List.replicate 32 0x81 ++ [0xf6])) ∧
    marshalProtected { p := [(lbl 99, .csig none [] none [(lbl 99, nestArr 31)] (some [1]))] }
      = .ok (0x58 :: 0x2a :: 0xa1 :: 0x18 :: 0x63 :: 0x83 :: 0x40 :: (exDeepU ++ [0x41, 0x01])) ∧
    marshalProtected { p := [(lbl 99, .csig none [] none [(lbl 99, nestArr 32)] (some [1]))] }
      = .err .other := by
  have h32 : encodeBucket encCfg false none [(lbl 99, nestArr 32)] = none := by
    rw [encodeBucket_lbl99, nestArr_enc]
    simp only [Option.bind_some, Bool.false_eq_true, if_false,
      nestBucket_gate_fail (n := 32) (by unfold maxNested; omega)]
  have hmc : ∀ n, (GoVal.csig none [] none [(lbl 99, nestArr n)] (some [1])).modelled = true := by
    intro n
    simp [GoVal.modelled, GoVal.modelledPairs, nestArr_modelled, lbl]
  have hc31 : encodeAny encCfg (.csig none [] none [(lbl 99, nestArr 31)] (some [1]))
      = some (0x83 :: 0x40 :: (exDeepU ++ [0x41, 0x01])) := by
    rw [encodeAny_csig99, exDeep_encU]; rfl
  have hc32 : encodeAny encCfg (.csig none [] none [(lbl 99, nestArr 32)] (some [1])) = none := by
    rw [encodeAny_csig99, h32]; rfl
  refine ⟨exDeep_mpU, ?_, ?_, ?_, ?_⟩
  · simp only [marshalUnprotected, modelledPairs_lbl99, nestArr_modelled, h32, Bool.not_true,
      Bool.false_eq_true, if_false]
  · simp only [marshalProtected, modelledPairs_lbl99, nestArr_modelled, encodeBucket_lbl99,
      nestArr_enc, Option.bind_some, Bool.not_true, Bool.false_eq_true, if_false, if_true]
    rw [encBstr_w1 _ 36 (by simp only [List.length_cons, List.length_append, List.length_replicate,
      List.length_nil]) (by omega) (by omega)]
    rfl
  · simp only [marshalProtected, modelledPairs_lbl99, hmc, encodeBucket_lbl99, hc31,
      Option.bind_some, Bool.not_true, Bool.false_eq_true, if_false, if_true]
    rw [encBstr_w1 _ 42 (by simp only [exDeepU, List.length_cons, List.length_append,
      List.length_replicate, List.length_nil]) (by omega) (by omega)]
    rfl
  · simp only [marshalProtected, modelledPairs_lbl99, hmc, encodeBucket_lbl99, hc32,
      Option.bind_none, Bool.not_true, Bool.false_eq_true, if_false]

end C08

/-! ## non-vacuity -/

namespace C01
open NestedBuckets

/-- protected `{1: ES256, 2: [int(-70001)], -70001: [1, {2: true}]}` — a `crit` parameter naming
    an application parameter (the entry of `crit` is spelt with Go `int`, the bucket key with
    `int64`), whose value is an array holding a map — unprotected `{15: {4: 1700000000, 1: "iss"}}`
    (CWT claims, keys given out of order), payload `010203`; nothing retained from a decoder -/
def exNest : Sign1Msg :=
  { h := { p := [(lbl 1, .alg (-7)), (lbl 2, .arr [.int .i (-70001)]),
                 (lbl (-70001), .arr [.int .i 1, .map [(.int .i 2, .bool true)]])],
           u := [(lbl 15, .map [(.int .i 4, .int .i 1700000000),
                                (.int .i 1, .str [0x69, 0x73, 0x73])])] },
    payload := some [1, 2, 3] }

def exNestP : Bytes :=
  [0x54, 0xa3, 0x01, 0x26, 0x02, 0x81, 0x3a, 0x00, 0x01, 0x11, 0x70, 0x3a, 0x00, 0x01, 0x11, 0x70,
   0x82, 0x01, 0xa1, 0x02, 0xf5]

def exNestU : Bytes :=
  [0xa1, 0x0f, 0xa2, 0x01, 0x63, 0x69, 0x73, 0x73, 0x04, 0x1a, 0x65, 0x53, 0xf1, 0x00]

theorem exNest_model : NestedMap exNest.h.p ∧ NestedMapAt 2 exNest.h.u ∧
    (∀ e ∈ exNest.h.p, UintOK e.2) ∧ (∀ e ∈ exNest.h.u, UintOK e.2) := by
  refine ⟨?_, ?_, ?_, ?_⟩
  · intro e he
    simp only [exNest, List.mem_cons, List.not_mem_nil, or_false] at he
    rcases he with rfl | rfl | rfl
    · simp only [lbl, FlatLabel, RTVal, FlatVal, int64Range]
      decide
    · simp only [lbl, FlatLabel, RTVal, RTList, FlatVal, int64Range]
      decide
    · simp only [lbl, FlatLabel, RTVal, RTList, RTPairs, RTKey, FlatVal, int64Range]
      decide
  · intro e he
    cases List.mem_singleton.mp he
    simp only [lbl, FlatLabel, RTVal, RTPairs, RTKey, FlatVal, int64Range]
    decide
  · intro e he
    simp only [exNest, List.mem_cons, List.not_mem_nil, or_false] at he
    rcases he with rfl | rfl | rfl
    · trivial
    · trivial
    · trivial
  · intro e he
    cases List.mem_singleton.mp he
    trivial

theorem exNest_sortP :
    sortPairs [([1], [38]), ([2], [129, 58, 0, 1, 17, 112]),
               ([58, 0, 1, 17, 112], [130, 1, 161, 2, 245])]
      = [([1], [38]), ([2], [129, 58, 0, 1, 17, 112]),
         ([58, 0, 1, 17, 112], [130, 1, 161, 2, 245])] :=
  List.mergeSort_of_pairwise (by decide)

theorem exNest_valP : validateHeaderParameters exNest.h.p true = true := by decide

theorem exNest_mpP : marshalProtected exNest.h = .ok exNestP := by
  have hv : validateHeaderParameters exNest.h.p true = true := exNest_valP
  simp only [exNest, lbl] at hv
  simp [marshalProtected, exNest, exNestP, GoVal.modelledPairs, GoVal.modelled,
    GoVal.modelledList, encodeBucket, encCfg, hv, lbl, encodePairs, encodeAny, encodeList, encInt,
    encHead, encBstr, HW.shortest, headBytes, sortPairs_one, exNest_sortP, concatPairs]

theorem exNest_mpU : marshalUnprotected exNest.h = .ok exNestU := by
  simp [marshalUnprotected, exNest, exNestU, GoVal.modelledPairs, GoVal.modelled, encodeBucket,
    encCfg, validateHeaderParameters, validateLoop, normalizeLabel, wrap64, checkParam, lbl,
    encodePairs, encodeAny, encInt, encTstr, encHead, HW.shortest, headBytes, sortPairs,
    concatPairs, List.mergeSort, List.MergeSort.Internal.splitInTwo, bytesLe, bytesLt,
    wellformedNoTags, parseTop, fuelFor, parseItem, parsePairs, parseHead, maxNested, maxElems]

theorem exNest_det : detBstr exNestP = .ok exNestP := by
  simp [exNestP, detBstr, parseTop, parseItem, fuelFor, parseHead]

theorem exNest_sign : (Sign1.sign exNest none exS7).out = .ok () ∧
    (Sign1.sign exNest none exS7).state =
      { h := exNest.h, payload := some [1, 2, 3], sig := some [7] } :=
  sign1_sign_of (p' := exNest.h.p) rfl rfl rfl exNest_mpP exNest_det (fun _ => rfl) (by decide)

theorem exNest_marshal : Sign1.marshal true (Sign1.sign exNest none exS7).state
    = .ok (0xd2 :: 0x84 :: (exNestP ++ (exNestU ++ [0x43, 1, 2, 3, 0x41, 7]))) := by
  rw [exNest_sign.2]
  exact WireClosure.sign1_marshal_of
    (m := { h := exNest.h, payload := some [1, 2, 3], sig := some [7] }) (by decide) (by decide)
    exNest_mpP exNest_mpU

/-- what the decoder makes of the two buckets of `exNest`: every integer typed `int64` at every
    depth (the `crit` entry included), `alg` retyped to `Algorithm`, the claims sorted -/
theorem exNest_decP : (sortEntries exNest.h.p).map decEntryN =
    [(lbl 1, .alg (-7)), (lbl 2, .arr [.int .i64 (-70001)]),
     (lbl (-70001), .arr [.int .i64 1, .map [(.int .i64 2, .bool true)]])] := by
  rw [sortEntries_eq_of_perm (.refl _) (by decide) (by decide)]
  simp only [exNest, List.map_cons, List.map_nil, decEntryN, normEntryN, normValN, normListN,
    normPairsN, sortEntries, List.mergeSort_singleton]
  rfl

theorem exNest_decU : (sortEntries exNest.h.u).map normEntryN =
    [(lbl 15, .map [(.int .i64 1, .str [0x69, 0x73, 0x73]),
                    (.int .i64 4, .int .i64 1700000000)])] := by
  rw [sortEntries_eq_of_perm (g := exNest.h.u) (.refl _) (by decide) (by decide)]
  simp only [exNest, List.map_cons, List.map_nil, normEntryN, normValN_map]
  rw [sortEntries_eq_of_perm (.swap ..) (by decide) (by decide)]
  rfl

/-- non-vacuity of `sign1_wire_nested`: every hypothesis holds for `exNest` (a `crit` parameter, an
    array-of-map application parameter, CWT claims) with the matching pair `exS7`/`exV7`; the
    theorem yields the decoded, verified message and its header maps -/
example : ∃ m2,
    Sign1.unmarshal true (0xd2 :: 0x84 :: (exNestP ++ (exNestU ++ [0x43, 1, 2, 3, 0x41, 7])))
      = .ok m2 ∧
    (Sign1.verify m2 none exV7).1 = .ok () ∧ m2.payload = some [1, 2, 3] ∧ m2.sig = some [7] ∧
    m2.h.p = (sortEntries exNest.h.p).map decEntryN ∧
    m2.h.u = (sortEntries exNest.h.u).map normEntryN := by
  obtain ⟨h1, h2, h3, h4⟩ := exNest_model
  obtain ⟨m2, hdec, hver, hpay, hsig, hp2, hu2⟩ :=
    sign1_wire_nested true exNest none exS7 exV7 _ exSV7 rfl rfl h1 h2 h3 h4
      (by simp [exNest, maxElems]) (by simp [exNest, maxElems]) (by simp [exNest, blen])
      exS7_go.1 exS7_go.2 exNest_sign.1 exNest_marshal
  refine ⟨m2, hdec, hver, hpay, by rw [hsig, exNest_sign.2], ?_, hu2⟩
  rw [hp2, exNest_sign.2]

end C01
