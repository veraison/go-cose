/-
  Deep/Accept — the accepted byte languages, characterised by a spec-level well-formedness
  predicate on wire trees.
  * C05 (soundness): whatever a decoder accepts is exactly one well-formed COSE structure of its
    own kind (`WFSign1`, `WFSignature`), nothing after it, no tags; the header rules hold in every
    accepted layer, at every nesting depth of countersignatures (`WFVal`).
  * C07 (completeness): every well-formed tree, in any encoding the peer chose for its parts, is
    accepted, and decodes to the expected value.
  * the accepted languages of the four decoders are pairwise disjoint.
-/
import CoseModel.Messages
import CoseProofs.Lemmas.Parse
import CoseProofs.Props.C05
import CoseProofs.Props.C07
import CoseProofs.Props.C13
import CoseProofs.Deep.Reencode
import CoseProofs.Deep.NoPanic
open CoseModel

/-! ### the specification: well-formed envelopes over wire trees -/
namespace CoseModel

/-- payload: `null` (detached) or a byte string, any head width -/
def WFPayload (w : Wire) : Prop := w = .prim .imm 22 ∨ ∃ hw b, w = .bstr hw b

/-- signature: a non-empty byte string, any head width -/
def WFSig (w : Wire) : Prop := ∃ hw b, w = .bstr hw b ∧ b ≠ []

/-- the two header buckets of one layer (the header-level rules are characterised separately:
    `C05.prot_accept_rules`, `C05.unprot_accept_rules`, `C05.unprot_values_wf`) -/
def WFHeaders (p u : Wire) : Prop :=
  ∃ pm um, decProtected p = .ok pm ∧ decUnprot u = .ok um ∧ ensureIV pm um = true

/-- COSE_Sign1: one definite 4-array with an immediate head, well-formed heads throughout,
    within the decoder's limits, no tag anywhere -/
def WFSign1 (w : Wire) : Prop :=
  ∃ p u pl sg, w = .arr .imm [p, u, pl, sg] ∧ w.wf = true ∧ w.inLimits false 0 = true ∧
    w.hasTag = false ∧ WFHeaders p u ∧ WFPayload pl ∧ WFSig sg

/-- COSE_Signature / countersignature: one definite 3-array with an immediate head -/
def WFSignature (w : Wire) : Prop :=
  ∃ p u sg, w = .arr .imm [p, u, sg] ∧ w.wf = true ∧ w.inLimits false 0 = true ∧
    w.hasTag = false ∧ WFHeaders p u ∧ WFSig sg

end CoseModel

/-! ### payload items -/
namespace Accept

theorem wfpayload_of_dec {pl : Wire} {o : Option Bytes} (h : decByteString pl = .ok o) :
    WFPayload pl := by
  rcases C05.payload_shape pl o h with ⟨rfl, -⟩ | ⟨hw, b, rfl, -⟩
  · exact .inl rfl
  · exact .inr ⟨hw, b, rfl⟩

/-- the value `decByteString` gives for a well-formed payload item -/
def payloadOf : Wire → Option Bytes
  | .bstr _ b => some b
  | _ => none

theorem dec_of_wfpayload {pl : Wire} (h : WFPayload pl) :
    decByteString pl = .ok (payloadOf pl) := by
  rcases h with rfl | ⟨hw, b, rfl⟩ <;> rfl

end Accept

/-! ### the four accepted languages are pairwise disjoint -/
namespace C05

/-- an input has one first byte: two decoders that demand different first bytes accept no common
    input -/
theorem not_both {α β : Type} {b : Bytes} {p : α → Prop} {q : β → Prop} {x y : UInt8}
    (hp : ∀ a, p a → b.head? = some x) (hq : ∀ c, q c → b.head? = some y) (hne : x ≠ y) :
    ¬ ((∃ a, p a) ∧ ∃ c, q c)
  | ⟨⟨_, ha⟩, ⟨_, hc⟩⟩ => hne (Option.some.inj ((hp _ ha).symm.trans (hq _ hc)))

theorem shapes_disjoint (b : Bytes) :
    ¬ ((∃ m, Sign1.unmarshal true b = .ok m) ∧ (∃ m, Sign.unmarshal b = .ok m)) ∧
    ¬ ((∃ m, Sign1.unmarshal true b = .ok m) ∧ (∃ s, Signature.unmarshal b = .ok s)) ∧
    ¬ ((∃ m, Sign1.unmarshal false b = .ok m) ∧ (∃ s, Signature.unmarshal b = .ok s)) ∧
    ¬ ((∃ m, Sign1.unmarshal false b = .ok m) ∧ (∃ m, Sign1.unmarshal true b = .ok m)) ∧
    ¬ ((∃ m, Sign.unmarshal b = .ok m) ∧ (∃ s, Signature.unmarshal b = .ok s)) ∧
    ¬ ((∃ m, Sign.unmarshal b = .ok m) ∧ (∃ m, Sign1.unmarshal false b = .ok m)) := by
  obtain ⟨h1, h2, h3, h4⟩ := shapes_disjoint_first_byte b
  exact ⟨not_both h1 h3 (by decide), not_both h1 h4 (by decide), not_both h2 h4 (by decide),
    not_both h2 h1 (by decide), not_both h3 h4 (by decide), not_both h3 h2 (by decide)⟩

/-- … also for the remaining pairs (all six unordered pairs of the four decoders) -/
theorem shapes_disjoint_all (b : Bytes) :
    ¬ ((∃ m, Sign1.unmarshal true b = .ok m) ∧ (∃ m, Sign1.unmarshal false b = .ok m)) ∧
    ¬ ((∃ m, Sign1.unmarshal true b = .ok m) ∧ (∃ m, Sign.unmarshal b = .ok m)) ∧
    ¬ ((∃ m, Sign1.unmarshal true b = .ok m) ∧ (∃ s, Signature.unmarshal b = .ok s)) ∧
    ¬ ((∃ m, Sign1.unmarshal false b = .ok m) ∧ (∃ m, Sign.unmarshal b = .ok m)) ∧
    ¬ ((∃ m, Sign1.unmarshal false b = .ok m) ∧ (∃ s, Signature.unmarshal b = .ok s)) ∧
    ¬ ((∃ m, Sign.unmarshal b = .ok m) ∧ (∃ s, Signature.unmarshal b = .ok s)) := by
  obtain ⟨h1, h2, h3, h4, h5, h6⟩ := shapes_disjoint b
  exact ⟨fun h => h4 ⟨h.2, h.1⟩, h1, h2, fun h => h6 ⟨h.2, h.1⟩, h3, h5⟩

end C05

/-! ### COSE_Signature -/
namespace C05

/-- accepted ⇒ the input is exactly the bytes of one well-formed COSE_Signature tree -/
theorem signature_accept_wf (b : Bytes) (s : SigV) (h : Signature.unmarshal b = .ok s) :
    ∃ w, b = w.bytes ∧ WFSignature w := by
  obtain ⟨p, u, sg, -, hb, hwf, hlim, hnt, hsg, hz, hp, hu, hiv, -, -⟩ :=
    signature_accept_envelope_full b s h
  obtain ⟨hw, c, rfl, hc, -⟩ := Accept.wfsig_of_dec hsg hz
  exact ⟨_, hb, p, u, _, rfl, hwf, hlim, hnt, ⟨_, _, hp, hu, hiv⟩, hw, c, rfl, hc⟩

end C05

namespace C07

/-- explicit form: the decoded value of a well-formed COSE_Signature tree -/
theorem wf_signature_accepted_full {p u : Wire} {hw : HW} {c : Bytes} {pm um : GoMap}
    (hwf : (Wire.arr .imm [p, u, .bstr hw c]).wf = true)
    (hlim : (Wire.arr .imm [p, u, .bstr hw c]).inLimits false 0 = true)
    (hp : decProtected p = .ok pm) (hu : decUnprot u = .ok um) (hiv : ensureIV pm um = true)
    (hc : c ≠ []) :
    Signature.unmarshal (Wire.arr .imm [p, u, .bstr hw c]).bytes =
      .ok { h := { rawP := some p.bytes, p := pm, rawU := some u.bytes, u := um },
            sig := some c } :=
  C09.signature_unmarshal_tree hwf hlim (sg := .bstr hw c) rfl (C09.blen_some_ne hc) hp hu hiv rfl rfl

end C07

namespace C05

theorem signature_accept_iff (b : Bytes) :
    (∃ s, Signature.unmarshal b = .ok s) ↔ ∃ w, b = w.bytes ∧ WFSignature w := by
  constructor
  · rintro ⟨s, h⟩; exact signature_accept_wf b s h
  · rintro ⟨w, rfl, p, u, sg, rfl, hwf, hlim, -, ⟨pm, um, hp, hu, hiv⟩, hw', c, rfl, hc⟩
    exact ⟨_, C07.wf_signature_accepted_full hwf hlim hp hu hiv hc⟩

end C05

/-! ### COSE_Sign1 -/
namespace C05

/-- accepted ⇒ exactly one well-formed COSE_Sign1 item (after the tag-18 byte when tagged),
    nothing after it, no tags inside -/
theorem sign1_accept_wf (tagged : Bool) (b : Bytes) (m : Sign1Msg)
    (h : Sign1.unmarshal tagged b = .ok m) :
    ∃ w, b = (if tagged then [0xd2] else []) ++ w.bytes ∧ WFSign1 w := by
  obtain ⟨p, u, pl, sg, hb, hpt, hwf, hlim, hpl, hsg, hz, hh⟩ := C09.sign1_envelope_full h
  obtain ⟨hp, hu, hiv, -, -⟩ := C09.decHeaders_ok hh
  obtain ⟨hw, c, rfl, hc, -⟩ := Accept.wfsig_of_dec hsg hz
  exact ⟨_, hb, p, u, pl, _, rfl, hwf, hlim, parseTop_noTag hpt, ⟨_, _, hp, hu, hiv⟩,
    Accept.wfpayload_of_dec hpl, hw, c, rfl, hc⟩

end C05

namespace C07

/-- explicit form: the decoded value of a well-formed COSE_Sign1 tree -/
theorem wf_sign1_accepted_full (tagged : Bool) {p u pl : Wire} {hw : HW} {c : Bytes}
    {pm um : GoMap}
    (hwf : (Wire.arr .imm [p, u, pl, .bstr hw c]).wf = true)
    (hlim : (Wire.arr .imm [p, u, pl, .bstr hw c]).inLimits false 0 = true)
    (hp : decProtected p = .ok pm) (hu : decUnprot u = .ok um) (hiv : ensureIV pm um = true)
    (hpl : WFPayload pl) (hc : c ≠ []) :
    Sign1.unmarshal tagged
        ((if tagged then [0xd2] else []) ++ (Wire.arr .imm [p, u, pl, .bstr hw c]).bytes) =
      .ok { h := { rawP := some p.bytes, p := pm, rawU := some u.bytes, u := um },
            payload := Accept.payloadOf pl, sig := some c } :=
  C09.sign1_unmarshal_tree hwf hlim (Accept.dec_of_wfpayload hpl) (sg := .bstr hw c) rfl
    (C09.blen_some_ne hc) (C09.decHeaders_of hp hu hiv)

/-- every well-formed COSE_Sign1 tree, in ANY encoding the peer chose for its parts (head widths
    of payload, signature, header buckets, inner maps, key order — all inside `w`), is accepted,
    and decodes to the value the tree denotes -/
theorem wf_sign1_accepted (tagged : Bool) (w : Wire) (hw : WFSign1 w) :
    ∃ m, Sign1.unmarshal tagged ((if tagged then [0xd2] else []) ++ w.bytes) = .ok m ∧
      ∃ p u pl sg, w = .arr .imm [p, u, pl, sg] ∧
        m.h.rawP = some p.bytes ∧ m.h.rawU = some u.bytes ∧
        decProtected p = .ok m.h.p ∧ decUnprot u = .ok m.h.u ∧
        decByteString pl = .ok m.payload ∧
        ((pl = .prim .imm 22 ∧ m.payload = none) ∨ ∃ hw c, pl = .bstr hw c ∧ m.payload = some c) ∧
        ∃ hw c, sg = .bstr hw c ∧ m.sig = some c := by
  obtain ⟨p, u, pl, sg, rfl, hwf, hlim, -, ⟨pm, um, hp, hu, hiv⟩, hpl, ⟨hw', c, rfl, hc⟩⟩ := hw
  refine ⟨_, wf_sign1_accepted_full tagged hwf hlim hp hu hiv hpl hc, p, u, pl, _, rfl, rfl, rfl,
    hp, hu, Accept.dec_of_wfpayload hpl, ?_, hw', c, rfl, rfl⟩
  rcases hpl with rfl | ⟨hw2, c2, rfl⟩
  · exact .inl ⟨rfl, rfl⟩
  · exact .inr ⟨hw2, c2, rfl, rfl⟩

end C07

namespace C05

theorem sign1_accept_iff (tagged : Bool) (b : Bytes) :
    (∃ m, Sign1.unmarshal tagged b = .ok m) ↔
      ∃ w, b = (if tagged then [0xd2] else []) ++ w.bytes ∧ WFSign1 w := by
  constructor
  · rintro ⟨m, h⟩; exact sign1_accept_wf tagged b m h
  · rintro ⟨w, rfl, hw⟩
    obtain ⟨m, hm, -⟩ := C07.wf_sign1_accepted tagged w hw
    exact ⟨m, hm⟩

end C05

/-! ### what a countersignature parameter decodes from -/
namespace C05

/-- a countersignature parameter decodes only from a COSE_Signature-shaped 3-array (immediate
    head), a list of them, or `null`/`undefined` (nil list, refused later by `isCsigValue`) -/
theorem csig_value_accept (w : Wire) (v : GoVal) (h : decCsigValue w = .ok v) :
    (∃ xs, w = .arr .imm xs ∧ ∃ c, decSigFields xs = .ok c ∧ v = c) ∨
    (∃ hw xs l, w = .arr hw xs ∧ decCsigList xs = .ok l ∧ v = .csigs l) ∨
    ((w = .prim .imm 22 ∨ w = .prim .imm 23) ∧ v = .csigsNil) := by
  cases w with
  | arr hw xs =>
    unfold decCsigValue at h
    dsimp only at h
    split at h
    · next c hs =>
      obtain ⟨rfl, hs⟩ := Out.ite_err_eq_ok.mp hs
      exact .inl ⟨xs, rfl, c, hs, (Out.ok.inj h).symm⟩
    · cases h
    · cases h
    · split at h
      · next l hl => exact .inr (.inl ⟨_, xs, l, rfl, hl, (Out.ok.inj h).symm⟩)
      · cases h
      · cases h
      · cases h
  | prim hw n =>
    unfold decCsigValue at h
    split at h
    · next heq => cases heq
    · next heq => cases heq; exact .inr (.inr ⟨.inl rfl, (Out.ok.inj h).symm⟩)
    · next heq => cases heq; exact .inr (.inr ⟨.inr rfl, (Out.ok.inj h).symm⟩)
    · cases h
  | uint _ _ | nint _ _ | bstr _ _ | tstr _ _ | tag _ _ _ | map _ _ => cases h

theorem csigOne_ok {x : Wire} {a : GoVal} (h : csigOne x = .ok a) :
    (x = .prim .imm 22 ∨ x = .prim .imm 23) ∧ a = .csigNil ∨
      ∃ ys, x = .arr .imm ys ∧ decSigFields ys = .ok a := by
  unfold csigOne at h
  split at h
  · cases h; exact .inl ⟨.inl rfl, rfl⟩
  · cases h; exact .inl ⟨.inr rfl, rfl⟩
  · exact .inr ⟨_, rfl, h⟩
  · cases h

theorem decCsigList_cons_ok {x : Wire} {xs : List Wire} {l : List GoVal}
    (h : decCsigList (x :: xs) = .ok l) :
    ∃ a r, csigOne x = .ok a ∧ decCsigList xs = .ok r ∧ l = a :: r := by
  rw [decCsigList_cons, Out.comb_eq_ok] at h
  obtain ⟨a, r, ha, hr, h⟩ := h
  exact ⟨a, r, ha, hr, (Out.ok.inj h).symm⟩

/-- a list of countersignatures decodes element by element: `null`/`undefined` entries become
    nil pointers (which header validation then refuses: `isCsigValue`), every other entry must be
    a COSE_Signature-shaped 3-array -/
theorem csig_list_accept (xs : List Wire) (l : List GoVal) (h : decCsigList xs = .ok l) :
    l.length = xs.length ∧ ∀ i (h1 : i < xs.length) (h2 : i < l.length),
      (xs[i] = .prim .imm 22 ∨ xs[i] = .prim .imm 23) ∧ l[i] = .csigNil ∨
        ∃ ys, xs[i] = .arr .imm ys ∧ decSigFields ys = .ok l[i] := by
  induction xs generalizing l with
  | nil =>
    rw [decCsigList_nil] at h
    cases h
    exact ⟨rfl, fun i h1 => absurd h1 (Nat.not_lt_zero _)⟩
  | cons x xs ih =>
    obtain ⟨a, r, ha, hr, rfl⟩ := decCsigList_cons_ok h
    obtain ⟨hlen, hidx⟩ := ih r hr
    refine ⟨by simp [hlen], ?_⟩
    intro i h1 h2
    cases i with
    | zero => simpa using csigOne_ok ha
    | succ j =>
      simp only [List.length_cons, Nat.add_lt_add_iff_right] at h1 h2
      simpa using hidx j h1 h2

end C05

/-! ### the header rules hold in every accepted layer, at every depth -/
namespace C05

theorem decUnprot_ok {u : Wire} {um : GoMap} (h : decUnprot u = .ok um) :
    ∃ hw kvs, u = .map hw kvs ∧ labelsOK kvs [] = .ok () ∧ decUnprotPairs kvs = .ok um ∧
      validateHeaderParameters um false = true := by
  obtain ⟨hw, kvs, rfl⟩ := unprotected_is_map u um h
  rw [decUnprot_map] at h
  simp only [Out.bind_eq_ok, Out.guard_eq_ok, Out.ite_err_eq_ok] at h
  obtain ⟨_, hl, -, m, hd, hv, hm⟩ := h
  cases hm
  exact ⟨hw, kvs, rfl, hl, hd, hv⟩

theorem unprot_accept_rules (u : Wire) (um : GoMap) (h : decUnprot u = .ok um) :
    validateHeaderParameters um false = true := by
  obtain ⟨_, _, -, -, -, hv⟩ := decUnprot_ok h
  exact hv

theorem prot_accept_rules (p : Wire) (pm : GoMap) (h : decProtected p = .ok pm) :
    pm = [] ∨ ∃ m0, validateHeaderParameters m0 true = true ∧ pm = castAlg m0 := by
  obtain ⟨hw, enc, rfl, -⟩ := protected_is_bstr_of_map p pm h
  rcases C13.decode_protected_validated enc pm h with ⟨-, rfl⟩ | hm
  · exact .inl rfl
  · exact .inr hm

/-- the rules one decoded countersignature object satisfies in its own layer -/
def LayerRules (p u : GoMap) (sg : Option Bytes) : Prop :=
  (p = [] ∨ ∃ m0, validateHeaderParameters m0 true = true ∧ p = castAlg m0) ∧
  validateHeaderParameters u false = true ∧ ensureIV p u = true ∧ (∃ s, sg = some s ∧ s ≠ [])

/-- the rules hold in a layer whose buckets and signature item the decoder accepted -/
theorem layerRules_of_dec {p u sg : Wire} {pm um : GoMap} {sig : Option Bytes}
    (hp : decProtected p = .ok pm) (hu : decUnprot u = .ok um) (hiv : ensureIV pm um = true)
    (hsg : decByteString sg = .ok sig) (hz : blen sig ≠ 0) : LayerRules pm um sig := by
  obtain ⟨hw, c, -, hc, rfl⟩ := Accept.wfsig_of_dec hsg hz
  exact ⟨prot_accept_rules _ _ hp, unprot_accept_rules _ _ hu, hiv, c, rfl, hc⟩

mutual
/-- recursive closure: a decoded value is well-formed when every countersignature object in it
    satisfies the header rules of its own layer and all values of its unprotected bucket are
    well-formed again -/
def WFVal : GoVal → Prop
  | .csig _ p _ u sg => LayerRules p u sg ∧ WFPairs u
  | .csigs cs => WFList cs
  | _ => True
def WFList : List GoVal → Prop
  | [] => True
  | x :: xs => WFVal x ∧ WFList xs
def WFPairs : List (GoVal × GoVal) → Prop
  | [] => True
  | (_, v) :: r => WFVal v ∧ WFPairs r
end

theorem WFPairs_mem {m : GoMap} (h : WFPairs m) : ∀ e ∈ m, WFVal e.2 := by
  induction m with
  | nil => intro e he; cases he
  | cons x xs ih =>
    obtain ⟨k, v⟩ := x
    simp only [WFPairs] at h
    intro e he
    rcases List.mem_cons.mp he with rfl | he
    · exact h.1
    · exact ih h.2 e he

theorem WFList_mem {l : List GoVal} (h : WFList l) : ∀ c ∈ l, WFVal c := by
  induction l with
  | nil => intro e he; cases he
  | cons x xs ih =>
    simp only [WFList] at h
    intro e he
    rcases List.mem_cons.mp he with rfl | he
    · exact h.1
    · exact ih h.2 e he

end C05

namespace C13

/-- a key that, when it is a label at all, is its own normal form (`int64` in range, or text) -/
def KeyNormal (k : GoVal) : Prop := normalizeLabel k = none ∨ normalizeLabel k = some k

theorem wrap64_nat {n : Nat} (h : n ≤ maxInt64) : wrap64 (n : Int) = (n : Int) :=
  wrap64_of_int64 (by omega) (Int.ofNat_le.mpr h)

theorem wrap64_neg {n : Nat} (h : n ≤ maxInt64) : wrap64 (-1 - (n : Int)) = -1 - (n : Int) := by
  unfold maxInt64 at h
  exact wrap64_of_int64 (by omega) (by unfold maxInt64; omega)

end C13

namespace C05

/-- the generic decoder never produces countersignature objects, so its values are trivially
    well-formed, and it produces integer keys only as in-range `int64` -/
theorem decodeAny_generic {w : Wire} {v : GoVal} (h : decodeAny w = .ok v) :
    WFVal v ∧ C13.KeyNormal v := by
  rcases decodeAny_ok h with ⟨_, n, -, hn, rfl⟩ | ⟨_, n, -, hn, rfl⟩ | ⟨_, _, -, rfl⟩ |
    ⟨_, _, -, -, rfl⟩ | ⟨_, -, -, rfl | rfl | rfl⟩ | ⟨_, _, -, -, rfl | rfl⟩ |
    ⟨_, _, _, -, -, rfl⟩ | ⟨_, _, _, -, -, rfl⟩
  · exact ⟨trivial, .inr (by simp [normalizeLabel, C13.wrap64_nat hn])⟩
  · exact ⟨trivial, .inr (by simp [normalizeLabel, C13.wrap64_neg hn])⟩
  · exact ⟨trivial, .inl rfl⟩
  · exact ⟨trivial, .inr rfl⟩
  all_goals exact ⟨trivial, .inl rfl⟩

theorem decodeAny_wfval {w : Wire} {v : GoVal} (h : decodeAny w = .ok v) : WFVal v :=
  (decodeAny_generic h).1

theorem csigOne_wfval_of_not_arr {x : Wire} {a : GoVal} (h : csigOne x = .ok a)
    (hx : ∀ hw ys, x ≠ .arr hw ys) : WFVal a := by
  rcases csigOne_ok h with ⟨-, rfl⟩ | ⟨ys, heq, -⟩
  · simp [WFVal]
  · exact absurd heq (hx _ _)

mutual
theorem decSigFields_wfval : ∀ (xs : List Wire) (v : GoVal), decSigFields xs = .ok v → WFVal v
  | [p, u, s], v, h => by
    have ihu := decUnprot_wfval u
    obtain ⟨p', u', sg', sig, pm, um, hxs, hsg, hz, hp, hu, hiv, rfl⟩ := decSigFields_ok h
    cases hxs
    exact ⟨layerRules_of_dec hp hu hiv hsg hz, ihu um hu⟩
  | [], _, h | [_], _, h | [_, _], _, h | _ :: _ :: _ :: _ :: _, _, h => by
    rw [decSigFields_eq] at h
    cases h
theorem decUnprot_wfval : ∀ (u : Wire) (um : GoMap), decUnprot u = .ok um → WFPairs um
  | .map _ kvs, um, h => by
    have ih := decUnprotPairs_wfval kvs
    obtain ⟨hw', kvs', heq, -, hd, -⟩ := decUnprot_ok h
    cases heq
    exact ih um hd
  | .uint .., _, h | .nint .., _, h | .bstr .., _, h | .tstr .., _, h | .tag .., _, h
  | .prim .., _, h | .arr .., _, h => by cases h
theorem decUnprotPairs_wfval : ∀ (kvs : List (Wire × Wire)) (m : GoMap),
    decUnprotPairs kvs = .ok m → WFPairs m
  | [], m, h => by
    cases h
    trivial
  | (k, v) :: r, m, h => by
    have ih1 := decCsigValue_wfval v
    have ih2 := decUnprotPairs_wfval r
    rw [decUnprotPairs_cons] at h
    simp only [Out.bind_eq_ok, Out.comb_eq_ok] at h
    obtain ⟨key, -, x, m', hx, hr, hm⟩ := h
    cases hm
    refine ⟨?_, ih2 _ hr⟩
    split at hx
    · exact ih1 _ hx
    · exact decodeAny_wfval hx
theorem decCsigValue_wfval : ∀ (w : Wire) (v : GoVal), decCsigValue w = .ok v → WFVal v
  | .arr _ xs, v, h => by
    have ih1 := decSigFields_wfval xs
    have ih2 := decCsigList_wfval xs
    rcases csig_value_accept _ _ h with ⟨xs', heq, c, hc, rfl⟩ | ⟨hw', xs', l, heq, hl, rfl⟩ |
      ⟨h', -⟩
    · cases heq; exact ih1 _ hc
    · cases heq; exact ih2 _ hl
    · rcases h' with h' | h' <;> cases h'
  | .prim _ _, v, h => by
    rcases csig_value_accept _ _ h with ⟨xs', heq, -⟩ | ⟨hw', xs', l, heq, -⟩ | ⟨-, rfl⟩
    · cases heq
    · cases heq
    · trivial
  | .uint .., _, h | .nint .., _, h | .bstr .., _, h | .tstr .., _, h | .tag .., _, h
  | .map .., _, h => by cases h
theorem decCsigList_wfval : ∀ (xs : List Wire) (l : List GoVal), decCsigList xs = .ok l → WFList l
  | [], l, h => by
    cases h
    trivial
  | .arr _ ys :: xs, l, h => by
    have ih1 := decSigFields_wfval ys
    have ih2 := decCsigList_wfval xs
    obtain ⟨a, r, ha, hr, rfl⟩ := decCsigList_cons_ok h
    refine ⟨?_, ih2 _ hr⟩
    rcases csigOne_ok ha with ⟨h' | h', -⟩ | ⟨ys', heq, hy⟩
    · cases h'
    · cases h'
    · cases heq; exact ih1 _ hy
  | .prim .. :: xs, l, h | .uint .. :: xs, l, h | .nint .. :: xs, l, h | .bstr .. :: xs, l, h
  | .tstr .. :: xs, l, h | .tag .. :: xs, l, h | .map .. :: xs, l, h => by
    have ih2 := decCsigList_wfval xs
    obtain ⟨a, r, ha, hr, rfl⟩ := decCsigList_cons_ok h
    exact ⟨csigOne_wfval_of_not_arr ha (by intro _ _ hh; cases hh), ih2 _ hr⟩
end

/-- every value in an accepted unprotected bucket is well-formed at every depth: each
    countersignature object (single, or element of a list) has validated headers of its own, and
    the values of ITS unprotected bucket are well-formed again -/
theorem unprot_values_wf (u : Wire) (um : GoMap) (h : decUnprot u = .ok um) :
    ∀ e ∈ um, WFVal e.2 :=
  WFPairs_mem (decUnprot_wfval u um h)

/-- unfolding of the closure at a countersignature object -/
theorem WFVal_csig {rp ru sg : Option Bytes} {p u : GoMap} (h : WFVal (.csig rp p ru u sg)) :
    LayerRules p u sg ∧ ∀ e ∈ u, WFVal e.2 := by
  simp only [WFVal] at h
  exact ⟨h.1, WFPairs_mem h.2⟩

theorem WFVal_csigs {l : List GoVal} (h : WFVal (.csigs l)) : ∀ c ∈ l, WFVal c := by
  simp only [WFVal] at h
  exact WFList_mem h

/-- every countersignature object inside an accepted unprotected bucket has itself accepted
    headers (one level; `unprot_values_wf` gives all levels) -/
theorem nested_csig_headers (u : Wire) (um : GoMap) (h : decUnprot u = .ok um) :
    ∀ e ∈ um, ∀ rp p ru uu sg, e.2 = .csig rp p ru uu sg →
      (p = [] ∨ ∃ m0, validateHeaderParameters m0 true = true ∧ p = castAlg m0) ∧
      validateHeaderParameters uu false = true ∧ ensureIV p uu = true ∧
      (∃ s, sg = some s ∧ s ≠ []) := by
  intro e he rp p ru uu sg heq
  have hw := unprot_values_wf u um h e he
  rw [heq] at hw
  exact (WFVal_csig hw).1

/-- … and so does every element of a list of countersignatures -/
theorem nested_csigs_headers (u : Wire) (um : GoMap) (h : decUnprot u = .ok um) :
    ∀ e ∈ um, ∀ l, e.2 = .csigs l → ∀ c ∈ l, ∀ rp p ru uu sg, c = .csig rp p ru uu sg →
      (p = [] ∨ ∃ m0, validateHeaderParameters m0 true = true ∧ p = castAlg m0) ∧
      validateHeaderParameters uu false = true ∧ ensureIV p uu = true ∧
      (∃ s, sg = some s ∧ s ≠ []) := by
  intro e he l heq c hc rp p ru uu sg hceq
  have hw := unprot_values_wf u um h e he
  rw [heq] at hw
  have hcw := WFVal_csigs hw c hc
  rw [hceq] at hcw
  exact (WFVal_csig hcw).1

/-- … and, explicitly, one level further down: the unprotected bucket of a nested
    countersignature again contains only well-formed values, so both theorems above apply to it
    verbatim (with `WFVal` in place of the decoder hypothesis) -/
theorem nested_csig_closed (u : Wire) (um : GoMap) (h : decUnprot u = .ok um) :
    ∀ e ∈ um, ∀ rp p ru uu sg, e.2 = .csig rp p ru uu sg → ∀ e' ∈ uu, WFVal e'.2 := by
  intro e he rp p ru uu sg heq
  have hw := unprot_values_wf u um h e he
  rw [heq] at hw
  exact (WFVal_csig hw).2

end C05

/-! ### message level -/
namespace C05

/-- an accepted COSE_Sign1: the header rules hold in the message layer and, recursively, in every
    countersignature nested in its unprotected bucket -/
theorem sign1_accept_all_layers (tagged : Bool) (b : Bytes) (m : Sign1Msg)
    (h : Sign1.unmarshal tagged b = .ok m) :
    LayerRules m.h.p m.h.u m.sig ∧ ∀ e ∈ m.h.u, WFVal e.2 := by
  obtain ⟨p, u, pl, sg, -, -, -, -, -, hsg, hz, hh⟩ := C09.sign1_envelope_full h
  obtain ⟨hp, hu, hiv, -, -⟩ := C09.decHeaders_ok hh
  exact ⟨layerRules_of_dec hp hu hiv hsg hz, unprot_values_wf _ _ hu⟩

/-- an accepted COSE_Signature / countersignature: the same -/
theorem signature_accept_all_layers (b : Bytes) (s : SigV) (h : Signature.unmarshal b = .ok s) :
    WFVal s.toVal := by
  obtain ⟨p, u, sg, -, -, -, -, -, hsg, hz, hp, hu, hiv, -, -⟩ :=
    signature_accept_envelope_full b s h
  simp only [SigV.toVal, WFVal]
  exact ⟨layerRules_of_dec hp hu hiv hsg hz, decUnprot_wfval _ _ hu⟩

/-- the well-formed tree of an accepted input is unique -/
theorem sign1_tree_unique {w w' : Wire} (hw : WFSign1 w) (hw' : WFSign1 w')
    (h : w.bytes = w'.bytes) : w = w' := by
  obtain ⟨_, _, _, _, -, hwf, -⟩ := hw
  obtain ⟨_, _, _, _, -, hwf', -⟩ := hw'
  exact Reencode.bytes_inj hwf hwf' h

theorem signature_tree_unique {w w' : Wire} (hw : WFSignature w) (hw' : WFSignature w')
    (h : w.bytes = w'.bytes) : w = w' := by
  obtain ⟨_, _, _, -, hwf, -⟩ := hw
  obtain ⟨_, _, _, -, hwf', -⟩ := hw'
  exact Reencode.bytes_inj hwf hwf' h

end C05
