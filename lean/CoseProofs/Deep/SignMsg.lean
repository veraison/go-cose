/-
  Deep/SignMsg — COSE_Sign (multi-signer message, tag 98): the counterparts of the COSE_Sign1 /
  COSE_Signature theorems of Deep/Reencode.
  * C05: inversion of the signature-list decoder; envelope of an accepted COSE_Sign.
  * C11: a COSE_Sign with zero signatures or with an empty signature cannot be decoded.
  * C09: re-encoding a decoded COSE_Sign copies the header buckets of the body and of every signer
    verbatim, and is a fixpoint after the first cycle (same decoded value).
-/
import CoseModel.Messages
import CoseProofs.Lemmas.Parse
import CoseProofs.Props.C05
import CoseProofs.Props.C09
import CoseProofs.Props.C11
import CoseProofs.Deep.Reencode
open CoseModel

/-! ### C05 — what the decoder accepts -/
namespace C05

/-- what one signer entry decodes to: a COSE_Signature-shaped 3-array `x`, value `s` -/
def SigElem (x : Wire) (s : SigV) : Prop :=
  ∃ p u sg, x = .arr .imm [p, u, sg] ∧ decProtected p = .ok s.h.p ∧ decUnprot u = .ok s.h.u ∧
    ensureIV s.h.p s.h.u = true ∧ s.h.rawP = some p.bytes ∧ s.h.rawU = some u.bytes ∧
    decByteString sg = .ok s.sig ∧ blen s.sig ≠ 0

/-- one step of `decSigList`: the head is a signer entry -/
theorem decSigList_cons_elem {x : Wire} {xs : List Wire} {l : List SigV}
    (h : decSigList (x :: xs) = .ok l) :
    ∃ s r, SigElem x s ∧ decSigList xs = .ok r ∧ l = s :: r := by
  rw [decSigList_cons, Out.comb_eq_ok] at h
  obtain ⟨v, r, hone, hr, h⟩ := h
  unfold sigOne at hone
  split at hone
  · obtain ⟨p, u, sg, sig, pm, um, rfl, hsg, hz, hp, hu, hiv, rfl⟩ := decSigFields_ok hone
    cases h
    exact ⟨⟨⟨some p.bytes, pm, some u.bytes, um⟩, sig⟩, r,
      ⟨p, u, sg, rfl, hp, hu, hiv, rfl, rfl, hsg, hz⟩, hr, rfl⟩
  · cases hone

theorem decSigList_nil : decSigList [] = .ok [] := by
  unfold decSigList; rfl

/-- inversion of the signature-list decoder: the result has one entry per array element, and
    each element is a COSE_Signature-shaped 3-array with an immediate head whose protected /
    unprotected buckets decode to the entry's headers (raw bytes retained) and whose third field
    is a non-empty byte string -/
theorem decSigList_ok (xs : List Wire) (l : List SigV) (h : decSigList xs = .ok l) :
    l.length = xs.length ∧ ∀ i (h1 : i < xs.length) (h2 : i < l.length),
      ∃ p u sg, xs[i] = .arr .imm [p, u, sg] ∧ decProtected p = .ok l[i].h.p ∧
        decUnprot u = .ok l[i].h.u ∧ ensureIV l[i].h.p l[i].h.u = true ∧
        l[i].h.rawP = some p.bytes ∧ l[i].h.rawU = some u.bytes ∧
        decByteString sg = .ok l[i].sig ∧ blen l[i].sig ≠ 0 := by
  induction xs generalizing l with
  | nil =>
    rw [decSigList_nil] at h
    cases h
    exact ⟨rfl, fun i h1 => absurd h1 (Nat.not_lt_zero _)⟩
  | cons x xs ih =>
    obtain ⟨s, r, hel, hr, rfl⟩ := decSigList_cons_elem h
    obtain ⟨hlen, hidx⟩ := ih r hr
    refine ⟨by simp [hlen], ?_⟩
    intro i h1 h2
    cases i with
    | zero => simpa [SigElem] using hel
    | succ j =>
      simp only [List.length_cons, Nat.add_lt_add_iff_right] at h1 h2
      simpa using hidx j h1 h2

/-- the envelope of an accepted COSE_Sign, with the parser facts the re-encoding theorems need:
    `Sign.unmarshal` demands the prefix `d8 62 84`, the rest (from `84`) one item in tag-forbidding
    mode, a 4-array whose last element is an array (not `null`/`undefined`) that is non-empty
    and accepted by `decSigList` -/
theorem sign_accept_envelope_full {b : Bytes} {m : SignMsg} (h : Sign.unmarshal b = .ok m) :
    ∃ (hws : HW) (p u pl : Wire) (sgs : List Wire),
      b = 0xd8 :: 0x62 :: (Wire.arr .imm [p, u, pl, .arr hws sgs]).bytes ∧
      parseTop false (Wire.arr .imm [p, u, pl, .arr hws sgs]).bytes
        = some (Wire.arr .imm [p, u, pl, .arr hws sgs]) ∧
      (Wire.arr .imm [p, u, pl, .arr hws sgs]).wf = true ∧
      (Wire.arr .imm [p, u, pl, .arr hws sgs]).hasTag = false ∧
      (Wire.arr .imm [p, u, pl, .arr hws sgs]).inLimits false 0 = true ∧
      decByteString pl = .ok m.payload ∧ decHeaders p u = .ok m.h ∧ sgs ≠ [] ∧
      decSigList sgs = .ok m.sigs := by
  unfold Sign.unmarshal at h
  split at h
  · split at h
    · rename_i hw p u pl sgv hpt
      simp only [Out.bind_eq_ok, Out.guard_eq_ok, List.isEmpty_iff] at h
      obtain ⟨pay, hpl, sgs, hit, hne, sigs, hs, hd, hh, hm⟩ := h
      cases hm
      split at hit
      · cases hit
        obtain rfl := Reencode.parsed_arr_imm hpt (by decide)
        obtain ⟨hbytes, hwf, hlim⟩ := parseTop_sound hpt
        have hnt := parseTop_noTag hpt
        rw [hbytes] at hpt
        exact ⟨_, p, u, pl, sgs, by rw [hbytes], hpt, hwf, hnt, hlim, hpl, hh, hne, hs⟩
      · cases hit; exact absurd rfl hne
      · cases hit; exact absurd rfl hne
      · cases hit
    · cases h
  · cases h

/-- the envelope of an accepted COSE_Sign: exactly tag 98 (`d8 62`) followed by one definite
    4-array with an immediate head and nothing after it, no tag inside, well-formed heads, within
    the decoder's limits; payload a byte string or `null`; the fourth element is an array
    (`null` / `undefined` there are let through by the CBOR layer as a nil slice but then refused
    with `ErrNoSignatures`, so they never occur in an accepted message), non-empty, and every
    element is accepted by the per-signer decoder (`decSigList_ok`) -/
theorem sign_accept_envelope (b : Bytes) (m : SignMsg) (h : Sign.unmarshal b = .ok m) :
    ∃ (hw hws : HW) (p u pl : Wire) (sgs : List Wire),
      b = 0xd8 :: 0x62 :: (Wire.arr hw [p, u, pl, .arr hws sgs]).bytes ∧ hw = .imm ∧
      (Wire.arr hw [p, u, pl, .arr hws sgs]).wf = true ∧
      (Wire.arr hw [p, u, pl, .arr hws sgs]).hasTag = false ∧
      (Wire.arr hw [p, u, pl, .arr hws sgs]).inLimits false 0 = true ∧
      decByteString pl = .ok m.payload ∧ decHeaders p u = .ok m.h ∧ sgs ≠ [] ∧
      decSigList sgs = .ok m.sigs := by
  obtain ⟨hws, p, u, pl, sgs, hb, -, hwf, hnt, hlim, hpl, hh, hne, hs⟩ :=
    sign_accept_envelope_full h
  exact ⟨.imm, hws, p, u, pl, sgs, hb, rfl, hwf, hnt, hlim, hpl, hh, hne, hs⟩

end C05

/-! ### C11 — decode side -/
namespace C11

/-- a COSE_Sign with zero signatures, or with an empty signature anywhere, cannot be decoded:
    every decoded message has at least one signer entry and every entry a non-empty signature
    (the encode side is `signmsg_no_signatures` / `signmsg_no_empty_on_wire`) -/
theorem decoded_no_empty_signature (b : Bytes) (m : SignMsg) (h : Sign.unmarshal b = .ok m) :
    m.sigs ≠ [] ∧ ∀ s ∈ m.sigs, blen s.sig ≠ 0 := by
  obtain ⟨hws, p, u, pl, sgs, -, -, -, -, -, -, -, hne, hs⟩ := C05.sign_accept_envelope_full h
  obtain ⟨hlen, hidx⟩ := C05.decSigList_ok sgs m.sigs hs
  constructor
  · intro hnil
    rw [hnil] at hlen
    exact hne (List.eq_nil_of_length_eq_zero hlen.symm)
  · intro s hs'
    obtain ⟨i, hi, rfl⟩ := List.getElem_of_mem hs'
    obtain ⟨_, _, _, -, -, -, -, -, -, -, hz⟩ := hidx i (hlen ▸ hi) hi
    exact hz

end C11

/-! ### C09 — re-encoding -/
namespace C09
open Reencode (Repl ReplList)

/-- content of a byte-string item (`[]` for anything else) -/
def sigContent : Wire → Bytes
  | .bstr _ c => c
  | _ => []

/-- what the encoder emits for a decoded signer entry whose wire form was the 3-array `x`: head
    `83`, both header items of `x` verbatim, the signature content under the shortest head -/
def reSig : Wire → Bytes
  | .arr _ [p, u, sg] => 0x83 :: (p.bytes ++ (u.bytes ++ encBstr (sigContent sg)))
  | _ => []

/-- the modelling side condition on a COSE_Sign value: every header map of the body and of every
    signer lies in the region whose encoding the model mirrors -/
def SignModelled (m : SignMsg) : Prop :=
  (GoVal.modelledPairs m.h.p = true ∧ GoVal.modelledPairs m.h.u = true) ∧
  ∀ s ∈ m.sigs, GoVal.modelledPairs s.h.p = true ∧ GoVal.modelledPairs s.h.u = true

/-- the shape of a decoded signer entry, with its signature content -/
theorem sigElem_shape {x : Wire} {s : SigV} (h : C05.SigElem x s) :
    ∃ p u hw c, x = .arr .imm [p, u, .bstr hw c] ∧ c ≠ [] ∧ s.sig = some c ∧
      decProtected p = .ok s.h.p ∧ decUnprot u = .ok s.h.u ∧ ensureIV s.h.p s.h.u = true ∧
      s.h.rawP = some p.bytes ∧ s.h.rawU = some u.bytes := by
  obtain ⟨p, u, sg, rfl, hp, hu, hiv, hrp, hru, hsg, hz⟩ := h
  obtain ⟨hw, c, rfl, hc, hs⟩ := Accept.wfsig_of_dec hsg hz
  exact ⟨p, u, hw, c, rfl, hc, hs, hp, hu, hiv, hrp, hru⟩

/-- all signers: each decoded entry is emitted as `reSig` of its wire form -/
theorem marshalSigs_of_decoded : ∀ (xs : List Wire) (l : List SigV), decSigList xs = .ok l →
    (∀ s ∈ l, GoVal.modelledPairs s.h.p = true ∧ GoVal.modelledPairs s.h.u = true) →
    marshalSigs l = .ok (xs.map reSig).flatten
  | [], l, h, _ => by
    rw [C05.decSigList_nil] at h
    cases h
    rfl
  | x :: xs, l, h, hm => by
    obtain ⟨s, r, hel, hr, rfl⟩ := C05.decSigList_cons_elem h
    obtain ⟨p, u, hw, c, rfl, hc, hs, hp, hu, hiv, hrp, hru⟩ := sigElem_shape hel
    have h1 := signature_marshal_of_decoded hrp hru hiv (hs ▸ blen_some_ne hc)
      (hm s (List.mem_cons_self ..))
    have h2 := marshalSigs_of_decoded xs r hr (fun t ht => hm t (List.mem_cons_of_mem _ ht))
    rw [hs] at h1
    simp [marshalSigs, h1, h2, reSig, sigContent]

/-- encoding a decoded COSE_Sign, in terms of the items the decoder saw -/
theorem sign_marshal_of_decoded {m : SignMsg} {p u : Wire} {sgs : List Wire}
    (hh : decHeaders p u = .ok m.h) (hne : sgs ≠ []) (hs : decSigList sgs = .ok m.sigs)
    (hm : SignModelled m) :
    Sign.marshal m = .ok (0xd8 :: 0x62 :: 0x84 :: (p.bytes ++ (u.bytes ++
      (optBytesEnc m.payload ++ (encHead 4 m.sigs.length ++ (sgs.map reSig).flatten))))) := by
  obtain ⟨-, -, hiv, hrp, hru⟩ := decHeaders_ok hh
  have h1 := hdrs_marshal_verbatim hrp hru hiv hm.1
  have h2 := marshalSigs_of_decoded sgs m.sigs hs hm.2
  have hlen := (C05.decSigList_ok sgs m.sigs hs).1
  have hemp : m.sigs.isEmpty = false := by
    cases hl : m.sigs with
    | nil =>
      rw [hl] at hlen
      exact absurd (List.eq_nil_of_length_eq_zero hlen.symm) hne
    | cons a r => rfl
  simp [Sign.marshal, hemp, h1, h2]

/-- decoding then encoding a COSE_Sign reproduces BOTH header buckets of the body (`p.bytes`,
    `u.bytes`) AND of every signer (inside `reSig`) byte for byte — they are the input's own
    sub-slices; tag, outer array head (`84`) and each signer's array head (`83`) are the ones
    the decoder required; the output differs from the input at most in the heads of the payload,
    of each signature byte string and of the signatures array (all re-emitted shortest) -/
theorem reencode_sign (b : Bytes) (m : SignMsg) (hd : Sign.unmarshal b = .ok m)
    (hm : (GoVal.modelledPairs m.h.p = true ∧ GoVal.modelledPairs m.h.u = true) ∧
      ∀ s ∈ m.sigs, GoVal.modelledPairs s.h.p = true ∧ GoVal.modelledPairs s.h.u = true) :
    ∃ (p u pl : Wire) (hws : HW) (sgs : List Wire),
      b = 0xd8 :: 0x62 :: (Wire.arr .imm [p, u, pl, .arr hws sgs]).bytes ∧
      Sign.marshal m = .ok (0xd8 :: 0x62 :: 0x84 :: (p.bytes ++ (u.bytes ++
        (optBytesEnc m.payload ++ (encHead 4 m.sigs.length ++ (sgs.map reSig).flatten))))) ∧
      (Wire.arr .imm [p, u, pl, .arr hws sgs]).wf = true ∧
      (Wire.arr .imm [p, u, pl, .arr hws sgs]).inLimits false 0 = true ∧
      m.h.rawP = some p.bytes ∧ m.h.rawU = some u.bytes ∧
      ((m.payload = none ∧ pl.bytes = [0xf6]) ∨
        ∃ (w : HW) (c : Bytes), m.payload = some c ∧ pl.bytes = headBytes 2 w c.length ++ c) ∧
      sgs ≠ [] ∧ m.sigs.length = sgs.length ∧
      ∀ i (h1 : i < sgs.length) (h2 : i < m.sigs.length),
        ∃ (pi ui : Wire) (wi : HW) (ci : Bytes),
          sgs[i] = .arr .imm [pi, ui, .bstr wi ci] ∧ ci ≠ [] ∧
          m.sigs[i].h.rawP = some pi.bytes ∧ m.sigs[i].h.rawU = some ui.bytes ∧
          m.sigs[i].sig = some ci ∧
          reSig sgs[i] = 0x83 :: (pi.bytes ++ (ui.bytes ++ encBstr ci)) := by
  obtain ⟨hws, p, u, pl, sgs, hb, -, hwf, -, hlim, hpl, hh, hne, hs⟩ :=
    C05.sign_accept_envelope_full hd
  obtain ⟨-, -, -, hrp, hru⟩ := decHeaders_ok hh
  obtain ⟨hlen, hidx⟩ := C05.decSigList_ok sgs m.sigs hs
  refine ⟨p, u, pl, hws, sgs, hb, sign_marshal_of_decoded hh hne hs hm, hwf, hlim, hrp, hru,
    item_bytes hpl, hne, hlen, ?_⟩
  intro i h1 h2
  obtain ⟨pi, ui, wi, ci, hx, hc, hsi, -, -, -, hrpi, hrui⟩ :=
    sigElem_shape (x := sgs[i]) (s := m.sigs[i]) (hidx i h1 h2)
  exact ⟨pi, ui, wi, ci, hx, hc, hrpi, hrui, hsi, by rw [hx]; rfl⟩

/-! #### the fixpoint -/

/-- the wire form the encoder gives a signer entry: immediate array head, both header items
    unchanged, the signature content under the shortest head -/
def shortSig : Wire → Wire
  | .arr _ [p, u, sg] =>
      .arr .imm [p, u, .bstr (HW.shortest (sigContent sg).length) (sigContent sg)]
  | x => x

theorem shortSig_bytes (w : HW) (p u sg : Wire) :
    (shortSig (.arr w [p, u, sg])).bytes = reSig (.arr w [p, u, sg]) := by
  have h83 : headBytes 4 .imm 3 = [0x83] := by decide
  simp [shortSig, reSig, Wire.bytes, Wire.bytesList, h83, encBstr, encHead]

/-- every element of an accepted signatures array is a signer entry -/
theorem decSigList_elems {xs : List Wire} {l : List SigV} (h : decSigList xs = .ok l) :
    ∀ x ∈ xs, ∃ s, C05.SigElem x s := by
  intro x hx
  obtain ⟨hlen, hidx⟩ := C05.decSigList_ok xs l h
  obtain ⟨i, hi, rfl⟩ := List.getElem_of_mem hx
  exact ⟨l[i]'(hlen ▸ hi), hidx i hi (hlen ▸ hi)⟩

/-- the re-encoded entry decodes to the same value -/
theorem sigElem_short {x : Wire} {s : SigV} (h : C05.SigElem x s) : C05.SigElem (shortSig x) s := by
  obtain ⟨p, u, hw, c, rfl, hc, hs, hp, hu, hiv, hrp, hru⟩ := sigElem_shape h
  exact ⟨p, u, _, rfl, hp, hu, hiv, hrp, hru, hs ▸ rfl, hs ▸ blen_some_ne hc⟩

theorem shortSig_repl {x : Wire} {s : SigV} (h : C05.SigElem x s) : Repl x (shortSig x) := by
  obtain ⟨p, u, hw, c, rfl, -⟩ := sigElem_shape h
  exact Repl.arr ⟨.refl p, .refl u, .shortItem (o := some c) rfl, trivial⟩ rfl

theorem shortSig_list_bytes : ∀ (xs : List Wire), (∀ x ∈ xs, ∃ s, C05.SigElem x s) →
    Wire.bytesList (xs.map shortSig) = (xs.map reSig).flatten
  | [], _ => rfl
  | x :: xs, hel => by
    obtain ⟨s, p, u, sg, rfl, -⟩ := hel x (List.mem_cons_self ..)
    simp only [List.map_cons, Wire.bytesList, List.flatten_cons, shortSig_bytes,
      shortSig_list_bytes xs (fun y hy => hel y (List.mem_cons_of_mem _ hy))]

/-- one step of `decSigList`, forwards -/
theorem decSigList_cons_of {x : Wire} {xs : List Wire} {s : SigV} {r : List SigV}
    (hel : C05.SigElem x s) (hr : decSigList xs = .ok r) :
    decSigList (x :: xs) = .ok (s :: r) := by
  obtain ⟨p, u, sg, rfl, hp, hu, hiv, hrp, hru, hsg, hz⟩ := hel
  unfold decSigList
  simp only [decSigFields_of hsg hz hp hu hiv, hr, sigOfVal_of_raw hrp hru]

/-- the re-encoded signatures array decodes to the same list of values -/
theorem decSigList_short : ∀ (xs : List Wire) (l : List SigV), decSigList xs = .ok l →
    decSigList (xs.map shortSig) = .ok l
  | [], l, h => h
  | x :: xs, l, h => by
    obtain ⟨s, r, hel, hr, rfl⟩ := C05.decSigList_cons_elem h
    exact decSigList_cons_of (sigElem_short hel) (decSigList_short xs r hr)

theorem sign_unmarshal_of {r : Bytes} {hw hws : HW} {p u pl : Wire} {xs : List Wire}
    {pay : Option Bytes} {sigs : List SigV} {h : Hdrs}
    (hpt : parseTop false (0x84 :: r) = some (.arr hw [p, u, pl, .arr hws xs]))
    (hpl : decByteString pl = .ok pay) (hne : xs ≠ []) (hs : decSigList xs = .ok sigs)
    (hh : decHeaders p u = .ok h) :
    Sign.unmarshal (0xd8 :: 0x62 :: 0x84 :: r) = .ok { h := h, payload := pay, sigs := sigs } := by
  simp [Sign.unmarshal, hpt, hpl, hne, hs, hh]

/-- the tree the encoder's output is the encoding of -/
def shortSignTree (p u : Wire) (pay : Option Bytes) (sgs : List Wire) : Wire :=
  .arr .imm [p, u, shortItem pay, .arr (HW.shortest sgs.length) (sgs.map shortSig)]

theorem shortSignTree_bytes (p u : Wire) (pay : Option Bytes) (sgs : List Wire)
    (hel : ∀ x ∈ sgs, ∃ s, C05.SigElem x s) :
    (shortSignTree p u pay sgs).bytes = 0x84 :: (p.bytes ++ (u.bytes ++
      (optBytesEnc pay ++ (encHead 4 sgs.length ++ (sgs.map reSig).flatten)))) := by
  have h84 : headBytes 4 .imm 4 = [0x84] := by decide
  simp [shortSignTree, Wire.bytes, Wire.bytesList, h84, shortItem_bytes, shortSig_list_bytes sgs hel,
    encHead]

theorem sign_repl {p u pl : Wire} {hws : HW} {sgs : List Wire} {pay : Option Bytes}
    (hpl : decByteString pl = .ok pay) (hel : ∀ x ∈ sgs, ∃ s, C05.SigElem x s) :
    Repl (.arr .imm [p, u, pl, .arr hws sgs]) (shortSignTree p u pay sgs) :=
  Repl.arr ⟨.refl p, .refl u, .shortItem hpl,
    .arr (.map fun x hx => (hel x hx).elim fun _ => shortSig_repl) (List.length_map ..), trivial⟩ rfl

/-- encoding a decoded COSE_Sign gives `shortSignTree` of the items the decoder saw -/
theorem sign_marshal_tree {m : SignMsg} {p u : Wire} {sgs : List Wire}
    (hh : decHeaders p u = .ok m.h) (hne : sgs ≠ []) (hs : decSigList sgs = .ok m.sigs)
    (hm : SignModelled m) :
    Sign.marshal m = .ok (0xd8 :: 0x62 :: (shortSignTree p u m.payload sgs).bytes) := by
  rw [sign_marshal_of_decoded hh hne hs hm, (C05.decSigList_ok sgs m.sigs hs).1,
    shortSignTree_bytes p u m.payload sgs (decSigList_elems hs)]

theorem marshalSigs_modelled : ∀ (l : List SigV) (b : Bytes), marshalSigs l = .ok b →
    ∀ s ∈ l, GoVal.modelledPairs s.h.p = true ∧ GoVal.modelledPairs s.h.u = true
  | [], _, _, _, hs => by cases hs
  | x :: r, b, h, s, hs => by
    unfold marshalSigs at h
    simp only [Out.bind_eq_ok] at h
    obtain ⟨a, hx, bb, hr, -⟩ := h
    rcases List.mem_cons.mp hs with rfl | hs'
    · exact signature_modelled_of_marshal_ok hx
    · exact marshalSigs_modelled r bb hr s hs'

/-- a successful encoding implies every header map is in the modelled region (otherwise the
    model answers `unmodelled`) -/
theorem sign_modelled_of_marshal_ok {m : SignMsg} {b1 : Bytes} (he : Sign.marshal m = .ok b1) :
    SignModelled m := by
  unfold Sign.marshal at he
  simp only [Out.bind_eq_ok, Out.guard_eq_ok] at he
  obtain ⟨-, x, hh, ss, hs, -⟩ := he
  exact ⟨hdrs_modelled_of_marshal_ok hh, marshalSigs_modelled m.sigs ss hs⟩

/-- encoding a decoded COSE_Sign always succeeds (in the modelled region), round-trips to
    the same value, and never lengthens the message -/
theorem reencode_sign_roundtrip (b : Bytes) (m : SignMsg) (hd : Sign.unmarshal b = .ok m)
    (hm : SignModelled m) :
    ∃ b1, Sign.marshal m = .ok b1 ∧ Sign.unmarshal b1 = .ok m ∧ b1.length ≤ b.length := by
  obtain ⟨hws, p, u, pl, sgs, hb, -, hwf, -, hlim, hpl, hh, hne, hs⟩ :=
    C05.sign_accept_envelope_full hd
  have hel := decSigList_elems hs
  have hr := sign_repl (p := p) (u := u) (hws := hws) hpl hel
  have hpt := parseTop_complete (hr.wf hwf) (hr.inLimits 0 hlim)
  rw [shortSignTree_bytes p u m.payload sgs hel] at hpt
  refine hb ▸ Reencode.roundtrip_of_repl (pre := [0xd8, 0x62]) hwf hr (sign_marshal_tree hh hne hs hm) ?_
  rw [shortSignTree_bytes p u m.payload sgs hel]
  exact sign_unmarshal_of hpt (shortItem_dec _) (mt List.map_eq_nil_iff.mp hne)
    (decSigList_short sgs m.sigs hs) hh

/-- decode/encode cycles of a COSE_Sign are a fixpoint after the first: the re-encoded bytes
    decode to the same value (body headers with their retained raw bytes, payload, and every
    signer's headers, raw bytes and signature), so all signatures still verify (`Sign.verify` is
    a function of the value), and that value encodes to the same bytes again.  No modelling
    hypothesis is needed: a successful encoding implies it. -/
theorem reencode_sign_fixpoint (b b1 : Bytes) (m : SignMsg) (hd : Sign.unmarshal b = .ok m)
    (he : Sign.marshal m = .ok b1) :
    ∃ m1, Sign.unmarshal b1 = .ok m1 ∧ m1 = m ∧ Sign.marshal m1 = .ok b1 :=
  Reencode.fixpoint_of_roundtrip
    (reencode_sign_roundtrip b m hd (sign_modelled_of_marshal_ok he)) he

/-- one decode/encode cycle of a COSE_Sign -/
def signCycle (b : Bytes) : Out Bytes := Sign.unmarshal b >>= Sign.marshal

/-- the COSE_Sign cycle is idempotent -/
theorem signCycle_idempotent (b b1 : Bytes) (h : signCycle b = .ok b1) : signCycle b1 = .ok b1 :=
  cycle_idempotent_of_roundtrip
    (fun hd he => reencode_sign_roundtrip _ _ hd (sign_modelled_of_marshal_ok he)) h

/-- a deterministically encoded COSE_Sign is reproduced identically: if the payload, the
    signatures array and every signature byte string of the input carry shortest heads, encoding
    the decoded message gives back the input.  Nothing is assumed about the header buckets of
    the body or of the signers — they are copied verbatim.  Well-formedness identifies the tree
    as *the* parse of the input (`Reencode.bytes_inj`). -/
theorem reencode_sign_det_identity (b : Bytes) (m : SignMsg) (hd : Sign.unmarshal b = .ok m)
    (hm : SignModelled m) (hw hws : HW) (p u pl : Wire) (sgs : List Wire)
    (hb : b = 0xd8 :: 0x62 :: (Wire.arr hw [p, u, pl, .arr hws sgs]).bytes)
    (hwf : (Wire.arr hw [p, u, pl, .arr hws sgs]).wf = true)
    (hspl : pl = .prim .imm 22 ∨ ∃ c, pl = .bstr (HW.shortest c.length) c)
    (hshw : hws = HW.shortest sgs.length)
    (hssg : ∀ x ∈ sgs, ∃ p u c, x = .arr .imm [p, u, .bstr (HW.shortest c.length) c]) :
    Sign.marshal m = .ok b := by
  obtain ⟨hws0, p0, u0, pl0, sgs0, hb0, -, hwf0, -, -, hpl, hh, hne, hs⟩ :=
    C05.sign_accept_envelope_full hd
  cases Reencode.tree_unique (pre := [0xd8, 0x62]) hb hb0 hwf hwf0
  have hmap : sgs.map shortSig = sgs := by
    refine (List.map_congr_left fun x hx => ?_).trans (List.map_id' sgs)
    obtain ⟨p, u, c, rfl⟩ := hssg x hx
    rfl
  rw [sign_marshal_tree hh hne hs hm, hb, shortSignTree, hmap, ← shortest_eq_shortItem hspl hpl,
    hshw]

end C09
