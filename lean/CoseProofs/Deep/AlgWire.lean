/-
  CoseProofs.Deep.AlgWire — C04 ("no signing or verification under an algorithm other than the
  protected alg") on the bytes: what is signed, what is received, what crosses the wire.
  `Props/C04.lean` has the gate on the in-memory map; `C01.sign1_wire_flat_alg` /
  `sign1_wire_nested_alg` carry it across the wire for COSE_Sign1.  Here:
  * signing (`signed_bytes_carry_alg`, `_tbs`, `signature_…`, `countersignature_…`): the content of
    the protected byte string that goes into ToBeSigned decodes (`decProtectedContent`) to a map
    naming the signer's algorithm.  Hypotheses: no external data; protected map in the nested data
    model with room for the inserted alg entry; no retained raw protected bytes (`hrp`).  `hrp`
    cannot be dropped: raw bytes are signed verbatim while the gate looks at the typed map only
    (`signed_bytes_raw_verbatim`), and `signed_bytes_carry_alg_needs_no_raw` is a message (raw says
    ES384, typed says ES256) that an ES256 signer signs.  For headers that come from the decoder raw
    and typed agree and the statement holds again: `resigned_bytes_carry_alg`.
  * verification (`verify_consults_wire_alg`, `verify_other_wire_alg_no_call`, `verify_ok_wire_alg`):
    for a decoded COSE_Sign1 the verifier is reached only if the algorithm encoded in the received
    protected bytes (`decoded_protected_bytes`) is the verifier's, or is absent and external data
    is non-empty; the one content it is handed is the Sig_structure over exactly that content.
  * across the wire (`signmsg_wire_alg`, `countersignature_wire_alg`, `_cases` the unconditional
    forms): every decoded COSE_Sign slot / a stand-alone countersignature names its signer's
    algorithm, under the hypotheses of `C01.signmsg_wire_nested` / `C01.countersignature_wire_nested`
    without their verifiers.
-/
import CoseSpec
import CoseModel.Messages
import CoseProofs.Lemmas.Steps
import CoseProofs.Props.C03
import CoseProofs.Props.C04
import CoseProofs.Deep.Chain
import CoseProofs.Deep.Reencode
import CoseProofs.Deep.Tamper
import CoseProofs.Deep.WireClosure
import CoseProofs.Deep.SignWireClosure
import CoseProofs.Deep.NestedBuckets
import CoseProofs.Deep.NestedClosures
open CoseModel CoseSpec RoundTrip

namespace C04
open WireClosure SignWireClosure NestedBuckets NestedClosures

/-- signing without external data: whatever protected map the signing gate hands on names the
    signer's algorithm (it was there and equal, or it was inserted) -/
theorem gate_noext_found {rawP : Option Bytes} {p p' : GoMap} {alg : Int}
    (hg : ensureSigningAlgorithm rawP p alg none = .ok p') : algorithmOf p' = .found alg := by
  rcases sign_gate_cases rawP p p' alg none hg with ⟨hf, rfl⟩ | ⟨-, he, -⟩ | ⟨hn, -, -, rfl⟩
  · exact hf
  · simp at he
  · exact C01.algorithmOf_set p alg hn

/-- a protected bucket encoded from the typed map (no retained raw bytes) whose `Algorithm()` is
    the integer `a`: the content of the emitted byte string — under ANY reading of the bytes as
    head + content — is accepted by `ProtectedHeader.UnmarshalCBOR` and names `a` -/
theorem bucket_bytes_alg {p : GoMap} {a : Int} (hf : NestedMap p) (hu : ∀ e ∈ p, UintOK e.2)
    (hl : p.length ≤ maxElems) (ha : algorithmOf p = .found a) {P content : Bytes}
    (he : encodeBucket encCfg true none p = some P) (hc : IsBstrEncoding P content) :
    ∃ pm, decProtectedContent content = .ok pm ∧ algorithmOf pm = .found a := by
  have hv := validate_of_encodeBucket he
  obtain ⟨hw, c', pm, hb, hhw, -, hd, -, -, halg⟩ :=
    C08.protected_bucket_roundtrip_nested p hf hu hv hl P he
  obtain ⟨w, hfit, hP⟩ := hc
  have hcc : c' = content := by
    rw [hb] at hP
    exact (bstr_split_inj hP (hhw ▸ imm_of_shortest _) (imm_of_fits hfit)).2
  subst hcc
  refine ⟨pm, hd, ?_⟩
  rw [halg, algSpec_eq_algorithmOf p (by rw [ha]; simp), ha]

/-- `bucket_bytes_alg` without `UintOK`, given that the content decodes at all -/
theorem bucket_bytes_alg_of_decoded {p : GoMap} {a : Int} (hf : NestedMap p)
    (hl : p.length ≤ maxElems) (ha : algorithmOf p = .found a) {P content : Bytes}
    (he : encodeBucket encCfg true none p = some P) (hc : IsBstrEncoding P content) {pm : GoMap}
    (hd : decProtectedContent content = .ok pm) : algorithmOf pm = .found a := by
  have hv := validate_of_encodeBucket he
  obtain ⟨w, hfit, hP⟩ := hc
  have hne : p ≠ [] := by
    intro h0
    subst h0
    simp [algorithmOf, lookupLabel, GoMap.lookup, lbl, normalizeLabel] at ha
  obtain ⟨-, -, -, halg⟩ :=
    C08.decoded_alg_nested p hne hf hv hl P content w (imm_of_fits hfit) he hP pm hd
  rw [halg, algSpec_eq_algorithmOf p (by rw [ha]; simp), ha]

/-- one header layer after the signing gate, no external data, no retained raw protected bytes:
    the protected bytes the layer marshals to carry the signer's algorithm -/
theorem layer_bytes_carry_alg {h : Hdrs} {p' : GoMap} {alg : Int} (hrp : h.rawP = none)
    (hg : ensureSigningAlgorithm h.rawP h.p alg none = .ok p')
    (hf : NestedMap h.p) (hu : ∀ e ∈ h.p, UintOK e.2) (hl : h.p.length < maxElems)
    (ha : int64Range alg) {P content : Bytes}
    (hP : marshalProtected { h with p := p' } = .ok P) (hc : IsBstrEncoding P content) :
    ∃ pm, decProtectedContent content = .ok pm ∧ algorithmOf pm = .found alg := by
  rw [hrp] at hg
  obtain ⟨hf', hu', hl'⟩ := sign_gate_nested (d := 1) hg hf hu ha
  obtain ⟨-, he⟩ := marshalProtected_ok_inv hP
  simp only [hrp] at he
  exact bucket_bytes_alg hf' hu' (by omega) (gate_noext_found hg) he hc

/-! ## the signed bytes carry the signer's algorithm -/

/-- what a successful `Sign1.sign` handed to the key: exactly one content, the `ToBeSigned` of the
    state it leaves behind -/
theorem sign1_ok_calls (m : Sign1Msg) (ext : Option Bytes) (s : Signer)
    (hok : (Sign1.sign m ext s).out = .ok ()) :
    ∃ tbs, (Sign1.sign m ext s).calls = [tbs] ∧
      Sign1.toBeSigned (Sign1.sign m ext s).state ext = .ok tbs := by
  rw [Sign1.sign_eq] at hok ⊢
  obtain ⟨_, t, _, -, ht, -, -, heq⟩ := signStep_ok_inv _ _ _ _ _ _ hok
  rw [heq]
  exact ⟨t, rfl, ht⟩

/-- COSE_Sign1: a message signed without external data carries, in the signed bytes, the
    algorithm it was signed with: after a successful `Sign` with no external data of a message built
    from typed header maps (no retained raw protected bytes), the protected byte string `P` that
    went into `ToBeSigned` — read as head + `content` in any way — has a content that
    `ProtectedHeader.UnmarshalCBOR` accepts and in which `Algorithm()` finds the signer's
    algorithm. -/
theorem signed_bytes_carry_alg (m : Sign1Msg) (s : Signer)
    (hrp : m.h.rawP = none) (hfp : NestedMap m.h.p) (hup : ∀ e ∈ m.h.p, UintOK e.2)
    (hlp : m.h.p.length < maxElems) (halg : int64Range s.alg)
    (hok : (Sign1.sign m none s).out = .ok ())
    (P content : Bytes) (hP : marshalProtected (Sign1.sign m none s).state.h = .ok P)
    (hc : IsBstrEncoding P content) :
    ∃ pm, decProtectedContent content = .ok pm ∧ algorithmOf pm = .found s.alg := by
  obtain ⟨p', tbs, sig, -, hgate, -, -, hst⟩ := C01.sign1_sign_ok_inv m none s hok
  rw [hst] at hP
  exact layer_bytes_carry_alg hrp hgate hfp hup hlp halg hP hc

/-- tied to the key invocation: the ONE content handed to the signer is the RFC 9052
    Sig_structure over a protected content that decodes and names the signer's algorithm -/
theorem signed_bytes_carry_alg_tbs (m : Sign1Msg) (s : Signer)
    (hrp : m.h.rawP = none) (hfp : NestedMap m.h.p) (hup : ∀ e ∈ m.h.p, UintOK e.2)
    (hlp : m.h.p.length < maxElems) (halg : int64Range s.alg)
    (hok : (Sign1.sign m none s).out = .ok ()) :
    ∃ P content pl pm, m.payload = some pl ∧
      marshalProtected (Sign1.sign m none s).state.h = .ok P ∧ IsBstrEncoding P content ∧
      (Sign1.sign m none s).calls = [detEnc (sigStructure1 content [] pl)] ∧
      decProtectedContent content = .ok pm ∧ algorithmOf pm = .found s.alg := by
  obtain ⟨tbs, hcalls, ht⟩ := sign1_ok_calls m none s hok
  obtain ⟨_, _, _, hpn, -, -, -, hst⟩ := C01.sign1_sign_ok_inv m none s hok
  have hpay : (Sign1.sign m none s).state.payload = m.payload := by rw [hst]
  obtain ⟨pl, hpl⟩ := Option.isSome_iff_exists.mp (Option.isNone_eq_false_iff.mp hpn)
  obtain ⟨P, content, hP, hc, -, rfl⟩ := C03.tbs1_rfc_of_ok ht (hpay.trans hpl)
  obtain ⟨pm, hd, ha⟩ := signed_bytes_carry_alg m s hrp hfp hup hlp halg hok P content hP hc
  exact ⟨P, content, pl, pm, hpl, hP, hc, hcalls, hd, ha⟩

/-- one signer slot of a COSE_Sign (`Signature.Sign`), same statement -/
theorem signature_signed_bytes_carry_alg (sg : SigV) (s : Signer) (bprot : Bytes)
    (payload : Option Bytes)
    (hrp : sg.h.rawP = none) (hfp : NestedMap sg.h.p) (hup : ∀ e ∈ sg.h.p, UintOK e.2)
    (hlp : sg.h.p.length < maxElems) (halg : int64Range s.alg)
    (hok : (Signature.sign sg s bprot payload none).out = .ok ())
    (P content : Bytes)
    (hP : marshalProtected (Signature.sign sg s bprot payload none).state.h = .ok P)
    (hc : IsBstrEncoding P content) :
    ∃ pm, decProtectedContent content = .ok pm ∧ algorithmOf pm = .found s.alg := by
  obtain ⟨p', tbs, sig, -, -, hgate, -, -, hst⟩ :=
    C01.signature_sign_ok_inv sg s bprot payload none hok
  rw [hst] at hP
  exact layer_bytes_carry_alg hrp hgate hfp hup hlp halg hP hc

/-- a countersignature (`Countersignature.Sign`), same statement -/
theorem countersignature_signed_bytes_carry_alg (cs : SigV) (s : Signer) (parent : Parent)
    (hrp : cs.h.rawP = none) (hfp : NestedMap cs.h.p) (hup : ∀ e ∈ cs.h.p, UintOK e.2)
    (hlp : cs.h.p.length < maxElems) (halg : int64Range s.alg)
    (hok : (Countersignature.sign cs s parent none).out = .ok ())
    (P content : Bytes)
    (hP : marshalProtected (Countersignature.sign cs s parent none).state.h = .ok P)
    (hc : IsBstrEncoding P content) :
    ∃ pm, decProtectedContent content = .ok pm ∧ algorithmOf pm = .found s.alg := by
  obtain ⟨p', tbs, sig, hgate, -, -, hst⟩ := C01.countersignature_sign_ok_inv cs s parent none hok
  rw [hst] at hP
  exact layer_bytes_carry_alg hrp hgate hfp hup hlp halg hP hc

/-! ### retained raw protected bytes -/

/-- raw protected bytes present (a decoded message, or one whose `RawProtected` the caller set):
    a successful `Sign` — with any external data — signs those bytes verbatim, leaves the typed
    map untouched (`raw_present_no_injection`), and what the gate checked is the typed map only:
    its alg is the signer's, or it has none and external data is supplied.  Nothing relates the raw
    bytes to the typed map (`signed_bytes_carry_alg_needs_no_raw`). -/
theorem signed_bytes_raw_verbatim (m : Sign1Msg) (ext : Option Bytes) (s : Signer) (raw : Bytes)
    (hr : m.h.rawP = some raw) (hne : raw ≠ [])
    (hok : (Sign1.sign m ext s).out = .ok ()) :
    marshalProtected (Sign1.sign m ext s).state.h = .ok raw ∧
      (Sign1.sign m ext s).state.h.p = m.h.p ∧ (Sign1.sign m ext s).state.h.rawP = some raw ∧
      (algorithmOf m.h.p = .found s.alg ∨
        (algorithmOf m.h.p = .notFound ∧ (ext.getD []).length > 0)) := by
  obtain ⟨p', tbs, sig, -, hgate, ht, -, hst⟩ := C01.sign1_sign_ok_inv m ext s hok
  rw [hr] at hgate
  have hpp := raw_present_no_injection raw _ _ _ _ hgate
  subst hpp
  obtain ⟨P, P', hP, -, -⟩ := C01.toBeSigned1_ok_inv ht
  obtain ⟨-, he⟩ := marshalProtected_ok_inv hP
  simp only [hr] at he
  have hPr : P = raw := by
    cases raw with
    | nil => exact absurd rfl hne
    | cons x xs => simpa [encodeBucket] using he.symm
  subst hPr
  rw [hst]
  refine ⟨hP, rfl, hr, ?_⟩
  rcases sign_gate_cases _ _ _ _ _ hgate with ⟨h, -⟩ | ⟨h, hx, -⟩ | ⟨-, -, hc, -⟩
  · exact .inl h
  · exact .inr ⟨h, hx⟩
  · cases hc

/-- what the decoder establishes about the protected bucket of an accepted COSE_Sign1: the
    retained raw bytes are a sub-slice of the input (right after the array head), they are ONE
    byte-string item whose content `ProtectedHeader.UnmarshalCBOR` decoded to the typed map
    `m.h.p`, and `MarshalProtected` re-emits them verbatim (so they are the protected bytes of
    every `ToBeSigned` computed for `m`) -/
theorem decoded_protected_bytes {tagged : Bool} {b : Bytes} {m : Sign1Msg}
    (hd : Sign1.unmarshal tagged b = .ok m) :
    ∃ raw content rest, b = C09.pre tagged ++ 0x84 :: (raw ++ rest) ∧ m.h.rawP = some raw ∧
      raw ≠ [] ∧ marshalProtected m.h = .ok raw ∧ IsBstrEncoding raw content ∧
      decProtectedContent content = .ok m.h.p := by
  obtain ⟨p, u, pl, sg, hb, -, hwf, -, -, -, -, hh⟩ := C09.sign1_envelope_full hd
  obtain ⟨hdp, -, -, hrp, -⟩ := C09.decHeaders_ok hh
  obtain ⟨hw, enc, rfl, -⟩ := C05.protected_is_bstr_of_map p _ hdp
  have hpwf : (Wire.bstr hw enc).wf = true := by
    simp only [Wire.wf, Wire.wfList, Bool.and_eq_true] at hwf
    simpa [Wire.wf] using hwf.2.1
  obtain ⟨x, xs, hx⟩ := C09.bytes_cons (Wire.bstr hw enc)
  refine ⟨(Wire.bstr hw enc).bytes, enc, Wire.bytesList [u, pl, sg], ?_, hrp, ?_,
    C09.marshalProtected_raw hrp (C01.decProtected_modelled hdp),
    Verifies.isBstrEncoding_of_wf hpwf, hdp⟩
  · rw [hb]
    simp [Wire.bytes, Wire.bytesList, headBytes]
  · rw [hx]; exact List.cons_ne_nil _ _

/-- re-signing a decoded message (decode, clear the signature, `Sign` again without external
    data): here raw and typed protected headers are consistent by construction, so the signed
    bytes — the received protected bytes, verbatim — carry the signer's algorithm. -/
theorem resigned_bytes_carry_alg (tagged : Bool) (b : Bytes) (m0 : Sign1Msg) (s : Signer)
    (hd : Sign1.unmarshal tagged b = .ok m0)
    (hok : (Sign1.sign { m0 with sig := none } none s).out = .ok ()) :
    ∃ raw content pm, m0.h.rawP = some raw ∧
      marshalProtected (Sign1.sign { m0 with sig := none } none s).state.h = .ok raw ∧
      IsBstrEncoding raw content ∧ decProtectedContent content = .ok pm ∧
      algorithmOf pm = .found s.alg := by
  obtain ⟨raw, content, -, -, hrp, hne, -, hc, hdc⟩ := decoded_protected_bytes hd
  obtain ⟨hP, -, -, hcase⟩ :=
    signed_bytes_raw_verbatim { m0 with sig := none } none s raw hrp hne hok
  refine ⟨raw, content, m0.h.p, hrp, hP, hc, hdc, ?_⟩
  rcases hcase with h | ⟨-, hx⟩
  · exact h
  · simp at hx

/-- a constructed message whose retained raw protected bytes say ES384 (`a1 01 38 22`, alg −35)
    while its typed protected map says ES256 (alg −7) -/
def exRawMismatch : Sign1Msg :=
  { h := { rawP := some [0x44, 0xa1, 0x01, 0x38, 0x22], p := [(lbl 1, .alg (-7))] },
    payload := some [1, 2, 3] }

theorem exRaw_dec : decProtectedContent [0xa1, 0x01, 0x38, 0x22] = .ok [(lbl 1, .alg (-35))] := by
  -- the parser does not reduce by evaluation; everything after it does
  have hp : parseTop true [0xa1, 0x01, 0x38, 0x22] = some (.map .imm [(.uint .imm 1, .nint .w1 34)]) :=
    parseTop_complete (w := .map .imm [(.uint .imm 1, .nint .w1 34)]) (by decide) (by decide)
  have hu : headerLabelsUntagged [0xa1, 0x01, 0x38, 0x22] = true := by decide
  unfold decProtectedContent
  simp only [hp, hu]
  rfl

/-- WHY `hrp : m.h.rawP = none` IN `signed_bytes_carry_alg`: go-cose does not re-check retained
    raw protected bytes against the typed map when signing.  For `exRawMismatch` the ES256 signer
    passes the gate (the typed map names −7), `Sign` succeeds with no external data, and the ONE
    content handed to the key is the Sig_structure over the raw content, which decodes and names
    ES384 (−35), not the signer's algorithm.  (Known limit of constructed messages with
    inconsistent raw / typed headers; a decoded message is consistent:
    `resigned_bytes_carry_alg`.) -/
theorem signed_bytes_carry_alg_needs_no_raw :
    (Sign1.sign exRawMismatch none C01.exS7).out = .ok () ∧
    algorithmOf exRawMismatch.h.p = .found C01.exS7.alg ∧
    marshalProtected (Sign1.sign exRawMismatch none C01.exS7).state.h
      = .ok [0x44, 0xa1, 0x01, 0x38, 0x22] ∧
    IsBstrEncoding [0x44, 0xa1, 0x01, 0x38, 0x22] [0xa1, 0x01, 0x38, 0x22] ∧
    (Sign1.sign exRawMismatch none C01.exS7).calls
      = [detEnc (sigStructure1 [0xa1, 0x01, 0x38, 0x22] [] [1, 2, 3])] ∧
    decProtectedContent [0xa1, 0x01, 0x38, 0x22] = .ok [(lbl 1, .alg (-35))] ∧
    algorithmOf [(lbl 1, .alg (-35))] = .found (-35) ∧ (-35 : Int) ≠ C01.exS7.alg := by
  have hc : IsBstrEncoding [0x44, 0xa1, 0x01, 0x38, 0x22] [0xa1, 0x01, 0x38, 0x22] :=
    ⟨.imm, by decide, rfl⟩
  have hg : ensureSigningAlgorithm exRawMismatch.h.rawP exRawMismatch.h.p (-7) none
      = .ok exRawMismatch.h.p := by rfl
  have hmp : marshalProtected exRawMismatch.h = .ok [0x44, 0xa1, 0x01, 0x38, 0x22] := by
    simp [marshalProtected, exRawMismatch, GoVal.modelledPairs, GoVal.modelled, lbl, encodeBucket]
  have ht := C02.tbs1_eq_rfc
    { h := { rawP := exRawMismatch.h.rawP, p := exRawMismatch.h.p, rawU := exRawMismatch.h.rawU,
             u := exRawMismatch.h.u }, payload := some [1, 2, 3] } none _ _ [1, 2, 3] hmp hc
    (by decide) rfl
  have hp : exRawMismatch.payload = some [1, 2, 3] := rfl
  have hs : exRawMismatch.sig = none := rfl
  have hr : (Sign1.sign exRawMismatch none C01.exS7).out = .ok () ∧
      (Sign1.sign exRawMismatch none C01.exS7).calls
        = [detEnc (sigStructure1 [0xa1, 0x01, 0x38, 0x22] [] [1, 2, 3])] := by
    simp [Sign1.sign, hp, hs, blen, hg, ht, C01.exS7]
  obtain ⟨hP, -, -, -⟩ :=
    signed_bytes_raw_verbatim exRawMismatch none C01.exS7 _ rfl (by simp) hr.1
  exact ⟨hr.1, by decide, hP, hc, hr.2, exRaw_dec, by decide, by decide⟩

/-! ## verification consults the algorithm encoded in the received protected bytes -/

/-- what `Sign1.verify` handed to the verifier, if anything: exactly one content, the `ToBeSigned`
    of the message -/
theorem verify1_calls (m : Sign1Msg) (ext : Option Bytes) (v : Verifier)
    (h : (Sign1.verify m ext v).2 ≠ []) :
    ∃ tbs, (Sign1.verify m ext v).2 = [tbs] ∧ Sign1.toBeSigned m ext = .ok tbs ∧
      m.payload.isSome = true := by
  rw [Sign1.verify_eq] at h ⊢
  obtain ⟨t, hg, ht, heq⟩ := callKey_called h
  rw [heq]
  exact ⟨t, rfl, ht, (Sign1.verifyGate_eq_ok.mp hg).1⟩

/-- the alg consulted for a decoded message is the one encoded in the protected bytes that are
    signed: for a decoded COSE_Sign1 (`Sign1.unmarshal tagged b = .ok m`), if `Verify` reaches the
    verifier at all, then the received protected byte string `raw` — a sub-slice of the input `b`,
    retained in `m.h.rawP` — has a content that `ProtectedHeader.UnmarshalCBOR` decodes to a map
    whose `Algorithm()` is the verifier's algorithm (or names none, and external data is
    non-empty); and the ONE content handed to the verifier is the RFC 9052 Sig_structure over
    exactly that content. -/
theorem verify_consults_wire_alg (tagged : Bool) (b : Bytes) (m : Sign1Msg) (ext : Option Bytes)
    (v : Verifier) (hd : Sign1.unmarshal tagged b = .ok m)
    (hcall : (Sign1.verify m ext v).2 ≠ []) :
    ∃ raw content rest pm pl, b = C09.pre tagged ++ 0x84 :: (raw ++ rest) ∧
      m.h.rawP = some raw ∧ IsBstrEncoding raw content ∧ decProtectedContent content = .ok pm ∧
      (algorithmOf pm = .found v.alg ∨
        (algorithmOf pm = .notFound ∧ (ext.getD []).length > 0)) ∧
      m.payload = some pl ∧
      (Sign1.verify m ext v).2 = [detEnc (sigStructure1 content (ext.getD []) pl)] := by
  obtain ⟨raw, content, rest, hb, hrp, -, hP, hc, hdc⟩ := decoded_protected_bytes hd
  have hgate := (verify_gate_iff _ _ _).mp (verify1_call_implies_gate m ext v hcall)
  obtain ⟨tbs, hcalls, ht, hsome⟩ := verify1_calls m ext v hcall
  obtain ⟨pl, hpl⟩ := Option.isSome_iff_exists.mp hsome
  obtain ⟨raw', c', hP', hc', -, rfl⟩ := C03.tbs1_rfc_of_ok ht hpl
  rw [hP] at hP'
  cases hP'
  have hcc := C03.isBstrEncoding_content_unique hc hc'
  subst hcc
  exact ⟨raw, content, rest, m.h.p, pl, hb, hrp, hc, hdc, hgate, hpl, hcalls⟩

/-- contrapositive: a decoded message whose received protected bytes name an integer algorithm
    other than the verifier's never reaches the verifier -/
theorem verify_other_wire_alg_no_call (tagged : Bool) (b : Bytes) (m : Sign1Msg)
    (ext : Option Bytes) (v : Verifier) (hd : Sign1.unmarshal tagged b = .ok m)
    (raw content : Bytes) (pm : GoMap) (c : Int) (hrp : m.h.rawP = some raw)
    (hc : IsBstrEncoding raw content) (hdc : decProtectedContent content = .ok pm)
    (ha : algorithmOf pm = .found c) (hne : c ≠ v.alg) :
    (Sign1.verify m ext v).2 = [] ∧ (Sign1.verify m ext v).1 ≠ .ok () := by
  obtain ⟨raw', content', -, -, hrp', -, -, hc', hdc'⟩ := decoded_protected_bytes hd
  rw [hrp] at hrp'
  cases hrp'
  have hcc := C03.isBstrEncoding_content_unique hc hc'
  subst hcc
  rw [hdc] at hdc'
  cases hdc'
  exact verify1_mismatch_no_call m ext v c ha hne

/-- accepted messages: `Verify` returning nil on a decoded message implies the same -/
theorem verify_ok_wire_alg (tagged : Bool) (b : Bytes) (m : Sign1Msg) (ext : Option Bytes)
    (v : Verifier) (hd : Sign1.unmarshal tagged b = .ok m)
    (hok : (Sign1.verify m ext v).1 = .ok ()) :
    ∃ raw content pm, m.h.rawP = some raw ∧ IsBstrEncoding raw content ∧
      decProtectedContent content = .ok pm ∧
      (algorithmOf pm = .found v.alg ∨
        (algorithmOf pm = .notFound ∧ (ext.getD []).length > 0)) := by
  obtain ⟨raw, content, -, -, hrp, -, -, hc, hdc⟩ := decoded_protected_bytes hd
  exact ⟨raw, content, m.h.p, hrp, hc, hdc,
    (verify_gate_iff _ _ _).mp ((C03.verify1_iff m ext v).mp hok).2.2.1⟩

/-! ## the signer's algorithm across the wire: COSE_Sign slots, countersignatures -/

/-- COSE_Sign across the wire (the situation of `C01.signmsg_wire_nested`; no
    verifiers are needed): after sign → marshal → unmarshal, `Algorithm()` on every signer slot of
    the decoded message is the algorithm of the signer at that position — except for a slot whose
    protected map named none while external data was supplied (then go-cose signs without
    inserting one and the decoded slot names none either). -/
theorem signmsg_wire_alg_cases (m : SignMsg) (ext : Option Bytes) (ss : List Signer) (b : Bytes)
    (hrp : m.h.rawP = none) (hru : m.h.rawU = none)
    (hfp : NestedMap m.h.p) (hfu : NestedMapAt 2 m.h.u)
    (hup : ∀ e ∈ m.h.p, UintOK e.2) (huu : ∀ e ∈ m.h.u, UintOK e.2)
    (hlp : m.h.p.length ≤ maxElems) (hlu : m.h.u.length ≤ maxElems)
    (hslots : ∀ sg ∈ m.sigs, NestedSlot sg) (hn : m.sigs.length ≤ maxElems)
    (hpl : blen m.payload < 18446744073709551616) (hgs : ∀ s ∈ ss, GoSigner s)
    (hok : (Sign.sign m ext ss).out = .ok ())
    (henc : Sign.marshal (Sign.sign m ext ss).state = .ok b) :
    ∃ m2, Sign.unmarshal b = .ok m2 ∧ m2.sigs.length = m.sigs.length ∧
      ∀ i (h1 : i < m2.sigs.length) (h2 : i < m.sigs.length) (h3 : i < ss.length),
        algorithmOf m2.sigs[i].h.p = .found ss[i].alg ∨
          (algorithmOf m.sigs[i].h.p = .notFound ∧ (ext.getD []).length > 0 ∧
            algorithmOf m2.sigs[i].h.p = .notFound) := by
  obtain ⟨m2, hdec, -, -, hl2, -, -, -, -, hall⟩ :=
    signmsg_wire _ _ m ext ss b hrp hru (protWireN hfp hup hlp)
      (unprotWireN hfu huu hlu (by decide)) (fun sg hsg => (hslots sg hsg).wire) hn hpl hgs
      hok henc
  exact ⟨m2, hdec, hl2, hall⟩

/-- C04 across the wire for COSE_Sign: slot by slot, when no external data is supplied or the
    slot's protected map already names an algorithm (the `hnx` of `C01.sign1_wire_nested_alg`, per
    slot; needed: `C01.sign1_wire_flat_alg_needs_hnx`), the decoded slot names the algorithm of the
    signer at that position. -/
theorem signmsg_wire_alg (m : SignMsg) (ext : Option Bytes) (ss : List Signer) (b : Bytes)
    (hrp : m.h.rawP = none) (hru : m.h.rawU = none)
    (hfp : NestedMap m.h.p) (hfu : NestedMapAt 2 m.h.u)
    (hup : ∀ e ∈ m.h.p, UintOK e.2) (huu : ∀ e ∈ m.h.u, UintOK e.2)
    (hlp : m.h.p.length ≤ maxElems) (hlu : m.h.u.length ≤ maxElems)
    (hslots : ∀ sg ∈ m.sigs, NestedSlot sg) (hn : m.sigs.length ≤ maxElems)
    (hpl : blen m.payload < 18446744073709551616) (hgs : ∀ s ∈ ss, GoSigner s)
    (hok : (Sign.sign m ext ss).out = .ok ())
    (henc : Sign.marshal (Sign.sign m ext ss).state = .ok b) :
    ∃ m2, Sign.unmarshal b = .ok m2 ∧ m2.sigs.length = m.sigs.length ∧
      ∀ i (h1 : i < m2.sigs.length) (h2 : i < m.sigs.length) (h3 : i < ss.length),
        ((ext.getD []).length = 0 ∨ algorithmOf m.sigs[i].h.p ≠ .notFound) →
        algorithmOf m2.sigs[i].h.p = .found ss[i].alg := by
  obtain ⟨m2, hdec, hl2, hall⟩ := signmsg_wire_alg_cases m ext ss b hrp hru hfp hfu hup huu hlp hlu
    hslots hn hpl hgs hok henc
  exact ⟨m2, hdec, hl2, fun i h1 h2 h3 hnx => AlgCases.found (hall i h1 h2 h3) hnx⟩

/-- a stand-alone countersignature across the wire (the situation of
    `C01.countersignature_wire_nested`; no verifier is needed) -/
theorem countersignature_wire_alg_cases (cs : SigV) (s : Signer) (parent : Parent)
    (ext : Option Bytes) (b : Bytes)
    (hrp : cs.h.rawP = none) (hru : cs.h.rawU = none)
    (hfp : NestedMap cs.h.p) (hfu : NestedMapAt 2 cs.h.u)
    (hup : ∀ e ∈ cs.h.p, UintOK e.2) (huu : ∀ e ∈ cs.h.u, UintOK e.2)
    (hlp : cs.h.p.length < maxElems) (hlu : cs.h.u.length ≤ maxElems)
    (halg : int64Range s.alg)
    (hsl : ∀ t sg, s.sign t = .ok sg → sg.length < 18446744073709551616)
    (hok : (Countersignature.sign cs s parent ext).out = .ok ())
    (henc : Signature.marshal (Countersignature.sign cs s parent ext).state = .ok b) :
    ∃ c2, Signature.unmarshal b = .ok c2 ∧
      (algorithmOf c2.h.p = .found s.alg ∨
        (algorithmOf cs.h.p = .notFound ∧ (ext.getD []).length > 0 ∧
          algorithmOf c2.h.p = .notFound)) := by
  obtain ⟨c2, hdec, -, -, -, -, hcase⟩ :=
    countersignature_wire _ cs s parent ext b hrp hru (gatedN hfp hup hlp)
      (unprotWireN hfu huu hlu (by decide)) halg hsl hok henc
  exact ⟨c2, hdec, hcase⟩

/-- C04 across the wire for a countersignature -/
theorem countersignature_wire_alg (cs : SigV) (s : Signer) (parent : Parent)
    (ext : Option Bytes) (b : Bytes)
    (hrp : cs.h.rawP = none) (hru : cs.h.rawU = none)
    (hfp : NestedMap cs.h.p) (hfu : NestedMapAt 2 cs.h.u)
    (hup : ∀ e ∈ cs.h.p, UintOK e.2) (huu : ∀ e ∈ cs.h.u, UintOK e.2)
    (hlp : cs.h.p.length < maxElems) (hlu : cs.h.u.length ≤ maxElems)
    (halg : int64Range s.alg)
    (hsl : ∀ t sg, s.sign t = .ok sg → sg.length < 18446744073709551616)
    (hnx : (ext.getD []).length = 0 ∨ algorithmOf cs.h.p ≠ .notFound)
    (hok : (Countersignature.sign cs s parent ext).out = .ok ())
    (henc : Signature.marshal (Countersignature.sign cs s parent ext).state = .ok b) :
    ∃ c2, Signature.unmarshal b = .ok c2 ∧ algorithmOf c2.h.p = .found s.alg := by
  obtain ⟨c2, hdec, hcase⟩ := countersignature_wire_alg_cases cs s parent ext b hrp hru hfp hfu
    hup huu hlp hlu halg hsl hok henc
  exact ⟨c2, hdec, AlgCases.found hcase hnx⟩

/-! ## non-vacuity -/

section Examples
open C01

/-- non-vacuity of `signed_bytes_carry_alg_tbs`: `exNest` (protected bucket with `crit` and an
    array-of-map parameter) signed by the ES256 signer `exS7` with no external data — the one
    content handed to the key is the Sig_structure over the content of `exNestP`, which decodes
    and names ES256 -/
example : ∃ content pm, IsBstrEncoding exNestP content ∧
    (Sign1.sign exNest none exS7).calls = [detEnc (sigStructure1 content [] [1, 2, 3])] ∧
    decProtectedContent content = .ok pm ∧ algorithmOf pm = .found (-7) := by
  obtain ⟨h1, -, h3, -⟩ := exNest_model
  obtain ⟨P, content, pl, pm, hpl, hP, hc, hcalls, hd, ha⟩ :=
    signed_bytes_carry_alg_tbs exNest exS7 rfl h1 h3 (by simp [exNest, maxElems])
      (by simp [exS7, int64Range]) exNest_sign.1
  rw [exNest_sign.2] at hP
  have hPe : P = exNestP := Out.ok.inj (hP.symm.trans exNest_mpP)
  have hple : pl = [1, 2, 3] := (Option.some.inj hpl).symm
  subst hPe hple
  exact ⟨content, pm, hc, hcalls, hd, ha⟩

/-- non-vacuity of `signmsg_wire_alg`: the two-signer COSE_Sign `exMsgNest`, signed by
    `[exS7, exS7]`, encoded and decoded — both decoded slots name ES256 -/
example : ∃ b m2, Sign.marshal (Sign.sign exMsgNest none [exS7, exS7]).state = .ok b ∧
    Sign.unmarshal b = .ok m2 ∧ m2.sigs.length = 2 ∧
    ∀ i (h : i < m2.sigs.length), algorithmOf m2.sigs[i].h.p = .found (-7) := by
  obtain ⟨b, hb⟩ := exMsgNest_marshal
  obtain ⟨h1, h2, h3, h4⟩ := exNest_model
  obtain ⟨m2, hdec, hl2, hall⟩ :=
    signmsg_wire_alg exMsgNest none [exS7, exS7] b
      rfl rfl h1 h2 h3 h4 (by simp [exMsgNest, exNest, maxElems])
      (by simp [exMsgNest, exNest, maxElems])
      (by
        intro sg hsg
        simp only [exMsgNest, List.mem_cons, List.not_mem_nil, or_false] at hsg
        rcases hsg with rfl | rfl
        · exact nestedSlot_of_flat exHd_flatSlot
        · exact exHdA_slot)
      (by simp [exMsgNest, maxElems]) (by simp [exMsgNest, blen])
      (by
        intro s hs
        simp only [List.mem_cons, List.not_mem_nil, or_false, or_self] at hs
        subst hs
        exact exS7_go)
      exMsgNest_sign.1 hb
  have hlen : exMsgNest.sigs.length = 2 := rfl
  refine ⟨b, m2, hb, hdec, by omega, ?_⟩
  intro i hi
  have h3 : i < [exS7, exS7].length := by simp only [List.length_cons, List.length_nil]; omega
  have := hall i hi (by omega) h3 (.inl rfl)
  have hi2 : i = 0 ∨ i = 1 := by omega
  rcases hi2 with rfl | rfl <;> simpa [exS7] using this

/-- non-vacuity of `countersignature_wire_alg`: a countersignature with headers `exNest.h` on
    a signed COSE_Sign1 -/
example : ∃ b c2,
    Signature.marshal (Countersignature.sign { h := exNest.h } exS7 (.sign1 exPar) none).state
      = .ok b ∧ Signature.unmarshal b = .ok c2 ∧ algorithmOf c2.h.p = .found (-7) := by
  have hiv : ensureIV exNest.h.p exNest.h.u = true := by decide
  have hbm : exNest.h.marshal = .ok (exNestP, exNestU) := by
    simp [Hdrs.marshal, hiv, exNest_mpP, exNest_mpU, bind, Out.bind]
  have hb : Signature.marshal
      (Countersignature.sign { h := exNest.h } exS7 (.sign1 exPar) none).state
      = .ok (0x83 :: (exNestP ++ (exNestU ++ encBstr [7]))) := by
    rw [exCsN_sign.2]
    simp [Signature.marshal, hbm, blen, bind, Out.bind]
  obtain ⟨h1, h2, h3, h4⟩ := exNest_model
  obtain ⟨c2, hdec, ha⟩ :=
    countersignature_wire_alg { h := exNest.h } exS7 (.sign1 exPar) none _ rfl rfl
      h1 h2 h3 h4 (by simp [exNest, maxElems]) (by simp [exNest, maxElems])
      exS7_go.1 exS7_go.2 (.inl rfl) exCsN_sign.1 hb
  exact ⟨_, c2, hb, hdec, ha⟩

/-- non-vacuity of `verify_ok_wire_alg`: the encoding of the signed `exNest` is decoded and
    verified by the ES256 verifier `exV7`; the received protected bytes name ES256 -/
example : ∃ m2 raw content pm,
    Sign1.unmarshal true (0xd2 :: 0x84 :: (exNestP ++ (exNestU ++ [0x43, 1, 2, 3, 0x41, 7])))
      = .ok m2 ∧ m2.h.rawP = some raw ∧ IsBstrEncoding raw content ∧
    decProtectedContent content = .ok pm ∧ algorithmOf pm = .found (-7) := by
  obtain ⟨h1, h2, h3, h4⟩ := exNest_model
  obtain ⟨m2, hdec, hver, -⟩ :=
    sign1_wire_nested true exNest none exS7 exV7 _ exSV7 rfl rfl h1 h2 h3 h4
      (by simp [exNest, maxElems]) (by simp [exNest, maxElems]) (by simp [exNest, blen])
      (by simp [exS7, int64Range]) (by intro t sg h; cases h; simp) exNest_sign.1 exNest_marshal
  obtain ⟨raw, content, pm, hrp, hc, hd, ha⟩ := verify_ok_wire_alg true _ m2 none exV7 hdec hver
  refine ⟨m2, raw, content, pm, hdec, hrp, hc, hd, ?_⟩
  rcases ha with h | ⟨-, hx⟩
  · exact h
  · simp at hx

end Examples

end C04
