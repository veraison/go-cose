/-
  CoseProofs.Deep.NestedRoundTrip — the value-level encode → parse → decode round trip of the
  model's CBOR layer, lifted from scalars (`Deep/RoundTrip.lean`) to nested values: arrays and maps
  of any shape inside a header value (crit = array of labels, CWT claims = map, key_ops = array,
  arrays of maps of arrays ...).  The bucket level is in `Deep/NestedBuckets.lean`.

  The data model  (`RoundTrip.RTVal d v`: "`v`, met at nesting depth `d`, makes the round trip")
    * scalars: exactly `FlatVal` (integers of any Go integer kind / `Algorithm` / `Curve` in the
      int64 range, valid UTF-8 text, byte strings, booleans, nil).  `UintOK` is not needed at the
      value level (it only matters for header validation), so every `FlatVal` is covered.
    * `.arr xs`: every element `RTVal (d+1)`, `xs.length ≤ maxElems`, `d + 1 ≤ maxNested`.
    * `.map kvs`: every key `RTKey` (a flat value other than a byte string: integer, text, bool,
      nil), every value `RTVal (d+1)`, keys pairwise `KeyDistinct` = distinct after encoding
      (`keyDistinct_iff_bytes`: the encoded key bytes differ; equivalently the keys the decoder
      reads back are not `==`), `kvs.length ≤ maxElems`, `d + 1 ≤ maxNested`.
    The depth / size clauses are the parser's (`Wire.inLimits`, `maxNested` = 32, `maxElems` =
    131072), counted the way the parser counts them.
    Excluded (the predicate is `False` on them): floats, simple values, `[]byte(nil)`,
    countersignature structs / lists, opaque values; tags and bignums do not exist in `GoVal`.
    Byte-string map keys are excluded (`[]byte` is not a Go map key; the model's decoder marks
    them `unmodelled`).

  Normal form  `normValN`: `normVal` on scalars, element-wise on arrays, on maps entry-wise
  (`normEntryN`: key `normVal`, value `normValN`) and sorted bytewise by encoded key
  (`sortEntries`, the function `Deep/RoundTrip.lean` uses, so flat and nested statements compose).

  Hypotheses that remain, and why:
    * `Pairwise KeyDistinct` inside `RTVal`: needed — `value_roundtrip_nested_needs_distinct`:
      `[{int64(1): nil, int(1): nil}]` is encoded (`81 a2 01 f6 01 f6`), parsed, and refused by
      the decoder.  Nothing in the library checks keys of nested maps on the way out
      (`validateHeaderParameters` only looks at the top-level labels).
    * the depth clause: needed and tight — `value_roundtrip_nested_needs_depth`: 32 nested arrays
      make the round trip, 33 are encoded but the parser refuses the bytes.  (The size clause
      `≤ maxElems` is the same limit of the same parser; no concrete 131073-element witness is
      evaluated here.)
    * `Plain w` in the closure theorems (wire side): a
      float value or a simple value other than false/true/null/undefined decodes fine but is
      outside `RTVal`.  Tags and half/single floats need no hypothesis: `decodeAny` is
      `unmodelled` on them, so `decodeAny w = .ok v` already excludes them.
    * `SortedN v` for `normValN v = v` on decoded values: needed — `decoded_normal_needs_sorted`:
      the decoder keeps wire order and accepts non-canonical key order (`a2 02 00 01 00`), so a
      decoded map is its own normal form only if the sender sorted its keys; `TypedN v` (every
      integer at every depth is `int64`) holds unconditionally.  Values decoded from what the
      library's own encoder emitted are always normal (`C08.encoded_decodes_to_normal`).
-/
import CoseProofs.Lemmas.Decode
import CoseProofs.Deep.RoundTrip
open CoseModel

namespace RoundTrip

/-! ### no duplicate keys, at any depth -/

/-- Go `==` says the keys of the two entries differ -/
def KeyNe (a b : GoVal × GoVal) : Prop := a.1.keyEq b.1 = false

mutual
/-- no map anywhere inside the value (any depth, also inside keys and countersignature header
    buckets) has two entries whose keys are `==` -/
def NoDupKeys : GoVal → Prop
  | .arr xs => NoDupKeysList xs
  | .map kvs => kvs.Pairwise KeyNe ∧ NoDupKeysPairs kvs
  | .csig _ p _ u _ =>
      (p.Pairwise KeyNe ∧ NoDupKeysPairs p) ∧ (u.Pairwise KeyNe ∧ NoDupKeysPairs u)
  | .csigs cs => NoDupKeysList cs
  | _ => True
def NoDupKeysList : List GoVal → Prop
  | [] => True
  | x :: xs => NoDupKeys x ∧ NoDupKeysList xs
def NoDupKeysPairs : List (GoVal × GoVal) → Prop
  | [] => True
  | (k, v) :: r => NoDupKeys k ∧ NoDupKeys v ∧ NoDupKeysPairs r
end

theorem noDupKeysPairs_iff (l : GoMap) :
    NoDupKeysPairs l ↔ ∀ e ∈ l, NoDupKeys e.1 ∧ NoDupKeys e.2 := by
  induction l with
  | nil => simp [NoDupKeysPairs]
  | cons e r ih =>
    obtain ⟨k, v⟩ := e
    simp only [NoDupKeysPairs, ih, List.forall_mem_cons, and_assoc]

theorem noDupKeysList_iff (l : List GoVal) : NoDupKeysList l ↔ ∀ x ∈ l, NoDupKeys x := by
  induction l with
  | nil => simp [NoDupKeysList]
  | cons e r ih => simp only [NoDupKeysList, ih, List.forall_mem_cons]

/-! ### induction principles for the two nested inductives -/

def isNode : GoVal → Bool
  | .arr _ => true
  | .map _ => true
  | _ => false

mutual
theorem goVal_ind {P : GoVal → Prop} (harr : ∀ xs, (∀ x ∈ xs, P x) → P (.arr xs))
    (hmap : ∀ kvs : GoMap, (∀ e ∈ kvs, P e.2) → P (.map kvs))
    (hleaf : ∀ v, isNode v = false → P v) : ∀ v, P v
  | .arr xs => harr xs (goValList_ind harr hmap hleaf xs)
  | .map kvs => hmap kvs (goValPairs_ind harr hmap hleaf kvs)
  | .nil => hleaf _ rfl
  | .int _ _ => hleaf _ rfl
  | .alg _ => hleaf _ rfl
  | .crv _ => hleaf _ rfl
  | .str _ => hleaf _ rfl
  | .bytes _ => hleaf _ rfl
  | .bytesNil => hleaf _ rfl
  | .bool _ => hleaf _ rfl
  | .simple _ => hleaf _ rfl
  | .float _ => hleaf _ rfl
  | .csig .. => hleaf _ rfl
  | .csigNil => hleaf _ rfl
  | .csigs _ => hleaf _ rfl
  | .csigsNil => hleaf _ rfl
  | .opaque => hleaf _ rfl
theorem goValList_ind {P : GoVal → Prop} (harr : ∀ xs, (∀ x ∈ xs, P x) → P (.arr xs))
    (hmap : ∀ kvs : GoMap, (∀ e ∈ kvs, P e.2) → P (.map kvs))
    (hleaf : ∀ v, isNode v = false → P v) : ∀ (xs : List GoVal), ∀ x ∈ xs, P x
  | [] => fun _ h => nomatch h
  | y :: ys => List.forall_mem_cons.mpr
      ⟨goVal_ind harr hmap hleaf y, goValList_ind harr hmap hleaf ys⟩
theorem goValPairs_ind {P : GoVal → Prop} (harr : ∀ xs, (∀ x ∈ xs, P x) → P (.arr xs))
    (hmap : ∀ kvs : GoMap, (∀ e ∈ kvs, P e.2) → P (.map kvs))
    (hleaf : ∀ v, isNode v = false → P v) : ∀ (kvs : List (GoVal × GoVal)), ∀ e ∈ kvs, P e.2
  | [] => fun _ h => nomatch h
  | (_, v) :: r => List.forall_mem_cons.mpr
      ⟨goVal_ind harr hmap hleaf v, goValPairs_ind harr hmap hleaf r⟩
end

mutual
theorem wire_ind {P : Wire → Prop} (harr : ∀ hw xs, (∀ x ∈ xs, P x) → P (.arr hw xs))
    (hmap : ∀ hw (kvs : List (Wire × Wire)), (∀ e ∈ kvs, P e.1 ∧ P e.2) → P (.map hw kvs))
    (hleaf : ∀ w, (∀ hw xs, w ≠ .arr hw xs) → (∀ hw kvs, w ≠ .map hw kvs) → P w) : ∀ w, P w
  | .arr hw xs => harr hw xs (wireList_ind harr hmap hleaf xs)
  | .map hw kvs => hmap hw kvs (wirePairs_ind harr hmap hleaf kvs)
  | .uint .. => hleaf _ (fun _ _ h => by cases h) (fun _ _ h => by cases h)
  | .nint .. => hleaf _ (fun _ _ h => by cases h) (fun _ _ h => by cases h)
  | .bstr .. => hleaf _ (fun _ _ h => by cases h) (fun _ _ h => by cases h)
  | .tstr .. => hleaf _ (fun _ _ h => by cases h) (fun _ _ h => by cases h)
  | .tag .. => hleaf _ (fun _ _ h => by cases h) (fun _ _ h => by cases h)
  | .prim .. => hleaf _ (fun _ _ h => by cases h) (fun _ _ h => by cases h)
theorem wireList_ind {P : Wire → Prop} (harr : ∀ hw xs, (∀ x ∈ xs, P x) → P (.arr hw xs))
    (hmap : ∀ hw (kvs : List (Wire × Wire)), (∀ e ∈ kvs, P e.1 ∧ P e.2) → P (.map hw kvs))
    (hleaf : ∀ w, (∀ hw xs, w ≠ .arr hw xs) → (∀ hw kvs, w ≠ .map hw kvs) → P w) :
    ∀ (xs : List Wire), ∀ x ∈ xs, P x
  | [] => fun _ h => nomatch h
  | y :: ys => List.forall_mem_cons.mpr
      ⟨wire_ind harr hmap hleaf y, wireList_ind harr hmap hleaf ys⟩
theorem wirePairs_ind {P : Wire → Prop} (harr : ∀ hw xs, (∀ x ∈ xs, P x) → P (.arr hw xs))
    (hmap : ∀ hw (kvs : List (Wire × Wire)), (∀ e ∈ kvs, P e.1 ∧ P e.2) → P (.map hw kvs))
    (hleaf : ∀ w, (∀ hw xs, w ≠ .arr hw xs) → (∀ hw kvs, w ≠ .map hw kvs) → P w) :
    ∀ (kvs : List (Wire × Wire)), ∀ e ∈ kvs, P e.1 ∧ P e.2
  | [] => fun _ h => nomatch h
  | (k, v) :: r => List.forall_mem_cons.mpr
      ⟨⟨wire_ind harr hmap hleaf k, wire_ind harr hmap hleaf v⟩, wirePairs_ind harr hmap hleaf r⟩
end

/-! ### the nested data model -/

mutual
/-- `RTVal d v`: `v`, met at nesting depth `d`, is inside the region the round trip is proved
    for — a flat scalar, an array of such values, or a map with `RTKey` keys that are pairwise
    distinct after encoding and such values; array / map sizes within `maxElems`, nesting within
    `maxNested` (the decoder's limits, `Wire.inLimits`). -/
def RTVal : Nat → GoVal → Prop
  | d, .arr xs => d + 1 ≤ maxNested ∧ xs.length ≤ maxElems ∧ RTList (d + 1) xs
  | d, .map kvs =>
      d + 1 ≤ maxNested ∧ kvs.length ≤ maxElems ∧ kvs.Pairwise KeyDistinct ∧ RTPairs (d + 1) kvs
  | _, v => FlatVal v
def RTList : Nat → List GoVal → Prop
  | _, [] => True
  | d, x :: xs => RTVal d x ∧ RTList d xs
def RTPairs : Nat → List (GoVal × GoVal) → Prop
  | _, [] => True
  | d, (k, v) :: r => RTKey k ∧ RTVal d v ∧ RTPairs d r
end

theorem rtList_iff (d : Nat) (l : List GoVal) : RTList d l ↔ ∀ x ∈ l, RTVal d x := by
  induction l with
  | nil => simp [RTList]
  | cons e r ih => simp only [RTList, ih, List.forall_mem_cons]

theorem rtPairs_iff (d : Nat) (l : GoMap) :
    RTPairs d l ↔ ∀ e ∈ l, RTKey e.1 ∧ RTVal d e.2 := by
  induction l with
  | nil => simp [RTPairs]
  | cons e r ih =>
    obtain ⟨k, v⟩ := e
    simp only [RTPairs, ih, List.forall_mem_cons, and_assoc]

theorem rtVal_leaf {v : GoVal} (d : Nat) (h : isNode v = false) : RTVal d v ↔ FlatVal v := by
  cases v <;> simp only [isNode, reduceCtorEq] at h <;> simp only [RTVal]

theorem RTVal.of_flat {v : GoVal} (d : Nat) (h : FlatVal v) : RTVal d v := by
  cases v <;> simp only [FlatVal] at h <;> simp only [RTVal, FlatVal] <;> exact h

/-! ### the wire item and the normal form of a nested value -/

/-- wire pairs sorted bytewise by encoded key -/
def sortWire (l : List (Wire × Wire)) : List (Wire × Wire) :=
  l.mergeSort (fun a b => bytesLe a.1.bytes b.1.bytes)

mutual
/-- the item the encoder emits: shortest heads, map entries sorted bytewise by encoded key -/
def wireN : GoVal → Wire
  | .arr xs => .arr (HW.shortest xs.length) (wireListN xs)
  | .map kvs => .map (HW.shortest kvs.length) (sortWire (wirePairsN kvs))
  | v => valWire v
def wireListN : List GoVal → List Wire
  | [] => []
  | x :: xs => wireN x :: wireListN xs
def wirePairsN : List (GoVal × GoVal) → List (Wire × Wire)
  | [] => []
  | (k, v) :: r => (valWire k, wireN v) :: wirePairsN r
end

mutual
/-- what the generic decoder returns for the encoding: scalars as `normVal` types them, arrays
    element-wise, maps entry-wise and in wire order, i.e. sorted bytewise by encoded key -/
def normValN : GoVal → GoVal
  | .arr xs => .arr (normListN xs)
  | .map kvs => .map (sortEntries (normPairsN kvs))
  | v => normVal v
def normListN : List GoVal → List GoVal
  | [] => []
  | x :: xs => normValN x :: normListN xs
def normPairsN : List (GoVal × GoVal) → List (GoVal × GoVal)
  | [] => []
  | (k, v) :: r => (normVal k, normValN v) :: normPairsN r
end

def entryWireN (e : GoVal × GoVal) : Wire × Wire := (valWire e.1, wireN e.2)
def normEntryN (e : GoVal × GoVal) : GoVal × GoVal := (normVal e.1, normValN e.2)

theorem wireListN_eq (xs : List GoVal) : wireListN xs = xs.map wireN := by
  induction xs with
  | nil => rfl
  | cons x r ih => simp only [wireListN, ih, List.map_cons]

theorem wirePairsN_eq (g : GoMap) : wirePairsN g = g.map entryWireN := by
  induction g with
  | nil => rfl
  | cons e r ih => obtain ⟨k, v⟩ := e; simp only [wirePairsN, ih, List.map_cons, entryWireN]

theorem normListN_eq (xs : List GoVal) : normListN xs = xs.map normValN := by
  induction xs with
  | nil => rfl
  | cons x r ih => simp only [normListN, ih, List.map_cons]

theorem normPairsN_eq (g : GoMap) : normPairsN g = g.map normEntryN := by
  induction g with
  | nil => rfl
  | cons e r ih => obtain ⟨k, v⟩ := e; simp only [normPairsN, ih, List.map_cons, normEntryN]

theorem wireN_leaf {v : GoVal} (h : isNode v = false) : wireN v = valWire v := by
  cases v <;> simp only [isNode, reduceCtorEq] at h <;> simp only [wireN]

theorem normValN_leaf {v : GoVal} (h : isNode v = false) : normValN v = normVal v := by
  cases v <;> simp only [isNode, reduceCtorEq] at h <;> simp only [normValN]

theorem valWire_of_normVal (k : GoVal) : valWire (normVal k) = valWire k := by
  cases k <;> rfl

theorem sortWire_map (g : GoMap) :
    sortWire (g.map entryWireN) = (sortEntries g).map entryWireN :=
  mergeSort_map_sortEntries (β := Wire × Wire) (fun a b => bytesLe a.1.bytes b.1.bytes) entryWireN
    (fun _ _ => rfl) g

theorem sortEntries_mapN (g : GoMap) :
    sortEntries (g.map normEntryN) = (sortEntries g).map normEntryN :=
  mergeSort_map_sortEntries _ normEntryN
    (fun a b => by simp only [normEntryN, valWire_of_normVal]) g

theorem wireN_arr (xs : List GoVal) :
    wireN (.arr xs) = .arr (HW.shortest xs.length) (xs.map wireN) := by
  simp only [wireN, wireListN_eq]

theorem wireN_map (g : GoMap) :
    wireN (.map g) = .map (HW.shortest g.length) ((sortEntries g).map entryWireN) := by
  simp only [wireN, wirePairsN_eq, sortWire_map]

theorem normValN_arr (xs : List GoVal) : normValN (.arr xs) = .arr (xs.map normValN) := by
  simp only [normValN, normListN_eq]

theorem normValN_map (g : GoMap) :
    normValN (.map g) = .map ((sortEntries g).map normEntryN) := by
  simp only [normValN, normPairsN_eq, sortEntries_mapN]

/-! ### scalar-only wire items, nested -/

mutual
/-- no float, no simple value other than false / true / null / undefined, no tag, at any depth -/
def Plain : Wire → Bool
  | .uint .. => true
  | .nint .. => true
  | .bstr .. => true
  | .tstr .. => true
  | .prim .imm n => decide (20 ≤ n)
  | .prim _ _ => false
  | .tag .. => false
  | .arr _ xs => PlainList xs
  | .map _ kvs => PlainPairs kvs
def PlainList : List Wire → Bool
  | [] => true
  | x :: xs => Plain x && PlainList xs
def PlainPairs : List (Wire × Wire) → Bool
  | [] => true
  | (k, v) :: r => Plain k && Plain v && PlainPairs r
end

theorem plainList_iff (ws : List Wire) : PlainList ws = true ↔ ∀ w ∈ ws, Plain w = true := by
  induction ws with
  | nil => simp [PlainList]
  | cons w r ih => simp only [PlainList, Bool.and_eq_true, ih, List.forall_mem_cons]

theorem plainPairs_iff (ps : List (Wire × Wire)) :
    PlainPairs ps = true ↔ ∀ p ∈ ps, Plain p.1 = true ∧ Plain p.2 = true := by
  induction ps with
  | nil => simp [PlainPairs]
  | cons p r ih =>
    obtain ⟨k, v⟩ := p
    simp only [PlainPairs, Bool.and_eq_true, ih, List.forall_mem_cons]

theorem intWire_plain (n : Int) : Plain (intWire n) = true := by
  unfold intWire
  split <;> rfl

theorem valWire_plain (v : GoVal) : Plain (valWire v) = true := by
  cases v with
  | int _ n => exact intWire_plain n
  | alg n => exact intWire_plain n
  | crv n => exact intWire_plain n
  | bool b => cases b <;> rfl
  | _ => rfl

/-! ### encoder → decoder -/

/-- what the round trip establishes for one value met at depth `d` -/
structure VOK (cfg : EncCfg) (d : Nat) (v : GoVal) : Prop extends ItemOK wireN cfg d v where
  plain : Plain (wireN v) = true
  dec : decodeAny (wireN v) = .ok (normValN v)

/-- `ItemOK` speaks of `wv` at `v` only -/
theorem ItemOK.of_eq {wv wv' : GoVal → Wire} {cfg : EncCfg} {d : Nat} {v : GoVal}
    (h : wv v = wv' v) (i : ItemOK wv' cfg d v) : ItemOK wv cfg d v :=
  ⟨h ▸ i.enc, h ▸ i.wf, fun t => h ▸ i.lim t, h ▸ i.noTag⟩

/-- a value whose item is an array of the items of `xs` met one level down, and which the
    encoder treats as the list `xs`: `.arr xs` and `.csigs xs` -/
theorem ItemOK.of_arr (wv : GoVal → Wire) {cfg : EncCfg} {d : Nat} {v : GoVal} {xs : List GoVal}
    (hw : wv v = .arr (HW.shortest xs.length) (xs.map wv))
    (henc : ∀ b, encodeList cfg xs = some b → encodeAny cfg v = some (encHead 4 xs.length ++ b))
    (hent : ∀ x ∈ xs, ItemOK wv cfg (d + 1) x) (hlen : xs.length ≤ maxElems)
    (hd : d + 1 ≤ maxNested) : ItemOK wv cfg d v := by
  obtain ⟨hwf, hlim, hnt⟩ := arrWire_ok wv (fun x hx => (hent x hx).wf)
    (fun x hx => (hent x hx).lim) (fun x hx => (hent x hx).noTag) hlen hd
  have hl := encodeList_map cfg id wv xs (fun x hx => (hent x hx).enc)
  rw [List.map_id] at hl
  refine ⟨?_, hw ▸ hwf, hw ▸ hlim, hw ▸ hnt⟩
  simp only [henc _ hl, hw, Wire.bytes, List.length_map, encHead]

theorem vok_leaf (cfg : EncCfg) (d : Nat) {v : GoVal} (hn : isNode v = false) (hv : FlatVal v) :
    VOK cfg d v := by
  have hw := wireN_leaf hn
  exact ⟨.of_eq hw (.of_flat cfg d hv), hw ▸ valWire_plain v,
    hw ▸ normValN_leaf hn ▸ valWire_decode hv⟩

theorem decodeList_of : ∀ xs : List GoVal,
    (∀ x ∈ xs, decodeAny (wireN x) = .ok (normValN x)) →
    decodeList (xs.map wireN) = .ok (xs.map normValN)
  | [], _ => by simp only [List.map_nil, decodeList]
  | x :: xs, h => by
    have h1 := h x (List.mem_cons_self ..)
    have h2 := decodeList_of xs (fun y hy => h y (List.mem_cons_of_mem _ hy))
    simp only [List.map_cons, decodeList, h1, h2]

theorem vok_arr (cfg : EncCfg) (d : Nat) (xs : List GoVal) (hd : d + 1 ≤ maxNested)
    (hlen : xs.length ≤ maxElems) (ih : ∀ x ∈ xs, VOK cfg (d + 1) x) : VOK cfg d (.arr xs) := by
  have hw := wireN_arr xs
  refine ⟨.of_arr wireN hw (fun b hb => by simp only [encodeAny, hb])
    (fun x hx => (ih x hx).toItemOK) hlen hd, ?_, ?_⟩
  · simp only [hw, Plain]
    rw [plainList_iff]
    intro w hw
    obtain ⟨x, hx, rfl⟩ := List.mem_map.mp hw
    exact (ih x hx).plain
  · simp only [hw, normValN_arr, decodeAny, decodeList_of xs (fun x hx => (ih x hx).dec)]

theorem vok_map (cfg : EncCfg) (d : Nat) (g : GoMap) (hd : d + 1 ≤ maxNested)
    (hlen : g.length ≤ maxElems) (hdist : g.Pairwise KeyDistinct)
    (ih : ∀ e ∈ g, RTKey e.1 ∧ VOK cfg (d + 1) e.2) : VOK cfg d (.map g) := by
  have hk : ∀ e ∈ g, FlatVal e.1 := fun e he => (ih e he).1.flatVal
  obtain ⟨-, hwf, hlim, hnt⟩ :=
    mapWireBy_ok wireN cfg hk (fun e he => (ih e he).2.toItemOK) hlen hd
  have hdec : decodePairs ((sortEntries g).map entryWireN) []
      = .ok ((sortEntries g).map normEntryN) :=
    decodePairs_sortedBy wireN normValN
      (fun e he => ⟨(ih e he).1, (ih e he).2.dec⟩) hdist
  have hw := wireN_map g
  refine ⟨⟨hw ▸ encodeAny_map_by wireN cfg (fun e he => ⟨hk e he, (ih e he).2.enc⟩), hw ▸ hwf,
    hw ▸ hlim, hw ▸ hnt⟩, ?_, ?_⟩
  · simp only [hw, Plain]
    rw [plainPairs_iff]
    intro p hp
    obtain ⟨e, he, rfl⟩ := List.mem_map.mp hp
    exact ⟨valWire_plain _, (ih e (sortEntries_mem.mp he)).2.plain⟩
  · simp only [hw, normValN_map, decodeAny, hdec]

/-- every value of the nested data model is encoded as the item `wireN v`, which is well formed,
    within the parser's limits at depth `d`, free of tags / floats / simple values, and decoded
    back to the normal form `normValN v` -/
theorem vok_of_rtVal (cfg : EncCfg) : ∀ (v : GoVal) (d : Nat), RTVal d v → VOK cfg d v := by
  intro v
  induction v using goVal_ind with
  | harr xs ih =>
    intro d h
    simp only [RTVal, rtList_iff] at h
    exact vok_arr cfg d xs h.1 h.2.1 (fun x hx => ih x hx (d + 1) (h.2.2 x hx))
  | hmap kvs ih =>
    intro d h
    simp only [RTVal, rtPairs_iff] at h
    exact vok_map cfg d kvs h.1 h.2.1 h.2.2.1
      (fun e he => ⟨(h.2.2.2 e he).1, ih e he (d + 1) (h.2.2.2 e he).2⟩)
  | hleaf v hn =>
    intro d h
    exact vok_leaf cfg d hn ((rtVal_leaf d hn).mp h)

/-! ### decoder side: what `decodeAny` returns, entry by entry -/

/-- `Forall₂` (`Deep/Headers.lean`) as a function by recursion on both lists: in a proof that
    recurses on the two lists a hypothesis about `x :: xs` and `y :: ys` is a conjunction, and one
    about lists of different length is `False` -/
def Pointwise {α β : Type} (R : α → β → Prop) : List α → List β → Prop
  | [], [] => True
  | a :: as, b :: bs => R a b ∧ Pointwise R as bs
  | _, _ => False

theorem Pointwise.length_eq {α β : Type} {R : α → β → Prop} : ∀ {l : List α} {l' : List β},
    Pointwise R l l' → l.length = l'.length
  | [], [], _ => rfl
  | _ :: as, _ :: bs, h => by simp [Pointwise.length_eq (l := as) (l' := bs) h.2]
  | [], _ :: _, h => h.elim
  | _ :: _, [], h => h.elim

theorem Pointwise.mem_right {α β : Type} {R : α → β → Prop} : ∀ {l : List α} {l' : List β},
    Pointwise R l l' → ∀ b ∈ l', ∃ a ∈ l, R a b
  | [], [], _, b, hb => by cases hb
  | a :: as, b' :: bs, h, b, hb => by
    rcases List.mem_cons.mp hb with rfl | hb
    · exact ⟨a, List.mem_cons_self .., h.1⟩
    · obtain ⟨a', ha', hr⟩ := Pointwise.mem_right (l := as) (l' := bs) h.2 b hb
      exact ⟨a', List.mem_cons_of_mem _ ha', hr⟩
  | [], _ :: _, h, _, _ => h.elim
  | _ :: _, [], h, _, _ => h.elim

/-- the entry relation of the generic map decoder: key and value decoded, the decoded key is
    hashable and neither a byte string nor a float -/
def DecKV (kv : Wire × Wire) (e : GoVal × GoVal) : Prop :=
  decodeAny kv.1 = .ok e.1 ∧ decodeAny kv.2 = .ok e.2 ∧ keyHashable e.1 = true ∧
    (∀ b, e.1 ≠ .bytes b)

theorem decodeList_rel : ∀ (xs : List Wire) (l : List GoVal), decodeList xs = .ok l →
    Pointwise (fun x y => decodeAny x = .ok y) xs l
  | [], l, h => by unfold decodeList at h; cases h; trivial
  | x :: xs, l, h => by
    rw [decodeList_cons, Out.comb_eq_ok] at h
    obtain ⟨a, r, hx, hxs, h⟩ := h
    cases h
    exact ⟨hx, decodeList_rel xs r hxs⟩

/-- what an accepting run of the generic map decoder says: the entries are decoded one by one
    (`DecKV`) and appended to the accumulator, and keys stay pairwise different (the decoder's
    duplicate check is `keyEq` on the converted keys) -/
theorem decodePairs_inv : ∀ (kvs : List (Wire × Wire)) (acc out : GoMap),
    decodePairs kvs acc = .ok out →
    ∃ t, out = acc.reverse ++ t ∧ Pointwise DecKV kvs t ∧
      (acc.reverse.Pairwise KeyNe → out.Pairwise KeyNe)
  | [], acc, out, h => by
    unfold decodePairs at h; cases h
    exact ⟨[], by simp, trivial, fun hp => hp⟩
  | (k, v) :: r, acc, out, h => by
    unfold decodePairs at h
    cases hk : decodeAny k with
    | ok key =>
      simp only [hk] at h
      split at h
      · cases h
      · cases h
      · rename_i hnb hnf
        split at h
        · cases h
        · rename_i hh
          cases hv : decodeAny v with
          | ok value =>
            simp only [hv] at h
            split at h
            · cases h
            · rename_i hany
              obtain ⟨t, ht, hr, hpw⟩ := decodePairs_inv r _ out h
              refine ⟨(key, value) :: t, ?_, ⟨⟨hk, hv, by simpa using hh, ?_⟩, hr⟩, ?_⟩
              · rw [ht]; simp
              · intro b hb; exact hnb b hb
              · intro hp
                apply hpw
                rw [List.reverse_cons, List.pairwise_append]
                refine ⟨hp, List.pairwise_singleton _ _, ?_⟩
                intro a ha b hb
                simp only [List.mem_singleton] at hb
                subst hb
                simp only [List.any_eq_true, not_exists, not_and, Bool.not_eq_true] at hany
                exact hany a (List.mem_reverse.mp ha)
          | err e => simp [hv] at h
          | panic => simp [hv] at h
          | unmodelled => simp [hv] at h
    | err e => simp [hk] at h
    | panic => simp [hk] at h
    | unmodelled => simp [hk] at h

theorem decodeAny_arr_ok {hw : HW} {xs : List Wire} {v : GoVal}
    (h : decodeAny (.arr hw xs) = .ok v) : ∃ l, decodeList xs = .ok l ∧ v = .arr l := by
  unfold decodeAny at h
  cases hl : decodeList xs <;> simp [hl] at h
  exact ⟨_, rfl, h.symm⟩

theorem decodeAny_map_ok {hw : HW} {kvs : List (Wire × Wire)} {v : GoVal}
    (h : decodeAny (.map hw kvs) = .ok v) : ∃ l, decodePairs kvs [] = .ok l ∧ v = .map l := by
  unfold decodeAny at h
  cases hl : decodePairs kvs [] <;> simp [hl] at h
  exact ⟨_, rfl, h.symm⟩

/-- the values the generic decoder returns for an item other than an array or a map -/
def DecodedLeaf : GoVal → Prop
  | .int k _ => k = .i64
  | .bytes _ => True
  | .str _ => True
  | .simple _ => True
  | .bool _ => True
  | .nil => True
  | .float _ => True
  | _ => False

theorem decodeAny_leaf {w : Wire} {v : GoVal} (ha : ∀ hw xs, w ≠ .arr hw xs)
    (hm : ∀ hw kvs, w ≠ .map hw kvs) (h : decodeAny w = .ok v) : DecodedLeaf v := by
  obtain ⟨_, _, _, _, rfl⟩ | ⟨_, _, _, _, rfl⟩ | ⟨_, _, _, rfl⟩ | ⟨_, _, _, _, rfl⟩ |
    ⟨_, _, _, rfl | rfl | rfl⟩ | ⟨_, _, _, _, rfl | rfl⟩ | ⟨hw, xs, _, rfl, _⟩ |
    ⟨hw, kvs, _, rfl, _⟩ := decodeAny_ok h
  · rfl         -- uint
  · rfl         -- nint
  · trivial     -- bstr
  · trivial     -- tstr
  · trivial     -- false
  · trivial     -- true
  · trivial     -- null
  · trivial     -- a simple value
  · trivial     -- a float
  · exact absurd rfl (ha hw xs)
  · exact absurd rfl (hm hw kvs)

/-- such a value is a leaf, is typed as `normVal` types it, and holds no map -/
theorem DecodedLeaf.facts {v : GoVal} (h : DecodedLeaf v) :
    isNode v = false ∧ normVal v = v ∧ NoDupKeys v := by
  cases v <;> simp only [DecodedLeaf] at h
  case int k n => subst h; exact ⟨rfl, rfl, trivial⟩
  all_goals exact ⟨rfl, rfl, trivial⟩

/-! ### C05: duplicate map keys are rejected at every depth -/

theorem decodeAny_noDup : ∀ (w : Wire) (v : GoVal), decodeAny w = .ok v → NoDupKeys v := by
  intro w
  induction w using wire_ind with
  | harr hw xs ih =>
    intro v h
    obtain ⟨l, hl, rfl⟩ := decodeAny_arr_ok h
    simp only [NoDupKeys, noDupKeysList_iff]
    intro y hy
    obtain ⟨x, hx, hxy⟩ := (decodeList_rel xs l hl).mem_right y hy
    exact ih x hx y hxy
  | hmap hw kvs ih =>
    intro v h
    obtain ⟨l, hl, rfl⟩ := decodeAny_map_ok h
    obtain ⟨t, ht, hrel, hpw⟩ := decodePairs_inv kvs [] l hl
    simp only [List.reverse_nil, List.nil_append] at ht
    subst ht
    simp only [NoDupKeys, noDupKeysPairs_iff]
    refine ⟨hpw List.Pairwise.nil, ?_⟩
    intro e he
    obtain ⟨p, hpm, hk, hv, -, -⟩ := hrel.mem_right e he
    exact ⟨(ih p hpm).1 e.1 hk, (ih p hpm).2 e.2 hv⟩
  | hleaf w ha hm =>
    intro v h
    exact (decodeAny_leaf ha hm h).facts.2.2

theorem decodeList_noDup : ∀ (xs : List Wire) (l : List GoVal), decodeList xs = .ok l →
    NoDupKeysList l := by
  intro xs l h
  rw [noDupKeysList_iff]
  intro y hy
  obtain ⟨x, -, hxy⟩ := (decodeList_rel xs l h).mem_right y hy
  exact decodeAny_noDup x y hxy

/-! ### closure: what the decoder returns for a plain item is in the data model -/

/-- every generically decoded value is typed as `normVal` types it (at the top) -/
theorem normVal_of_decoded {w : Wire} {v : GoVal} (h : decodeAny w = .ok v) : normVal v = v := by
  cases w with
  | arr hw xs => obtain ⟨l, -, rfl⟩ := decodeAny_arr_ok h; rfl
  | map hw kvs => obtain ⟨l, -, rfl⟩ := decodeAny_map_ok h; rfl
  | _ => exact (decodeAny_leaf (fun _ _ hc => by cases hc) (fun _ _ hc => by cases hc) h).facts.2.1

/-- a leaf item decodes to a leaf value -/
theorem decoded_leaf {w : Wire} {v : GoVal} (ha : ∀ hw xs, w ≠ .arr hw xs)
    (hm : ∀ hw kvs, w ≠ .map hw kvs) (h : decodeAny w = .ok v) : isNode v = false :=
  (decodeAny_leaf ha hm h).facts.1

/-- a well-formed plain leaf item decodes to a flat value -/
theorem flatVal_of_plain_leaf {w : Wire} {v : GoVal} (ha : ∀ hw xs, w ≠ .arr hw xs)
    (hm : ∀ hw kvs, w ≠ .map hw kvs) (h : decodeAny w = .ok v) (hwf : w.wf = true)
    (hp : Plain w = true) : FlatVal v := by
  obtain ⟨_, n, rfl, hn, rfl⟩ | ⟨_, n, rfl, hn, rfl⟩ | ⟨_, _, rfl, rfl⟩ | ⟨_, _, rfl, hu, rfl⟩ |
    ⟨_, rfl, _, rfl | rfl | rfl⟩ | ⟨hw, _, rfl, hlt, _⟩ | ⟨hw, xs, _, rfl, _⟩ |
    ⟨hw, kvs, _, rfl, _⟩ := decodeAny_ok h
  · -- uint
    unfold maxInt64 at hn
    simp only [FlatVal, int64Range]
    omega
  · -- nint
    unfold maxInt64 at hn
    simp only [FlatVal, int64Range]
    omega
  · exact HW.fits_lt hwf          -- bstr
  · exact ⟨hu, HW.fits_lt hwf⟩    -- tstr
  · trivial                             -- false
  · trivial                             -- true
  · trivial                             -- null
  · -- a simple value below 20 or a float: not plain
    cases hw
    · simp only [Plain, decide_eq_true_eq] at hp
      exact absurd (hlt rfl) (by omega)
    all_goals cases hp
  · exact absurd rfl (ha hw xs)
  · exact absurd rfl (hm hw kvs)

theorem rtKey_of_rtVal {d : Nat} {k : GoVal} (h : RTVal d k) (hh : keyHashable k = true)
    (hb : ∀ b, k ≠ .bytes b) : RTKey k := by
  cases k <;> simp only [RTVal, FlatVal] at h <;> simp only [RTKey]
  case bytes b => exact absurd rfl (hb b)
  case arr => cases hh
  case map => cases hh
  all_goals exact h

/-- closure: whatever the generic decoder returns for a well-formed, in-limits, plain item is in
    the nested data model, at the depth the item was met -/
theorem rtVal_of_decoded : ∀ (w : Wire) (v : GoVal) (t : Bool) (d : Nat), decodeAny w = .ok v →
    w.wf = true → w.inLimits t d = true → Plain w = true → RTVal d v := by
  intro w
  induction w using wire_ind with
  | harr hw xs ih =>
    intro v t d h hwf hlim hp
    obtain ⟨l, hl, rfl⟩ := decodeAny_arr_ok h
    have hrel := decodeList_rel xs l hl
    simp only [Wire.wf, Bool.and_eq_true, wfList_iff] at hwf
    simp only [Wire.inLimits, Bool.and_eq_true, decide_eq_true_eq, inLimitsList_iff] at hlim
    simp only [Plain, plainList_iff] at hp
    simp only [RTVal, rtList_iff, ← hrel.length_eq]
    refine ⟨hlim.1.1, hlim.1.2, ?_⟩
    intro y hy
    obtain ⟨x, hx, hxy⟩ := hrel.mem_right y hy
    exact ih x hx y t (d + 1) hxy (hwf.2 x hx) (hlim.2 x hx) (hp x hx)
  | hmap hw kvs ih =>
    intro v t d h hwf hlim hp
    obtain ⟨l, hl, rfl⟩ := decodeAny_map_ok h
    obtain ⟨l', hl', hrel, hpw⟩ := decodePairs_inv kvs [] l hl
    simp only [List.reverse_nil, List.nil_append] at hl'
    subst hl'
    have hnd := hpw List.Pairwise.nil
    simp only [Wire.wf, Bool.and_eq_true, wfPairs_iff] at hwf
    simp only [Wire.inLimits, Bool.and_eq_true, decide_eq_true_eq, inLimitsPairs_iff] at hlim
    simp only [Plain, plainPairs_iff] at hp
    simp only [RTVal, rtPairs_iff, ← hrel.length_eq]
    refine ⟨hlim.1.1, hlim.1.2, ?_, ?_⟩
    · refine hnd.imp_of_mem ?_
      intro a b ha hb hab
      obtain ⟨p, _, hpa⟩ := hrel.mem_right a ha
      obtain ⟨q, _, hqb⟩ := hrel.mem_right b hb
      unfold KeyDistinct
      rw [normVal_of_decoded hpa.1, normVal_of_decoded hqb.1]
      exact hab
    · intro e he
      obtain ⟨p, hpm, hk, hv, hh, hnb⟩ := hrel.mem_right e he
      have h1 := (ih p hpm).1 e.1 t (d + 1) hk (hwf.2 p hpm).1 (hlim.2 p hpm).1 (hp p hpm).1
      have h2 := (ih p hpm).2 e.2 t (d + 1) hv (hwf.2 p hpm).2 (hlim.2 p hpm).2 (hp p hpm).2
      exact ⟨rtKey_of_rtVal h1 hh hnb, h2⟩
  | hleaf w ha hm =>
    intro v t d h hwf _ hp
    exact RTVal.of_flat d (flatVal_of_plain_leaf ha hm h hwf hp)

/-! ### normal forms -/

mutual
/-- every scalar inside the value (map keys included) is typed as the generic decoder types it:
    integers are `int64` (`normVal x = x`) -/
def TypedN : GoVal → Prop
  | .arr xs => TypedListN xs
  | .map kvs => TypedPairsN kvs
  | v => normVal v = v
def TypedListN : List GoVal → Prop
  | [] => True
  | x :: xs => TypedN x ∧ TypedListN xs
def TypedPairsN : List (GoVal × GoVal) → Prop
  | [] => True
  | (k, v) :: r => normVal k = k ∧ TypedN v ∧ TypedPairsN r
end

/-- the encoder's order on entries: bytewise on the encoded key -/
def EntryLe (a b : GoVal × GoVal) : Prop := bytesLe (valWire a.1).bytes (valWire b.1).bytes = true

mutual
/-- the entries of every map inside the value are in the encoder's order -/
def SortedN : GoVal → Prop
  | .arr xs => SortedListN xs
  | .map kvs => kvs.Pairwise EntryLe ∧ SortedPairsN kvs
  | _ => True
def SortedListN : List GoVal → Prop
  | [] => True
  | x :: xs => SortedN x ∧ SortedListN xs
def SortedPairsN : List (GoVal × GoVal) → Prop
  | [] => True
  | (_, v) :: r => SortedN v ∧ SortedPairsN r
end

theorem typedListN_iff (l : List GoVal) : TypedListN l ↔ ∀ x ∈ l, TypedN x := by
  induction l with
  | nil => simp [TypedListN]
  | cons e r ih => simp only [TypedListN, ih, List.forall_mem_cons]

theorem typedPairsN_iff (l : GoMap) :
    TypedPairsN l ↔ ∀ e ∈ l, normVal e.1 = e.1 ∧ TypedN e.2 := by
  induction l with
  | nil => simp [TypedPairsN]
  | cons e r ih =>
    obtain ⟨k, v⟩ := e
    simp only [TypedPairsN, ih, List.forall_mem_cons, and_assoc]

theorem sortedListN_iff (l : List GoVal) : SortedListN l ↔ ∀ x ∈ l, SortedN x := by
  induction l with
  | nil => simp [SortedListN]
  | cons e r ih => simp only [SortedListN, ih, List.forall_mem_cons]

theorem sortedPairsN_iff (l : GoMap) : SortedPairsN l ↔ ∀ e ∈ l, SortedN e.2 := by
  induction l with
  | nil => simp [SortedPairsN]
  | cons e r ih =>
    obtain ⟨k, v⟩ := e
    simp only [SortedPairsN, ih, List.forall_mem_cons]

theorem typedN_leaf {v : GoVal} (h : isNode v = false) : TypedN v ↔ normVal v = v := by
  cases v <;> simp only [isNode, reduceCtorEq] at h <;> simp only [TypedN]

theorem sortedN_leaf {v : GoVal} (h : isNode v = false) : SortedN v := by
  cases v <;> simp only [isNode, reduceCtorEq] at h <;> simp only [SortedN]

theorem isNode_normVal (v : GoVal) : isNode (normVal v) = isNode v := by
  cases v <;> rfl

theorem sortEntries_of_sorted {g : GoMap} (h : g.Pairwise EntryLe) : sortEntries g = g :=
  List.mergeSort_of_pairwise
    (le := fun (a b : GoVal × GoVal) => bytesLe (valWire a.1).bytes (valWire b.1).bytes) h

theorem sortEntries_sortEntries (g : GoMap) : sortEntries (sortEntries g) = sortEntries g :=
  sortEntries_of_sorted (sortEntries_sorted g)

/-- the normal form is typed as the decoder types values -/
theorem normValN_typed : ∀ v : GoVal, TypedN (normValN v) := by
  intro v
  induction v using goVal_ind with
  | harr xs ih =>
    rw [normValN_arr]
    simp only [TypedN, typedListN_iff]
    intro y hy
    obtain ⟨x, hx, rfl⟩ := List.mem_map.mp hy
    exact ih x hx
  | hmap g ih =>
    rw [normValN_map]
    simp only [TypedN, typedPairsN_iff]
    intro e he
    obtain ⟨e0, he0, rfl⟩ := List.mem_map.mp he
    exact ⟨normVal_normVal _, ih e0 ((sortEntries_perm g).mem_iff.mp he0)⟩
  | hleaf v hn =>
    rw [normValN_leaf hn, typedN_leaf (by rw [isNode_normVal]; exact hn)]
    exact normVal_normVal v

/-- in the normal form every map is in the encoder's order -/
theorem normValN_sorted : ∀ v : GoVal, SortedN (normValN v) := by
  intro v
  induction v using goVal_ind with
  | harr xs ih =>
    rw [normValN_arr]
    simp only [SortedN, sortedListN_iff]
    intro y hy
    obtain ⟨x, hx, rfl⟩ := List.mem_map.mp hy
    exact ih x hx
  | hmap g ih =>
    rw [normValN_map]
    simp only [SortedN, sortedPairsN_iff]
    refine ⟨?_, ?_⟩
    · rw [← sortEntries_mapN]
      exact sortEntries_sorted _
    · intro e he
      obtain ⟨e0, he0, rfl⟩ := List.mem_map.mp he
      exact ih e0 ((sortEntries_perm g).mem_iff.mp he0)
  | hleaf v hn =>
    rw [normValN_leaf hn]
    exact sortedN_leaf (by rw [isNode_normVal]; exact hn)

/-- a value that is typed as the decoder types values and whose maps are in the encoder's order
    is its own normal form -/
theorem normValN_fixed : ∀ v : GoVal, TypedN v → SortedN v → normValN v = v := by
  intro v
  induction v using goVal_ind with
  | harr xs ih =>
    intro ht hs
    simp only [TypedN, typedListN_iff] at ht
    simp only [SortedN, sortedListN_iff] at hs
    rw [normValN_arr, map_eq_self (fun x hx => ih x hx (ht x hx) (hs x hx))]
  | hmap g ih =>
    intro ht hs
    simp only [TypedN, typedPairsN_iff] at ht
    simp only [SortedN, sortedPairsN_iff] at hs
    rw [normValN_map, sortEntries_of_sorted hs.1, map_eq_self]
    intro e he
    obtain ⟨k, v⟩ := e
    simp only [normEntryN, (ht _ he).1, ih _ he (ht _ he).2 (hs.2 _ he)]
  | hleaf v hn =>
    intro ht _
    rw [normValN_leaf hn]
    exact (typedN_leaf hn).mp ht

/-- every generically decoded value is typed as the decoder types values, at every depth -/
theorem typedN_of_decoded : ∀ (w : Wire) (v : GoVal), decodeAny w = .ok v → TypedN v := by
  intro w
  induction w using wire_ind with
  | harr hw xs ih =>
    intro v h
    obtain ⟨l, hl, rfl⟩ := decodeAny_arr_ok h
    have hrel := decodeList_rel xs l hl
    simp only [TypedN, typedListN_iff]
    intro y hy
    obtain ⟨x, hx, hxy⟩ := hrel.mem_right y hy
    exact ih x hx y hxy
  | hmap hw kvs ih =>
    intro v h
    obtain ⟨l, hl, rfl⟩ := decodeAny_map_ok h
    obtain ⟨l', hl', hrel, -⟩ := decodePairs_inv kvs [] l hl
    simp only [List.reverse_nil, List.nil_append] at hl'
    subst hl'
    simp only [TypedN, typedPairsN_iff]
    intro e he
    obtain ⟨p, hpm, hk, hv, -, -⟩ := hrel.mem_right e he
    exact ⟨normVal_of_decoded hk, (ih p hpm).2 e.2 hv⟩
  | hleaf w ha hm =>
    intro v h
    rw [typedN_leaf (decoded_leaf ha hm h)]
    exact normVal_of_decoded h

/-- normalising does not change the encoding -/
theorem wireN_normValN : ∀ v : GoVal, wireN (normValN v) = wireN v := by
  intro v
  induction v using goVal_ind with
  | harr xs ih =>
    rw [normValN_arr, wireN_arr, wireN_arr, List.length_map, List.map_map]
    congr 1
    apply List.map_congr_left
    intro x hx
    exact ih x hx
  | hmap g ih =>
    rw [normValN_map, wireN_map, wireN_map, List.length_map, sortEntries_length,
      ← sortEntries_mapN, sortEntries_sortEntries, sortEntries_mapN, List.map_map]
    congr 1
    apply List.map_congr_left
    intro e he
    simp only [Function.comp, entryWireN, normEntryN, valWire_of_normVal,
      ih e ((sortEntries_perm g).mem_iff.mp he)]
  | hleaf v hn =>
    rw [normValN_leaf hn, wireN_leaf hn, wireN_leaf (by rw [isNode_normVal]; exact hn),
      valWire_of_normVal]

/-! ### "distinct after encoding", depth monotonicity, header maps with nested values -/

/-- Go's `==` holds only between equal keys, and a decoded key is `==` to itself -/
theorem keyEq_normVal_iff {a b : GoVal} (ha : RTKey a) (_hb : RTKey b) :
    (normVal a).keyEq (normVal b) = true ↔ normVal a = normVal b := by
  refine ⟨GoVal.eq_of_keyEq, fun h => ?_⟩
  rw [← h]
  cases a <;> simp only [RTKey] at ha <;> simp [normVal, GoVal.keyEq]

/-- `KeyDistinct` is literally "the encoded keys are different byte strings" -/
theorem keyDistinct_iff_bytes {a b : GoVal × GoVal} (ha : RTKey a.1) (hb : RTKey b.1) :
    KeyDistinct a b ↔ (valWire a.1).bytes ≠ (valWire b.1).bytes := by
  constructor
  · intro h heq
    have hw : valWire a.1 = valWire b.1 :=
      wire_bytes_inj (t := true) (valWire_wf ha.flatVal) (valWire_wf hb.flatVal)
        (valWire_inLimits _ _ _) (valWire_inLimits _ _ _) heq
    have h1 := valWire_decode ha.flatVal
    rw [hw, valWire_decode hb.flatVal] at h1
    have h2 : normVal b.1 = normVal a.1 := Out.ok.inj h1
    unfold KeyDistinct at h
    rw [← h2, (keyEq_normVal_iff hb hb).mpr rfl] at h
    cases h
  · intro hne
    unfold KeyDistinct
    cases hk : (normVal a.1).keyEq (normVal b.1) with
    | false => rfl
    | true =>
      exfalso
      apply hne
      rw [← valWire_of_normVal a.1, (keyEq_normVal_iff ha hb).mp hk, valWire_of_normVal]

/-- a value that fits at depth `d` fits at any smaller depth -/
theorem RTVal.mono : ∀ (v : GoVal) (d d' : Nat), d' ≤ d → RTVal d v → RTVal d' v := by
  intro v
  induction v using goVal_ind with
  | harr xs ih =>
    intro d d' hle h
    simp only [RTVal, rtList_iff] at h ⊢
    exact ⟨by omega, h.2.1, fun x hx => ih x hx (d + 1) (d' + 1) (by omega) (h.2.2 x hx)⟩
  | hmap g ih =>
    intro d d' hle h
    simp only [RTVal, rtPairs_iff] at h ⊢
    exact ⟨by omega, h.2.1, h.2.2.1, fun e he =>
      ⟨(h.2.2.2 e he).1, ih e he (d + 1) (d' + 1) (by omega) (h.2.2.2 e he).2⟩⟩
  | hleaf v hn =>
    intro d d' _ h
    exact (rtVal_leaf d' hn).mpr ((rtVal_leaf d hn).mp h)

/-- a header map with flat labels and nested values (met one level below the map) -/
def NestedMap (h : GoMap) : Prop := ∀ e ∈ h, FlatLabel e.1 ∧ RTVal 1 e.2

theorem FlatMap.nested {h : GoMap} (hf : FlatMap h) : NestedMap h :=
  fun e he => ⟨(hf e he).1, RTVal.of_flat 1 (hf e he).2⟩

theorem NestedMap.label {h : GoMap} (hf : NestedMap h) : ∀ e ∈ h, FlatLabel e.1 :=
  fun e he => (hf e he).1

end RoundTrip

/-! ## the value round trip, the decoder closure, normal forms -/

namespace C08
open RoundTrip

/-- the nested form of `flat_value_roundtrip`: every value of the
    nested data model met at depth `d` is encoded as one item that is well formed, within the
    parser's depth / size limits at depth `d` in either decode mode, tag-free, and that the
    generic decoder maps back to the normal form `normValN v`. -/
theorem value_roundtrip_nested (cfg : EncCfg) (v : GoVal) (d : Nat) (hv : RTVal d v) :
    ∃ w : Wire, encodeAny cfg v = some w.bytes ∧ w.wf = true ∧ (∀ t, w.inLimits t d = true) ∧
      w.hasTag = false ∧ decodeAny w = .ok (normValN v) := by
  have h := vok_of_rtVal cfg v d hv
  exact ⟨wireN v, h.enc, h.wf, h.lim, h.noTag, h.dec⟩

/-- `value_roundtrip_nested`, naming the item: it is `wireN v` (shortest heads, map entries sorted
    bytewise by encoded
    key), and it is plain (no tag, float or simple value at any depth) -/
theorem value_roundtrip_nested_wire (cfg : EncCfg) (v : GoVal) (d : Nat) (hv : RTVal d v) :
    encodeAny cfg v = some (wireN v).bytes ∧ (wireN v).wf = true ∧
      (∀ t, (wireN v).inLimits t d = true) ∧ (wireN v).hasTag = false ∧
      Plain (wireN v) = true ∧ decodeAny (wireN v) = .ok (normValN v) :=
  have h := vok_of_rtVal cfg v d hv
  ⟨h.enc, h.wf, h.lim, h.noTag, h.plain, h.dec⟩

/-- `value_roundtrip_nested` at top level: the bytes the encoder returns are accepted by
    `parseTop` in either decode
    mode, which returns exactly the item the decoder then maps to `normValN v` -/
theorem value_roundtrip_nested_top (cfg : EncCfg) (v : GoVal) (hv : RTVal 0 v) :
    ∃ w : Wire, encodeAny cfg v = some w.bytes ∧ w.wf = true ∧ (∀ t, w.inLimits t 0 = true) ∧
      w.hasTag = false ∧ (∀ t, parseTop t w.bytes = some w) ∧
      decodeAny w = .ok (normValN v) := by
  have h := vok_of_rtVal cfg v 0 hv
  exact ⟨wireN v, h.enc, h.wf, h.lim, h.noTag, fun t => parseTop_complete h.wf (h.lim t), h.dec⟩

/-- a header map with nested values (the nested form of `flat_map_roundtrip`, conjunct for
    conjunct, with `entryWireN` / `normEntryN` for `entryWire` / `normEntry`): flat labels that
    are pairwise distinct once normalised, values in the nested data model. -/
theorem nested_map_roundtrip (cfg : EncCfg) (h : GoMap) (hf : NestedMap h) (hok : LabelsOK h)
    (hlen : h.length ≤ maxElems) :
    ∃ (ps : List (Bytes × Bytes)) (kvs : List (Wire × Wire)) (m' : GoMap),
      encodePairs cfg h = some ps ∧
      kvs = (sortEntries h).map entryWireN ∧ kvs.Perm (h.map entryWireN) ∧
      kvs.Pairwise (fun a b => bytesLe a.1.bytes b.1.bytes = true) ∧
      concatPairs (sortPairs ps) = Wire.bytesPairs kvs ∧
      (Wire.map (HW.shortest h.length) kvs).wf = true ∧
      (∀ t, (Wire.map (HW.shortest h.length) kvs).inLimits t 0 = true) ∧
      (Wire.map (HW.shortest h.length) kvs).hasTag = false ∧
      encodeAny cfg (.map h) = some (Wire.map (HW.shortest h.length) kvs).bytes ∧
      (∀ t, parseTop t (Wire.map (HW.shortest h.length) kvs).bytes
              = some (Wire.map (HW.shortest h.length) kvs)) ∧
      labelsOK kvs [] = .ok () ∧
      decodePairs kvs [] = .ok m' ∧
      m' = (sortEntries h).map normEntryN ∧ m'.Perm (h.map normEntryN) ∧
      decodeAny (Wire.map (HW.shortest h.length) kvs) = .ok (.map m') :=
  map_roundtrip_by wireN normValN cfg h hf.label
    (fun e he => (vok_of_rtVal cfg e.2 1 (hf e he).2).toItemOK)
    (fun e he => (vok_of_rtVal cfg e.2 1 (hf e he).2).dec) hok hlen

/-- the normal form is idempotent (no hypothesis) -/
theorem normValN_idem (v : GoVal) : normValN (normValN v) = normValN v :=
  normValN_fixed _ (normValN_typed v) (normValN_sorted v)

/-- normalising leaves the data model, and does not change the encoding -/
theorem normValN_closed (cfg : EncCfg) (v : GoVal) (d : Nat) (hv : RTVal d v) :
    RTVal d (normValN v) ∧ encodeAny cfg (normValN v) = encodeAny cfg v := by
  have h := vok_of_rtVal cfg v d hv
  have hr := rtVal_of_decoded (wireN v) (normValN v) true d h.dec h.wf (h.lim true) h.plain
  exact ⟨hr, by rw [(vok_of_rtVal cfg _ d hr).enc, wireN_normValN, h.enc]⟩

/-- decoder closure: whatever the generic decoder returns for a well-formed item within the
    parser's limits at depth `d` that is plain (`Plain`: no float, no simple value other than
    false / true / null / undefined, at any depth; tags and half/single floats make `decodeAny`
    `unmodelled` anyway) is in the nested data model at depth `d`, is typed as the decoder types
    values at every depth (`TypedN`), and — when its maps are in the encoder's key order — is its
    own normal form. -/
theorem decoded_rtVal (w : Wire) (v : GoVal) (t : Bool) (d : Nat) (h : decodeAny w = .ok v)
    (hwf : w.wf = true) (hlim : w.inLimits t d = true) (hp : Plain w = true) :
    RTVal d v ∧ TypedN v ∧ (SortedN v → normValN v = v) :=
  ⟨rtVal_of_decoded w v t d h hwf hlim hp, typedN_of_decoded w v h,
    normValN_fixed v (typedN_of_decoded w v h)⟩

/-- `decoded_rtVal` from the parser: bytes accepted by `parseTop` in either mode -/
theorem parsed_decoded_rtVal (t : Bool) (bs : Bytes) (w : Wire) (v : GoVal)
    (hparse : parseTop t bs = some w) (hp : Plain w = true) (h : decodeAny w = .ok v) :
    RTVal 0 v ∧ TypedN v ∧ (SortedN v → normValN v = v) := by
  obtain ⟨-, hwf, hlim⟩ := parseTop_sound hparse
  exact decoded_rtVal w v t 0 h hwf hlim hp

/-- the clear-raw fixpoint for one value: whatever plain item the decoder accepted (any head
    widths, any key order), the decoded value re-encodes; the re-encoding decodes to the normal
    form of the decoded value, which is again in the data model, is its own normal form, and
    encodes to the same bytes. -/
theorem nested_reencode_fixpoint (cfg : EncCfg) (w : Wire) (v : GoVal) (t : Bool) (d : Nat)
    (h : decodeAny w = .ok v) (hwf : w.wf = true) (hlim : w.inLimits t d = true)
    (hp : Plain w = true) :
    ∃ w' : Wire, encodeAny cfg v = some w'.bytes ∧ w'.wf = true ∧
      (∀ t, w'.inLimits t d = true) ∧ w'.hasTag = false ∧ Plain w' = true ∧
      decodeAny w' = .ok (normValN v) ∧ RTVal d (normValN v) ∧
      normValN (normValN v) = normValN v ∧ encodeAny cfg (normValN v) = some w'.bytes := by
  have hr := rtVal_of_decoded w v t d h hwf hlim hp
  have k := vok_of_rtVal cfg v d hr
  obtain ⟨h7, h8⟩ := normValN_closed cfg v d hr
  exact ⟨wireN v, k.enc, k.wf, k.lim, k.noTag, k.plain, k.dec, h7, normValN_idem v,
    by rw [h8, k.enc]⟩

/-- what the encoder emits decodes to a value that is its own normal form -/
theorem encoded_decodes_to_normal (cfg : EncCfg) (v : GoVal) (d : Nat) (hv : RTVal d v) :
    ∃ (w : Wire) (v' : GoVal), encodeAny cfg v = some w.bytes ∧ decodeAny w = .ok v' ∧
      RTVal d v' ∧ normValN v' = v' := by
  have h := vok_of_rtVal cfg v d hv
  exact ⟨wireN v, normValN v, h.enc, h.dec, (normValN_closed cfg v d hv).1, normValN_idem v⟩

end C08

namespace C05
open RoundTrip

/-- duplicate map keys are rejected at every depth: if the generic decoder accepts an item, no
    map anywhere inside the decoded value — nested in arrays, in map values, at any depth — has
    two entries whose keys are `==` (`GoVal.keyEq`, the test `decodePairs` performs on the
    converted keys). -/
theorem decoded_no_duplicate_keys (w : Wire) (v : GoVal) (h : decodeAny w = .ok v) :
    NoDupKeys v :=
  decodeAny_noDup w v h

/-- the same for the entries of a decoded map, spelt out in both directions -/
theorem decoded_map_keys_distinct (w : Wire) (m : GoMap) (h : decodeAny w = .ok (.map m)) :
    m.Pairwise (fun a b => a.1.keyEq b.1 = false ∧ b.1.keyEq a.1 = false) := by
  have := decodeAny_noDup w _ h
  simp only [NoDupKeys] at this
  exact this.1.imp (fun hab => ⟨hab, by rw [keyEq_comm]; exact hab⟩)

end C05

/-! ## why the hypotheses are needed, and non-vacuity -/

namespace NestedExamples
open RoundTrip

/-! ### the key-distinctness hypothesis (and C05 at depth 2) -/

/-- `[{int64(1): nil, int(1): nil}]`: a legal Go value (the two keys are different `any` keys) -/
def dupEx : GoVal := .arr [.map [(.int .i64 1, .nil), (.int .i 1, .nil)]]

def dupWire : Wire :=
  .arr .imm [.map .imm [(.uint .imm 1, .prim .imm 22), (.uint .imm 1, .prim .imm 22)]]

/-- `Pairwise KeyDistinct` in `RTVal` cannot be dropped: `dupEx` satisfies every other clause,
    the encoder emits `81 a2 01 f6 01 f6` for it, the parser accepts these bytes in either mode,
    and the generic decoder refuses the item (duplicate key inside a nested map — which is also
    C05 at depth 2). -/
theorem value_roundtrip_nested_needs_distinct :
    (GoVal.int .i64 1).keyEq (.int .i 1) = false ∧
    encodeAny encCfg dupEx = some [0x81, 0xa2, 0x01, 0xf6, 0x01, 0xf6] ∧
    (∀ t, parseTop t [0x81, 0xa2, 0x01, 0xf6, 0x01, 0xf6] = some dupWire) ∧
    decodeAny dupWire = .err .other := by
  refine ⟨rfl, ?_, ?_, rfl⟩
  · simp [dupEx, encodeAny, encodeList, encodePairs, encInt, encHead, HW.shortest, headBytes,
      sortPairs, concatPairs, List.mergeSort, List.MergeSort.Internal.splitInTwo, bytesLe, bytesLt]
  · intro t
    simp [dupWire, parseTop, parseItem, parseItems, parsePairs, fuelFor, parseHead, maxNested,
      maxElems]

/-! ### the depth bound -/

/-- `n` nested one-element arrays around `nil` -/
def nestArr : Nat → GoVal
  | 0 => .nil
  | n + 1 => .arr [nestArr n]

theorem nestArr_enc (cfg : EncCfg) :
    ∀ n, encodeAny cfg (nestArr n) = some (List.replicate n 0x81 ++ [0xf6])
  | 0 => by simp only [nestArr, encodeAny, List.replicate_zero, List.nil_append]
  | n + 1 => by
    simp only [nestArr, encodeAny, encodeList, nestArr_enc cfg n, List.append_nil,
      List.length_singleton, List.replicate_succ, List.cons_append]
    rfl

theorem nestArr_rt : ∀ n d, d + n ≤ maxNested → RTVal d (nestArr n)
  | 0, _, _ => by simp [nestArr, RTVal, FlatVal]
  | n + 1, d, h => by
    simp only [nestArr, RTVal, RTList, List.length_singleton, and_true]
    exact ⟨by omega, by unfold maxElems; omega, nestArr_rt n (d + 1) (by omega)⟩

/-- arrays nested beyond the limit are refused, whatever follows -/
theorem parseItem_too_deep (t : Bool) (r : Bytes) : ∀ (n fuel d : Nat), d + n > maxNested →
    d ≤ maxNested → parseItem t fuel d (List.replicate n 0x81 ++ r) = none
  | 0, _, _, h1, h2 => by omega
  | _, 0, _, _, _ => by simp [parseItem]
  | n + 1, fuel + 1, d, h1, h2 => by
    have hh : parseHead (0x81 :: (List.replicate n 0x81 ++ r))
        = some (4, .imm, 1, List.replicate n 0x81 ++ r) := by
      simp [parseHead]
    rw [List.replicate_succ, List.cons_append, parseItem, hh]
    simp only [Nat.reduceEqDiff, if_false]
    by_cases hd : d + 1 > maxNested
    · simp [hd]
    · have ih := fun f => parseItem_too_deep t r n f (d + 1) (by omega) (by omega)
      cases fuel with
      | zero => simp [hd, maxElems, parseItems]
      | succ f => simp [hd, maxElems, parseItems, ih f]

/-- the depth clause of `RTVal` is the decoder's limit exactly: 32 nested arrays are inside the
    data model (and so make the round trip), 33 are still encoded but the parser refuses the
    bytes in either mode -/
theorem value_roundtrip_nested_needs_depth :
    RTVal 0 (nestArr 32) ∧
    encodeAny encCfg (nestArr 33) = some (List.replicate 33 0x81 ++ [0xf6]) ∧
    (∀ t, parseTop t (List.replicate 33 0x81 ++ [0xf6]) = none) := by
  refine ⟨nestArr_rt 32 0 (by unfold maxNested; omega), nestArr_enc encCfg 33, ?_⟩
  intro t
  simp only [parseTop, fun f => parseItem_too_deep t [0xf6] 33 f 0 (by unfold maxNested; omega)
    (by unfold maxNested; omega)]

/-! ### a decoded value is its own normal form only if the sender sorted the keys -/

/-- `SortedN` in `C08.decoded_rtVal` cannot be dropped: `a2 02 00 01 00` (keys 2, 1 in that
    order — not canonical CBOR, but accepted) decodes to a map in wire order; its normal form is
    the sorted map, a different value of the model. -/
theorem decoded_normal_needs_sorted :
    (∀ t, parseTop t [0xa2, 0x02, 0x00, 0x01, 0x00]
      = some (.map .imm [(.uint .imm 2, .uint .imm 0), (.uint .imm 1, .uint .imm 0)])) ∧
    decodeAny (.map .imm [(.uint .imm 2, .uint .imm 0), (.uint .imm 1, .uint .imm 0)])
      = .ok (.map [(.int .i64 2, .int .i64 0), (.int .i64 1, .int .i64 0)]) ∧
    normValN (.map [(.int .i64 2, .int .i64 0), (.int .i64 1, .int .i64 0)])
      = .map [(.int .i64 1, .int .i64 0), (.int .i64 2, .int .i64 0)] ∧
    normValN (.map [(.int .i64 2, .int .i64 0), (.int .i64 1, .int .i64 0)])
      ≠ .map [(.int .i64 2, .int .i64 0), (.int .i64 1, .int .i64 0)] := by
  have hn : normValN (.map [(.int .i64 2, .int .i64 0), (.int .i64 1, .int .i64 0)])
      = .map [(.int .i64 1, .int .i64 0), (.int .i64 2, .int .i64 0)] := by
    rw [normValN_map, sortEntries_eq_of_perm (.swap ..) (by decide) (by decide)]
    rfl
  refine ⟨?_, rfl, hn, ?_⟩
  · intro t
    simp [parseTop, parseItem, parsePairs, fuelFor, parseHead, maxNested, maxElems]
  · rw [hn]; simp

/-! ### non-vacuity: a crit-like array -/

/-- `[int(1), "x", int8(-7)]` -/
def critEx : GoVal := .arr [.int .i 1, .str [0x78], .int .i8 (-7)]

theorem critEx_rt : RTVal 0 critEx := by
  simp only [critEx, RTVal, RTList, FlatVal, int64Range]
  decide

theorem critEx_norm : normValN critEx = .arr [.int .i64 1, .str [0x78], .int .i64 (-7)] := rfl

theorem critEx_enc : encodeAny encCfg critEx = some [0x83, 0x01, 0x61, 0x78, 0x26] := by
  simp [critEx, encodeAny, encodeList, encInt, encTstr, encHead, HW.shortest, headBytes]

example : ∃ w : Wire, encodeAny encCfg critEx = some w.bytes ∧
    w.bytes = [0x83, 0x01, 0x61, 0x78, 0x26] ∧ (∀ t, parseTop t w.bytes = some w) ∧
    decodeAny w = .ok (.arr [.int .i64 1, .str [0x78], .int .i64 (-7)]) := by
  obtain ⟨w, h1, -, -, -, h5, h6⟩ := C08.value_roundtrip_nested_top encCfg critEx critEx_rt
  rw [critEx_norm] at h6
  refine ⟨w, h1, ?_, h5, h6⟩
  rw [critEx_enc] at h1
  exact (Option.some.inj h1).symm

/-! ### non-vacuity: a CWT-claims-like map, keys given out of order -/

/-- `{-70000: [h'01', {2: true}], 4: 1700000000, 1: "iss"}` with Go `int` keys and values -/
def cwtEx : GoVal :=
  .map [(.int .i (-70000), .arr [.bytes [0x01], .map [(.int .i 2, .bool true)]]),
        (.int .i 4, .int .i 1700000000),
        (.int .i 1, .str [0x69, 0x73, 0x73])]

theorem cwtEx_rt : RTVal 0 cwtEx := by
  simp only [cwtEx, RTVal, RTList, RTPairs, RTKey, FlatVal, int64Range]
  decide

/-- the normal form: keys sorted bytewise by encoding (`01` < `04` < `3a 00 01 11 6f`), every
    integer typed `int64`, at every depth -/
theorem cwtEx_norm : normValN cwtEx =
    .map [(.int .i64 1, .str [0x69, 0x73, 0x73]),
          (.int .i64 4, .int .i64 1700000000),
          (.int .i64 (-70000), .arr [.bytes [0x01], .map [(.int .i64 2, .bool true)]])] := by
  rw [cwtEx, normValN_map,
    sortEntries_eq_of_perm (List.reverse_perm _).symm (by decide) (by decide)]
  simp only [List.reverse_cons, List.reverse_nil, List.nil_append, List.cons_append, List.map_cons,
    List.map_nil, normEntryN, normValN, normListN, normPairsN, normVal, sortEntries,
    List.mergeSort_singleton]

theorem cwtEx_enc : encodeAny encCfg cwtEx =
    some [0xa3, 0x01, 0x63, 0x69, 0x73, 0x73, 0x04, 0x1a, 0x65, 0x53, 0xf1, 0x00,
          0x3a, 0x00, 0x01, 0x11, 0x6f, 0x82, 0x41, 0x01, 0xa1, 0x02, 0xf5] := by
  simp [cwtEx, encodeAny, encodeList, encodePairs, encInt, encTstr, encBstr, encHead, HW.shortest,
    headBytes, sortPairs, concatPairs, List.mergeSort, List.MergeSort.Internal.splitInTwo, bytesLe,
    bytesLt]

example : ∃ w : Wire, encodeAny encCfg cwtEx = some w.bytes ∧
    w.bytes = [0xa3, 0x01, 0x63, 0x69, 0x73, 0x73, 0x04, 0x1a, 0x65, 0x53, 0xf1, 0x00,
               0x3a, 0x00, 0x01, 0x11, 0x6f, 0x82, 0x41, 0x01, 0xa1, 0x02, 0xf5] ∧
    (∀ t, parseTop t w.bytes = some w) ∧
    decodeAny w = .ok
      (.map [(.int .i64 1, .str [0x69, 0x73, 0x73]),
             (.int .i64 4, .int .i64 1700000000),
             (.int .i64 (-70000), .arr [.bytes [0x01], .map [(.int .i64 2, .bool true)]])]) := by
  obtain ⟨w, h1, -, -, -, h5, h6⟩ := C08.value_roundtrip_nested_top encCfg cwtEx cwtEx_rt
  rw [cwtEx_norm] at h6
  refine ⟨w, h1, ?_, h5, h6⟩
  rw [cwtEx_enc] at h1
  exact (Option.some.inj h1).symm

/-- the decoded claims map is again in the data model, is its own normal form, and re-encodes
    to the same bytes -/
example : RTVal 0 (normValN cwtEx) ∧ normValN (normValN cwtEx) = normValN cwtEx ∧
    encodeAny encCfg (normValN cwtEx) = encodeAny encCfg cwtEx :=
  ⟨(C08.normValN_closed encCfg cwtEx 0 cwtEx_rt).1, C08.normValN_idem cwtEx,
    (C08.normValN_closed encCfg cwtEx 0 cwtEx_rt).2⟩

/-- C05 on the examples: nothing the decoder returns has duplicate keys at any depth; the
    predicate is not vacuous (it fails on the nested duplicate) -/
example : NoDupKeys (normValN cwtEx) := by
  obtain ⟨-, -, -, -, -, h6⟩ := C08.value_roundtrip_nested_wire encCfg cwtEx 0 cwtEx_rt
  exact C05.decoded_no_duplicate_keys _ _ h6

example : ¬ NoDupKeys (.arr [.map [(.int .i64 1, .nil), (.int .i64 1, .bool true)]]) := by
  simp [NoDupKeys, NoDupKeysList, NoDupKeysPairs, KeyNe, GoVal.keyEq]

end NestedExamples
