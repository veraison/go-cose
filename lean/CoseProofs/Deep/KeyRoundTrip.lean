/-
  CoseProofs.Deep.KeyRoundTrip — the CBOR-level round trip of COSE_Key: `Key.marshal` (key.go
  `MarshalCBOR`) followed by `Key.unmarshal` (`UnmarshalCBOR`) for C14, and the fixpoint reached by
  re-encoding an accepted key for C15.

  The map `MarshalCBOR` hands to the encoder is one bucket of label / value pairs, so its encoder /
  parser / generic decoder round trip is the generic bucket of Deep/RoundTrip.lean, section `Bucket`
  (`map_roundtrip_by wv nv`), at `wv = kWire`, `nv = kNorm`.  The labels are the flat labels of that
  section.  The values are its flat values and two more kinds a key holds: the typed nil
  `[]byte(nil)` (emitted as `null`, read back as the untyped nil) and arrays of flat values
  (`key_ops`); `kWire_ok` gives, for each such value, what the section asks of `wv` and `nv` (`ItemOK`
  at depth 1 and `decodeAny (kWire v) = .ok (kNorm v)`).  `kMapWire` and `kNormEntry` are the section's
  `mapWireBy kWire` and `normEntryBy kNorm`.  Particular to keys: the map
  `Key.marshalMap` builds (Deep/Keys.lean: `marshalMap_eq_some_iff`, `marshalMap_lookup`), `Key.ofMap`
  on the decoded map (`Key.ofMap_inv`, `ofMap_ok`), and `validate` seen through the EC2 coordinate
  padding (`validate_transfer`).

  `C14.key_marshal_unmarshal` assumes `KeyFlat k`, `k.validate .none = none`, `ParamsDisjoint k`,
  `NoNilCoords k` and `KeySize k`.  The last section shows by counterexample that the first four are
  needed (`key_marshal_unmarshal_needs_int64_labels`, `…_needs_validate`, `…_needs_disjoint`,
  `…_needs_no_nil_coords`); the reason for each is given there, and for `KeySize` at its definition.
  `C15.reencode_idempotent` assumes only `∀ e ∈ k.params, KVal e.2`: an accepted key has the rest
  (`accepted_flat`, `accepted_params`, `accepted_noNilCoords`).  It does not claim `k2 = k`, which is
  false in general: `k2.params` is in canonical (sorted) order and carries x / y at full length,
  `k.params` is in the order and length of the input.
-/
import CoseProofs.Deep.NestedRoundTrip
import CoseProofs.Lemmas.TagScan
import CoseProofs.Deep.Keys
open CoseModel

namespace KeyRT
open RoundTrip C14

/-! ## COSE_Key values on the wire -/

/-- values a COSE_Key map holds in the model: the flat values of `RoundTrip` (integers of any
    Go integer kind / `Algorithm` / `Curve` in the int64 range, valid UTF-8 text, byte strings,
    booleans, nil), a typed-nil `[]byte`, and arrays of flat values (`key_ops`) -/
def KVal : GoVal → Prop
  | .int _ n => int64Range n
  | .alg n => int64Range n
  | .crv n => int64Range n
  | .str b => utf8Valid b = true ∧ b.length < 18446744073709551616
  | .bytes b => b.length < 18446744073709551616
  | .bool _ => True
  | .nil => True
  | .bytesNil => True
  | .arr xs => (∀ x ∈ xs, FlatVal x) ∧ xs.length ≤ maxElems
  | _ => False

/-- the item the encoder emits for such a value -/
def kWire : GoVal → Wire
  | .arr xs => .arr (HW.shortest xs.length) (xs.map valWire)
  | v => valWire v

/-- what the generic decoder yields for that item -/
def kNorm : GoVal → GoVal
  | .arr xs => .arr (xs.map normVal)
  | .bytesNil => .nil
  | v => normVal v

instance : DecidablePred FlatVal := fun v => by
  cases v <;> unfold FlatVal <;> exact inferInstance

instance : DecidablePred FlatLabel := fun l => by
  cases l <;> unfold FlatLabel <;> exact inferInstance

instance : DecidablePred KVal := fun v => by
  cases v <;> unfold KVal <;> exact inferInstance

theorem KVal.of_flat {v : GoVal} (h : FlatVal v) : KVal v := by
  cases v <;> simp only [FlatVal] at h <;> simp only [KVal] <;> exact h

theorem kWire_flat {v : GoVal} (h : FlatVal v) : kWire v = valWire v := by
  cases v <;> simp only [FlatVal] at h <;> rfl

theorem kNorm_flat {v : GoVal} (h : FlatVal v) : kNorm v = normVal v := by
  cases v <;> simp only [FlatVal] at h <;> rfl

theorem KVal.cases {v : GoVal} (h : KVal v) :
    FlatVal v ∨ v = .bytesNil ∨
      ∃ xs, v = .arr xs ∧ (∀ x ∈ xs, FlatVal x) ∧ xs.length ≤ maxElems := by
  cases v <;> simp only [KVal] at h
  case bytesNil => exact Or.inr (Or.inl rfl)
  case arr xs => exact Or.inr (Or.inr ⟨xs, rfl, h⟩)
  all_goals (left; simp only [FlatVal]; try exact h)

theorem decodeList_flat : ∀ (xs : List GoVal), (∀ x ∈ xs, FlatVal x) →
    decodeList (xs.map valWire) = .ok (xs.map normVal)
  | [], _ => by simp only [List.map_nil, decodeList]
  | x :: xs, h => by
    simp only [List.map_cons, decodeList, valWire_decode (h x (List.mem_cons_self ..)),
      decodeList_flat xs (fun y hy => h y (List.mem_cons_of_mem _ hy))]

theorem kWire_ok (cfg : EncCfg) {v : GoVal} (hv : KVal v) :
    ItemOK kWire cfg 1 v ∧ decodeAny (kWire v) = .ok (kNorm v) := by
  rcases hv.cases with h | rfl | ⟨xs, rfl, h1, h2⟩
  · have e := kWire_flat h
    exact ⟨⟨e ▸ valWire_bytes cfg h, e ▸ valWire_wf h, fun t => e ▸ valWire_inLimits v t 1,
      e ▸ valWire_noTag v⟩, e ▸ kNorm_flat h ▸ valWire_decode h⟩
  · refine ⟨⟨?_, rfl, fun _ => rfl, rfl⟩, rfl⟩
    simp only [encodeAny, kWire, valWire, Wire.bytes, headBytes]
    rfl
  · obtain ⟨hwf, hlim, hnt⟩ := arrWire_ok valWire (d := 1) (fun x hx => valWire_wf (h1 x hx))
      (fun x _ t => valWire_inLimits x t 2) (fun x _ => valWire_noTag x) h2
      (by unfold maxNested; omega)
    have henc := encodeList_map cfg id valWire xs (fun x hx => valWire_bytes cfg (h1 x hx))
    rw [List.map_id] at henc
    refine ⟨⟨?_, hwf, hlim, hnt⟩, ?_⟩
    · simp only [encodeAny, henc, kWire, Wire.bytes, List.length_map, encHead]
    · simp only [kWire, decodeAny, decodeList_flat xs h1, kNorm]

theorem kNorm_kVal {v : GoVal} (hv : KVal v) : KVal (kNorm v) := by
  cases v <;> simp only [KVal] at hv <;> simp only [kNorm, normVal, KVal] <;> try exact hv
  case arr xs =>
    refine ⟨?_, by rw [List.length_map]; exact hv.2⟩
    intro x hx
    obtain ⟨y, hy, rfl⟩ := List.mem_map.mp hx
    have := hv.1 y hy
    cases y <;> simp only [FlatVal] at this <;> simp only [normVal, FlatVal] <;> exact this

theorem kWire_kNorm (v : GoVal) : kWire (kNorm v) = kWire v := by
  cases v <;> try rfl
  case arr xs =>
    simp only [kNorm, kWire, List.length_map, List.map_map]
    congr 1
    apply List.map_congr_left
    intro x _
    exact valWire_of_normVal x

/-! ### maps of such values -/

/-- a map the bucket round trip applies to: labels of any Go integer kind or text -/
def KMap (h : GoMap) : Prop := ∀ e ∈ h, FlatLabel e.1 ∧ KVal e.2

/-- the map item the encoder emits for a COSE_Key map -/
def kMapWire (h : GoMap) : Wire := mapWireBy kWire h

def kNormEntry (e : GoVal × GoVal) : GoVal × GoVal := (normVal e.1, kNorm e.2)

theorem KMap.perm {h h' : GoMap} (hp : h.Perm h') (hf : KMap h) : KMap h' :=
  fun e he => hf e (hp.mem_iff.mpr he)

theorem KMap.sorted {h : GoMap} (hf : KMap h) : KMap (sortEntries h) :=
  hf.perm (sortEntries_perm h).symm

theorem encodePairs_k (cfg : EncCfg) {h : GoMap} (hf : KMap h) :
    encodePairs cfg h = some (h.map (fun e => wireBytes (entryWireBy kWire e))) :=
  encodePairs_by kWire cfg fun e he => ⟨(hf e he).1.flatVal, (kWire_ok cfg (hf e he).2).1.enc⟩

theorem encodeAny_map_k (cfg : EncCfg) {h : GoMap} (hf : KMap h) :
    encodeAny cfg (.map h) = some (kMapWire h).bytes :=
  encodeAny_map_by kWire cfg fun e he => ⟨(hf e he).1.flatVal, (kWire_ok cfg (hf e he).2).1.enc⟩

/-- `map_roundtrip_by kWire kNorm`, cut down to the three parts used below -/
theorem kmap_roundtrip (cfg : EncCfg) {h : GoMap} (hf : KMap h) (hok : LabelsOK h)
    (hlen : h.length ≤ maxElems) :
    encodeAny cfg (.map h) = some (kMapWire h).bytes ∧
    (∀ t, parseTop t (kMapWire h).bytes
      = some (.map (HW.shortest h.length) ((sortEntries h).map (entryWireBy kWire)))) ∧
    decodePairs ((sortEntries h).map (entryWireBy kWire)) [] = .ok ((sortEntries h).map kNormEntry) := by
  obtain ⟨_, _, _, -, rfl, -, -, -, -, -, -, henc, hparse, -, hdp, rfl, -⟩ :=
    map_roundtrip_by kWire kNorm cfg h (fun e he => (hf e he).1)
      (fun e he => (kWire_ok cfg (hf e he).2).1) (fun e he => (kWire_ok cfg (hf e he).2).2) hok hlen
  exact ⟨henc, hparse, hdp⟩

/-! ## labels and lookups -/

/-- a label as `Key.UnmarshalCBOR` stores it (and as `normalizeLabel` returns it): an `int64`
    or valid UTF-8 text -/
def KeyLabel : GoVal → Prop
  | .int k n => k = .i64 ∧ int64Range n
  | .str b => utf8Valid b = true ∧ b.length < 18446744073709551616
  | _ => False

instance : DecidablePred KeyLabel := fun l => by
  cases l <;> unfold KeyLabel <;> exact inferInstance

theorem KeyLabel.flat {l : GoVal} (h : KeyLabel l) : FlatLabel l := by
  cases l <;> simp only [KeyLabel] at h <;> simp only [FlatLabel]
  · exact h.2
  · exact h

theorem KeyLabel.normVal_eq {l : GoVal} (h : KeyLabel l) : normVal l = l := by
  cases l <;> simp only [KeyLabel] at h
  · rw [h.1]; rfl
  · rfl

theorem KeyLabel.shape {l : GoVal} (h : KeyLabel l) :
    (∃ n, l = .int .i64 n) ∨ ∃ s, l = .str s := by
  cases l <;> simp only [KeyLabel] at h
  · exact Or.inl ⟨_, by rw [h.1]⟩
  · exact Or.inr ⟨_, rfl⟩

theorem KeyLabel.normalize {l : GoVal} (h : KeyLabel l) : normalizeLabel l = some l := by
  rw [normalizeLabel_flat h.flat, h.normVal_eq]

theorem keyLabel_lbl (n : Int) (h : int64Range n) : KeyLabel (lbl n) := ⟨rfl, h⟩

/-- a `KMap` whose labels are spelt as `Key.UnmarshalCBOR` stores them, so that `normalizeLabel`
    and `normVal` leave them as they are -/
def KeyMap (h : GoMap) : Prop := ∀ e ∈ h, KeyLabel e.1 ∧ KVal e.2

instance (h : GoMap) : Decidable (KeyMap h) := by unfold KeyMap; exact inferInstance

theorem KeyMap.kmap {h : GoMap} (hf : KeyMap h) : KMap h :=
  fun e he => ⟨(hf e he).1.flat, (hf e he).2⟩

theorem KeyMap.normal {h : GoMap} (hf : KeyMap h) : ∀ e ∈ h, normalizeLabel e.1 = some e.1 :=
  fun e he => (hf e he).1.normalize

/-- a map over the values, which may look at the label, commutes with `lookup` -/
theorem lookup_map_val (f : GoVal → GoVal → GoVal) (g : GoMap) (l : GoVal) :
    GoMap.lookup (g.map (fun e => (e.1, f e.1 e.2))) l = (g.lookup l).map (f l) := by
  induction g with
  | nil => rfl
  | cons e r ih =>
    obtain ⟨a, b⟩ := e
    rw [List.map_cons, GoMap.lookup_cons, GoMap.lookup_cons]
    by_cases hk : a.keyEq l = true
    · rw [if_pos hk, if_pos hk, GoVal.eq_of_keyEq hk]; rfl
    · rw [if_neg hk, if_neg hk]; exact ih

theorem lookup_iff_mem {g : GoMap} (hok : LabelsOK g)
    (hn : ∀ e ∈ g, normalizeLabel e.1 = some e.1) {l : GoVal} (v : GoVal) :
    g.lookup l = some v ↔ (l, v) ∈ g := by
  refine ⟨GoMap.mem_of_lookup, fun hm => ?_⟩
  cases hlk : g.lookup l with
  | none =>
    have := (GoMap.lookup_eq_none_iff g l).mp hlk _ hm
    rw [keyEq_refl_of_normalizes (by rw [hn _ hm]; nofun)] at this
    cases this
  | some w => exact congrArg (some ·.2) (entry_eq_of_labelsOK hok (GoMap.mem_of_lookup hlk) hm rfl)

theorem keys_nodup {g : GoMap} (hok : LabelsOK g) (hn : ∀ e ∈ g, normalizeLabel e.1 = some e.1) :
    (g.map Prod.fst).Nodup := by
  unfold List.Nodup
  rw [List.pairwise_map]
  refine (List.Pairwise.and_mem.mp hok.2).imp ?_
  intro a b ⟨ha, hb, hab⟩ heq
  have h1 := hab a.1 b.1 (hn a ha) (hn b hb)
  rw [heq, keyEq_refl_of_normalizes (by rw [hn b hb]; simp)] at h1
  cases h1

theorem lookup_erase_other (g : GoMap) (n : Int) (l : GoVal) (hne : l ≠ lbl n) :
    (g.erase (lbl n)).lookup l = g.lookup l := by
  induction g with
  | nil => rfl
  | cons e r ih =>
    obtain ⟨a, b⟩ := e
    unfold GoMap.erase at ih ⊢
    rw [List.filter_cons, GoMap.lookup_cons]
    cases hk : a.keyEq (lbl n)
    · rw [Bool.not_false, if_pos rfl, GoMap.lookup_cons, ih]
    · -- the entry is erased, and does not stand under `l`
      have hal : a.keyEq l = false := by
        rw [GoVal.eq_of_keyEq hk]
        exact GoVal.lbl_keyEq_false hne
      rw [Bool.not_true, if_neg Bool.false_ne_true, ih, hal]
      rfl

theorem lookup_erase_same (g : GoMap) (k : GoVal) : (g.erase k).lookup k = none := by
  rw [GoMap.lookup_eq_none_iff]
  intro e he
  unfold GoMap.erase at he
  have := (List.mem_filter.mp he).2
  simpa using this

theorem lookup_erase_none (g : GoMap) (k l : GoVal) (h : g.lookup l = none) :
    (g.erase k).lookup l = none := by
  rw [GoMap.lookup_eq_none_iff] at h ⊢
  intro e he
  exact h e (List.mem_filter.mp he).1

theorem labelsOK_of_keyMap_pairwise {g : GoMap} (hn : ∀ e ∈ g, normalizeLabel e.1 = some e.1)
    (hp : g.Pairwise (fun a b => a.1.keyEq b.1 = false)) : LabelsOK g := by
  refine ⟨fun e he => by rw [hn e he]; simp, ?_⟩
  refine (List.Pairwise.and_mem.mp hp).imp ?_
  intro a b ⟨ha, hb, hab⟩ x y hx hy
  rw [hn a ha] at hx
  rw [hn b hb] at hy
  cases hx; cases hy
  exact hab

/-! ## the map `Key.MarshalCBOR` builds -/

theorem KeyMap.set {h : GoMap} (hf : KeyMap h) {k v : GoVal} (hk : KeyLabel k) (hv : KVal v) :
    KeyMap (h.set k v) := by
  unfold GoMap.set
  split
  · intro e he
    obtain ⟨e0, he0, rfl⟩ := List.mem_map.mp he
    split
    · exact ⟨(hf e0 he0).1, hv⟩
    · exact hf e0 he0
  · intro e he
    rcases List.mem_append.mp he with h1 | h1
    · exact hf e h1
    · rw [List.mem_singleton.mp h1]; exact ⟨hk, hv⟩

theorem labelsOK_set {h : GoMap} (hok : LabelsOK h)
    (hn : ∀ e ∈ h, normalizeLabel e.1 = some e.1) {k : GoVal} (hk : normalizeLabel k = some k)
    (v : GoVal) : LabelsOK (h.set k v) := by
  unfold GoMap.set
  split
  · exact labelsOK_map _ (fun e _ => by split <;> rfl) hok
  · rename_i hhas
    have hnone : h.lookup k = none := by
      unfold GoMap.has at hhas
      cases hl : h.lookup k with
      | none => rfl
      | some w => rw [hl] at hhas; exact absurd rfl hhas
    have hall := (GoMap.lookup_eq_none_iff h k).mp hnone
    refine ⟨?_, ?_⟩
    · intro e he
      rcases List.mem_append.mp he with h1 | h1
      · exact hok.1 e h1
      · rw [List.mem_singleton.mp h1, hk]; simp
    · rw [List.pairwise_append]
      refine ⟨hok.2, List.pairwise_singleton _ _, ?_⟩
      intro a ha b hb x y hx hy
      rw [List.mem_singleton.mp hb] at hy
      rw [hn a ha] at hx
      rw [hk] at hy
      cases hx; cases hy
      exact hall a ha

/-! ### the data model of keys -/

/-- keys of the flat data model: the common fields fit the CBOR integer / length ranges (true of
    every Go value; the model's `Int` and lists do not enforce it), every parameter label is an
    `int64` or valid UTF-8 text (the form `Key.UnmarshalCBOR` produces; a Go string with invalid
    UTF-8 is emitted as is and refused by the decoder) and every parameter value is a `KVal` (no
    nested maps, floats, simple values, countersignatures) -/
structure KeyFlat (k : Key) : Prop where
  kty : int64Range k.kty
  alg : int64Range k.alg
  id : ∀ b, k.id = some b → b.length < 18446744073709551616
  ops : ∀ l, k.ops = some l → (∀ o ∈ l, int64Range o) ∧ l.length ≤ maxElems
  baseIV : ∀ b, k.baseIV = some b → b.length < 18446744073709551616
  params : KeyMap k.params

/-- the serialised map stays below the decoder's limit of 131072 pairs (five common fields): a
    larger map is emitted and then refused.  The constant is not shown to be tight (a
    counterexample would be a key of 131068 parameters). -/
def KeySize (k : Key) : Prop := k.params.length + 5 ≤ maxElems

/-- no parameter is stored under the label of a common field (1 … 5) -/
def ParamsDisjoint (k : Key) : Prop :=
  k.params.lookup (lbl 1) = none ∧ k.params.lookup (lbl 2) = none ∧
  k.params.lookup (lbl 3) = none ∧ k.params.lookup (lbl 4) = none ∧
  k.params.lookup (lbl 5) = none

instance (k : Key) : Decidable (KeySize k) := by unfold KeySize; exact inferInstance

instance (k : Key) : Decidable (ParamsDisjoint k) := by unfold ParamsDisjoint; exact inferInstance

theorem paramsDisjoint_iff (k : Key) :
    ParamsDisjoint k ↔ ∀ l, isCommon l → k.params.lookup l = none :=
  ⟨fun ⟨h1, h2, h3, h4, h5⟩ l hl => by rcases hl with rfl | rfl | rfl | rfl | rfl <;> assumption,
    fun h => ⟨h _ (Or.inl rfl), h _ (Or.inr (Or.inl rfl)), h _ (Or.inr (Or.inr (Or.inl rfl))),
      h _ (Or.inr (Or.inr (Or.inr (Or.inl rfl)))), h _ (Or.inr (Or.inr (Or.inr (Or.inr rfl))))⟩⟩

instance (k : Key) : Decidable (KeyFlat k) :=
  decidable_of_iff
    ((int64Range k.kty ∧ int64Range k.alg) ∧ (∀ b ∈ k.id, b.length < 18446744073709551616) ∧
      (∀ l ∈ k.ops, (∀ o ∈ l, int64Range o) ∧ l.length ≤ maxElems) ∧
      (∀ b ∈ k.baseIV, b.length < 18446744073709551616) ∧ KeyMap k.params)
    ⟨fun h => ⟨h.1.1, h.1.2, h.2.1, h.2.2.1, h.2.2.2.1, h.2.2.2.2⟩,
      fun h => ⟨⟨h.kty, h.alg⟩, h.id, h.ops, h.baseIV, h.params⟩⟩

theorem int64Range_small (n : Int) (h1 : -100 ≤ n) (h2 : n ≤ 100) : int64Range n := by
  unfold int64Range; omega

theorem KeyMap.append {a b : GoMap} (ha : KeyMap a) (hb : KeyMap b) : KeyMap (a ++ b) :=
  fun e he => (List.mem_append.mp he).elim (ha e) (hb e)

theorem keyMap_optEntry {n : Int} (hn : int64Range n) {o : Option GoVal}
    (ho : ∀ v, o = some v → KVal v) : KeyMap (optEntry n o) := fun _ he =>
  have ⟨hl, hv⟩ := mem_optEntry he
  ⟨hl ▸ keyLabel_lbl n hn, ho _ hv⟩

theorem KeyMap.nil : KeyMap [] := fun _ h => nomatch h

theorem KeyMap.cons {e : GoVal × GoVal} {r : GoMap} (he : KeyLabel e.1 ∧ KVal e.2)
    (hr : KeyMap r) : KeyMap (e :: r) :=
  fun x hx => (List.mem_cons.mp hx).elim (fun h => h ▸ he) (hr x)

theorem keyFlat_of_params {kty alg : Int} {params : GoMap} (h1 : int64Range kty)
    (h2 : int64Range alg) (hp : KeyMap params) :
    KeyFlat { kty := kty, alg := alg, params := params } :=
  ⟨h1, h2, nofun, nofun, nofun, hp⟩

theorem baseMap_keyMap {k : Key} (hk : KeyFlat k) : KeyMap (baseMap k) := by
  rw [baseMap_eq]
  refine ((((keyMap_optEntry (by decide) ?_).append (keyMap_optEntry (by decide) ?_)).append
    (keyMap_optEntry (by decide) ?_)).append (keyMap_optEntry (by decide) ?_)).append
    (keyMap_optEntry (by decide) ?_) <;> intro v hv
  · cases hv; exact hk.kty
  · obtain ⟨b, hb, rfl⟩ := Option.map_eq_some_iff.mp hv
    exact hk.id b hb
  · split at hv <;> cases hv
    exact hk.alg
  · obtain ⟨l, hl, rfl⟩ := Option.map_eq_some_iff.mp hv
    refine ⟨fun x hx => ?_, by rw [List.length_map]; exact (hk.ops l hl).2⟩
    obtain ⟨o, ho, rfl⟩ := List.mem_map.mp hx
    exact (hk.ops l hl).1 o ho
  · obtain ⟨b, hb, rfl⟩ := Option.map_eq_some_iff.mp hv
    exact hk.baseIV b hb

theorem keys_optEntry (n : Int) (o : Option GoVal) :
    ((optEntry n o).map Prod.fst).Sublist [lbl n] := by
  cases o
  · exact List.nil_sublist _
  · exact List.Sublist.refl _

theorem baseMap_keys (k : Key) :
    ((baseMap k).map Prod.fst).Sublist [lbl 1, lbl 2, lbl 3, lbl 4, lbl 5] := by
  rw [baseMap_eq]
  simp only [List.map_append]
  exact ((((keys_optEntry ..).append (keys_optEntry ..)).append (keys_optEntry ..)).append
    (keys_optEntry ..)).append (keys_optEntry ..)

theorem baseMap_labelsOK {k : Key} (hk : KeyFlat k) : LabelsOK (baseMap k) :=
  labelsOK_of_keyMap_pairwise (baseMap_keyMap hk).normal (List.pairwise_map.mp
    ((by decide : [lbl 1, lbl 2, lbl 3, lbl 4, lbl 5].Pairwise (fun a b => a.keyEq b = false)).sublist
      (baseMap_keys k)))

theorem baseMap_length (k : Key) : (baseMap k).length ≤ 5 := by
  have := (baseMap_keys k).length_le
  rwa [List.length_map] at this

theorem curveSize_le (c : Int) : curveSize c ≤ 66 := by
  unfold curveSize
  split
  · omega
  · split
    · omega
    · split <;> omega

theorem leftPad_length (size : Nat) (x : Bytes) :
    (leftPad size x).length = if 0 < x.length ∧ x.length < size then size else x.length := by
  unfold leftPad
  split
  · simp only [List.length_append, List.length_replicate]; omega
  · rfl

theorem length_set_has (h : GoMap) (k v : GoVal) (hh : h.lookup k ≠ none) :
    (h.set k v).length = h.length := by
  unfold GoMap.set GoMap.has
  cases hl : h.lookup k with
  | none => exact absurd hl hh
  | some w => simp

theorem padStep_inv {m : GoMap} (n : Int) (hn : int64Range n) {size : Nat} (hs : size ≤ 66)
    (hf : KeyMap m) (hok : LabelsOK m) :
    KeyMap (padStep size n m) ∧ LabelsOK (padStep size n m) ∧ (padStep size n m).length = m.length := by
  unfold padStep
  split
  · rename_i hc
    refine ⟨hf.set (keyLabel_lbl n hn) ?_, labelsOK_set hok hf.normal (keyLabel_lbl n hn).normalize _, ?_⟩
    · simp only [KVal]
      rw [leftPad_length, if_pos hc]
      omega
    · apply length_set_has
      intro hnone
      rw [hnone] at hc
      exact absurd hc.1 (Nat.lt_irrefl 0)
  · exact ⟨hf, hok, rfl⟩

theorem marshalMap_inv {k : Key} (hk : KeyFlat k) {m : GoMap} (hm : k.marshalMap = some m) :
    KeyMap m ∧ LabelsOK m ∧ m.length ≤ k.params.length + 5 := by
  obtain ⟨-, rfl⟩ := (marshalMap_eq_some_iff k hk.params.normal m).mp hm
  have h0 := setAll_ind (fun a => KeyMap a ∧ LabelsOK a) k.params (baseMap k)
    ⟨baseMap_keyMap hk, baseMap_labelsOK hk⟩ fun a e he ⟨ha1, ha2⟩ =>
      ⟨ha1.set (hk.params e he).1 (hk.params e he).2,
        labelsOK_set ha2 ha1.normal (hk.params e he).1.normalize e.2⟩
  have hlen : (setAll (baseMap k) k.params).length ≤ k.params.length + 5 := by
    have := length_setAll k.params (baseMap k)
    have := baseMap_length k
    omega
  split
  · have s1 := padStep_inv (-2) (by decide) (curveSize_le k.crv) h0.1 h0.2
    have s2 := padStep_inv (-3) (by decide) (curveSize_le k.crv) s1.1 s1.2.1
    exact ⟨s2.1, s2.2.1, by rw [s2.2.2, s1.2.2]; exact hlen⟩
  · exact ⟨h0.1, h0.2, hlen⟩

/-! ## `Key.UnmarshalCBOR` on the decoded map -/

/-- the entries left for the parameter loop -/
def erase5 (tmp : GoMap) : GoMap :=
  ((((tmp.erase (lbl 1)).erase (lbl 2)).erase (lbl 3)).erase (lbl 4)).erase (lbl 5)

theorem lookup_erase5_other (tmp : GoMap) (l : GoVal) (h : ¬ isCommon l) :
    (erase5 tmp).lookup l = tmp.lookup l := by
  unfold isCommon at h
  unfold erase5
  rw [lookup_erase_other _ 5 l (fun e => h (Or.inr (Or.inr (Or.inr (Or.inr e))))),
    lookup_erase_other _ 4 l (fun e => h (Or.inr (Or.inr (Or.inr (Or.inl e))))),
    lookup_erase_other _ 3 l (fun e => h (Or.inr (Or.inr (Or.inl e)))),
    lookup_erase_other _ 2 l (fun e => h (Or.inr (Or.inl e))),
    lookup_erase_other _ 1 l (fun e => h (Or.inl e))]

theorem lookup_erase5_common (tmp : GoMap) (l : GoVal) (h : isCommon l) :
    (erase5 tmp).lookup l = none := by
  unfold erase5
  rcases h with h | h | h | h | h <;> subst h
  · exact lookup_erase_none _ _ _ (lookup_erase_none _ _ _ (lookup_erase_none _ _ _
      (lookup_erase_none _ _ _ (lookup_erase_same _ _))))
  · exact lookup_erase_none _ _ _ (lookup_erase_none _ _ _ (lookup_erase_none _ _ _
      (lookup_erase_same _ _)))
  · exact lookup_erase_none _ _ _ (lookup_erase_none _ _ _ (lookup_erase_same _ _))
  · exact lookup_erase_none _ _ _ (lookup_erase_same _ _)
  · exact lookup_erase_same _ _

theorem erase5_sublist (tmp : GoMap) : (erase5 tmp).Sublist tmp := by
  unfold erase5 GoMap.erase
  exact List.filter_sublist.trans (List.filter_sublist.trans (List.filter_sublist.trans
    (List.filter_sublist.trans List.filter_sublist)))

theorem mem_erase5 {tmp : GoMap} {e : GoVal × GoVal} (h : e ∈ erase5 tmp) : e ∈ tmp :=
  (erase5_sublist tmp).subset h

theorem lookup_retype (kty : Int) (rest : GoMap) (l : GoVal) :
    GoMap.lookup (rest.map (retypeEntry kty)) l = (rest.lookup l).map (retypeVal kty l) :=
  lookup_map_val (retypeVal kty) rest l

theorem lookup_retype_erase5_common (kty : Int) (tmp : GoMap) {l : GoVal} (hc : isCommon l) :
    GoMap.lookup ((erase5 tmp).map (retypeEntry kty)) l = none := by
  obtain ⟨i, hi, rfl⟩ := (isCommon_iff l).mp hc
  rw [lookup_retype,
    lookup_erase5_common _ _ hc]
  rfl

theorem decodeOps_ints (l : List Int) : decodeOps (l.map (fun o => GoVal.int .i64 o)) = some l := by
  induction l with
  | nil => rfl
  | cons o r ih => simp only [List.map_cons, decodeOps, ih, Option.map_some]

theorem baseMap_congr (k k2 : Key) (e1 : k2.kty = k.kty) (e2 : k2.id = k.id) (e3 : k2.alg = k.alg)
    (e4 : k2.ops = k.ops) (e5 : k2.baseIV = k.baseIV) : baseMap k2 = baseMap k := by
  unfold baseMap
  rw [e1, e2, e3, e4, e5]

/-- a converse of `Key.ofMap_inv`, for a map that holds under the labels 1 … 5 what `baseMap k`
    holds, as the decoder types it (not an equivalence: `Key.ofMap` also reads a typed-nil kid or
    Base IV, which the generic decoder never yields) -/
theorem ofMap_ok (tmp : GoMap) (k : Key)
    (hc : ∀ i : Int, 1 ≤ i ∧ i ≤ 5 → tmp.lookup (lbl i) = ((baseMap k).lookup (lbl i)).map kNorm)
    (hz : k.kty ≠ 0) (hp : keyParams k.kty (erase5 tmp) = some k.params)
    (hv : k.validate .none = none) : Key.ofMap tmp = .ok k := by
  obtain ⟨b1, b2, b3, b4, b5⟩ := baseMap_lookup k
  have h1 : tmp.lookup (lbl 1) = some (.int .i64 k.kty) :=
    (hc 1 (by decide)).trans (by rw [b1]; rfl)
  have h2 := b2 ▸ hc 2 (by decide)
  have h3 := b3 ▸ hc 3 (by decide)
  have h4 := b4 ▸ hc 4 (by decide)
  have h5 := b5 ▸ hc 5 (by decide)
  obtain ⟨kty, id, alg, ops, biv, params⟩ := k
  unfold erase5 at hp
  unfold Key.ofMap
  rw [h1]
  simp only [hz, if_false, paramBytes, h2, h3, h4, h5]
  by_cases ha : alg = 0
  · subst ha
    cases id <;> cases ops <;> cases biv <;>
      simp [Lk.getD, kNorm, normVal, Function.comp_def, decodeOps_ints, hp, hv]
  · cases id <;> cases ops <;> cases biv <;>
      simp [ha, Lk.getD, kNorm, normVal, Function.comp_def, decodeOps_ints, hp, hv]

/-! ## `validate` across the round trip -/

theorem leftPad_len_zero (s : Nat) (x : Bytes) : (leftPad s x).length = 0 ↔ x.length = 0 := by
  rw [leftPad_length]
  split <;> omega

theorem leftPad_len_gt (s : Nat) (x : Bytes) : (leftPad s x).length > s ↔ x.length > s := by
  rw [leftPad_length]
  split <;> omega

/-- what the decoded key's `ParamBytes` return, relative to the encoded key's -/
def wirePbytes (k : Key) (n : Int) : Bytes :=
  if k.kty = 2 ∧ (n = -2 ∨ n = -3) then leftPad (curveSize k.crv) (k.pbytes n) else k.pbytes n

/-- `validate` only looks at kty, alg, the curve (EC2 / OKP), the lengths of the byte-string
    parameters -1 … -4, in a way the EC2 coordinate padding does not disturb, and (since e8483d3)
    the type class of the EC2 / OKP parameters -2 … -4: absent, byte string, boolean, other -/
theorem validate_transfer (k k' : Key) (op : KOp) (hkty : k'.kty = k.kty) (halg : k'.alg = k.alg)
    (hcrv : k.kty = 1 ∨ k.kty = 2 → k'.crv = k.crv)
    (hp : ∀ n : Int, -4 ≤ n → n < 0 → k'.pbytes n = wirePbytes k n)
    (ht : k.kty = 1 ∨ k.kty = 2 → ∀ n : Int, -4 ≤ n → n < -1 → ∀ b,
      k'.paramIsBstr n b = k.paramIsBstr n b) :
    k'.validate op = k.validate op := by
  have p1 := hp (-1) (by decide) (by decide)
  have p2 := hp (-2) (by decide) (by decide)
  have p3 := hp (-3) (by decide) (by decide)
  have p4 := hp (-4) (by decide) (by decide)
  unfold wirePbytes at p1 p2 p3 p4
  unfold Key.validate Key.deriveAlgorithm
  by_cases h2 : k.kty = 2
  · have hc := hcrv (Or.inr h2)
    have t2 := ht (Or.inr h2) (-2) (by decide) (by decide) false
    have t3 := ht (Or.inr h2) (-3) (by decide) (by decide) true
    have t4 := ht (Or.inr h2) (-4) (by decide) (by decide) false
    rw [if_pos ⟨h2, Or.inl rfl⟩] at p2
    rw [if_pos ⟨h2, Or.inr rfl⟩] at p3
    rw [if_neg (fun h => by have := h.2; omega)] at p4
    simp only [hkty, halg, hc, h2, if_true, p2, p3, p4, t2, t3, t4, leftPad_len_zero,
      leftPad_len_gt]
  · rw [if_neg (fun h => h2 h.1)] at p1 p2 p3 p4
    by_cases h1 : k.kty = 1
    · have hc := hcrv (Or.inl h1)
      have t2 := ht (Or.inl h1) (-2) (by decide) (by decide) false
      have t4 := ht (Or.inl h1) (-4) (by decide) (by decide) false
      simp only [hkty, halg, hc, h1, p2, p4, t2, t4, show ((1 : Int) = 2) = False from by decide,
        if_false, if_true]
    · simp only [hkty, halg, h2, h1, p1, if_false]

/-! ## the round trip -/

/-- the parameter `Key.UnmarshalCBOR` stores under label `l` after a round trip: what
    `Key.MarshalCBOR` put on the wire (`wireLookup`), as the generic decoder types it (`kNorm`),
    the curve of an EC2 / OKP key retyped to `Curve` (`retypeVal`) -/
def wireParam (k : Key) (l : GoVal) : Option GoVal :=
  (wireLookup k l).map (fun v => retypeVal k.kty l (kNorm v))

theorem optBytes_retype_norm (kty : Int) (l : GoVal) (o : Option GoVal) :
    optBytes (o.map (fun v => retypeVal kty l (kNorm v))) = optBytes o := by
  cases o with
  | none => rfl
  | some v =>
    simp only [Option.map_some, retypeVal]
    split
    · cases v <;> rfl
    · cases v <;> rfl

theorem optBytes_pad (s : Nat) (o : Option GoVal) :
    optBytes (o.map (padVal s)) = leftPad s (optBytes o) := by
  have h0 : leftPad s [] = [] := by simp [leftPad]
  cases o with
  | none => exact h0.symm
  | some v =>
    cases v
    case bytes => rfl
    all_goals exact h0.symm

theorem wireLookup_common (k : Key) (hd : ParamsDisjoint k) (i : Int) (hi : 1 ≤ i ∧ i ≤ 5) :
    wireLookup k (lbl i) = (baseMap k).lookup (lbl i) := by
  have hp := (paramsDisjoint_iff k).mp hd _ ((isCommon_iff _).mpr ⟨i, hi, rfl⟩)
  unfold wireLookup
  simp only [hp, GoVal.keyEq_lbl_lbl, decide_eq_true_eq]
  rw [if_neg (fun h => by have := h.2; omega)]

/-- a valid EC2 / OKP key has a non-zero `crv`, so label -1 holds a signed integer, an `Algorithm`
    or a `Curve`, which `Key.MarshalCBOR` stores as it is -/
theorem wireLookup_crv (k : Key) (hv : k.validate .none = none) (h12 : k.kty = 1 ∨ k.kty = 2) :
    ∃ v, wireLookup k (lbl (-1)) = some v ∧ kNorm v = .int .i64 k.crv := by
  have h : k.crv ≠ 0 :=
    h12.elim (fun h => (C15.validate_okp k .none hv h).1)
      (fun h => (C15.validate_ec2 k .none hv h).1)
  rw [wireLookup_neg k (-1) (by decide), if_neg (fun h => by have := h.2; omega)]
  unfold Key.crv paramInt at h ⊢
  cases hl : k.params.lookup (lbl (-1)) with
  | none => rw [hl] at h; exact absurd rfl h
  | some v =>
    rw [hl] at h
    refine ⟨v, rfl, ?_⟩
    cases v <;> try (exact absurd rfl h)
    case int kd n =>
      cases hs : kd.signed
      · simp only [hs] at h; exact absurd rfl h
      · simp only [hs, if_true, Lk.getD, kNorm, normVal]
    case alg n => rfl
    case crv n => rfl

theorem lookup_kNormEntry {g : GoMap} (hkm : KeyMap g) (l : GoVal) :
    GoMap.lookup (g.map kNormEntry) l = (g.lookup l).map kNorm := by
  have : g.map kNormEntry = g.map (fun e => (e.1, kNorm e.2)) := by
    apply List.map_congr_left
    intro e he
    simp only [kNormEntry, (hkm e he).1.normVal_eq]
  rw [this]
  exact lookup_map_val (fun _ => kNorm) g l

/-- the generically decoded map holds, under every label, what `Key.MarshalCBOR` stored there, as
    the decoder types it (needs no hypothesis on the common labels or on validity) -/
theorem decoded_lookup {k : Key} (hk : KeyFlat k) {m : GoMap} (hm : k.marshalMap = some m)
    (l : GoVal) :
    GoMap.lookup ((sortEntries m).map kNormEntry) l = (wireLookup k l).map kNorm := by
  obtain ⟨hkm, hok, _⟩ := marshalMap_inv hk hm
  rw [lookup_kNormEntry (fun e he => hkm e ((sortEntries_perm m).mem_iff.mp he)),
    ← C13.goLookup_perm m (sortEntries m) (sortEntries_perm m).symm hok l,
    marshalMap_lookup k m hm hk.params.normal]

theorem marshalMap_some (k : Key) (hn : ∀ e ∈ k.params, normalizeLabel e.1 = some e.1)
    (hp : k.params.Pairwise (fun a b => a.1.keyEq b.1 = false)) : ∃ m, k.marshalMap = some m :=
  ⟨_, (marshalMap_eq_some_iff k hn _).mpr ⟨hp, rfl⟩⟩

theorem retype_kval (kty : Int) (l : GoVal) {v : GoVal} (hv : KVal v) : KVal (retypeVal kty l v) := by
  unfold retypeVal
  split
  · split
    · simp only [KVal] at hv ⊢; exact hv
    · exact hv
  · exact hv

theorem KeyMap.normEntry {g : GoMap} (hkm : KeyMap g) : KeyMap (g.map kNormEntry) := by
  intro e he
  obtain ⟨e0, he0, rfl⟩ := List.mem_map.mp he
  simp only [kNormEntry, (hkm e0 he0).1.normVal_eq]
  exact ⟨(hkm e0 he0).1, kNorm_kVal (hkm e0 he0).2⟩

/-- no EC2 / OKP coordinate (labels -2 … -4) is the typed nil `[]byte(nil)`; why the round trip
    needs it: `key_marshal_unmarshal_needs_no_nil_coords` -/
def NoNilCoords (k : Key) : Prop :=
  k.kty = 1 ∨ k.kty = 2 → ∀ n : Int, -4 ≤ n → n < -1 → k.params.lookup (lbl n) ≠ some .bytesNil

/-- the type class `paramIsBstr` tests survives serialisation and parsing, a typed-nil `[]byte`
    (which comes back as `nil`) excepted -/
theorem paramIsBstr_wire (k k' : Key) (n : Int) (hn : n < -1) (b : Bool)
    (hnn : k.params.lookup (lbl n) ≠ some .bytesNil)
    (hl : k'.params.lookup (lbl n) = wireParam k (lbl n)) :
    k'.paramIsBstr n b = k.paramIsBstr n b := by
  have hne : (lbl (-1)).keyEq (lbl n) = false := by
    rw [GoVal.keyEq_lbl_lbl]; simp; omega
  unfold Key.paramIsBstr
  rw [hl, wireParam, wireLookup_neg k n (by omega)]
  have hrt : ∀ v, retypeVal k.kty (lbl n) v = v := by
    intro v; simp [retypeVal, hne]
  cases hlk : k.params.lookup (lbl n) with
  | none => by_cases hc : (k.kty = 2 ∧ (n = -2 ∨ n = -3)) <;> simp [hc]
  | some v =>
    have hv : v ≠ .bytesNil := fun h => hnn (by rw [hlk, h])
    by_cases hc : (k.kty = 2 ∧ (n = -2 ∨ n = -3))
    · simp only [if_pos hc, Option.map_some, hrt]
      cases v
      case bytesNil => exact absurd rfl hv
      all_goals rfl
    · simp only [if_neg hc, Option.map_some, hrt]
      cases v
      case bytesNil => exact absurd rfl hv
      all_goals rfl

/-- a key none of whose parameters is a typed-nil `[]byte` (every key built by the constructors,
    every key the decoder returns) -/
theorem noNilCoords_of_vals {k : Key} (h : ∀ e ∈ k.params, e.2 ≠ .bytesNil) : NoNilCoords k := by
  intro _ n _ _ hl
  exact h _ (GoMap.mem_of_lookup hl) rfl

/-! ### bytes -/

theorem flat_modelled {v : GoVal} (h : FlatVal v) : v.modelled = true := by
  cases v <;> simp only [FlatVal] at h <;> rfl

theorem modelledList_flat : ∀ (xs : List GoVal), (∀ x ∈ xs, FlatVal x) →
    GoVal.modelledList xs = true
  | [], _ => by simp only [GoVal.modelledList]
  | x :: xs, h => by
    simp only [GoVal.modelledList, flat_modelled (h x (List.mem_cons_self ..)),
      modelledList_flat xs (fun y hy => h y (List.mem_cons_of_mem _ hy)), Bool.and_self]

theorem kval_modelled {v : GoVal} (h : KVal v) : v.modelled = true := by
  rcases h.cases with h | rfl | ⟨xs, rfl, h1, _⟩
  · exact flat_modelled h
  · rfl
  · simp only [GoVal.modelled, modelledList_flat xs h1]

theorem modelledPairs_k : ∀ (g : GoMap), KMap g → GoVal.modelledPairs g = true
  | [], _ => by simp only [GoVal.modelledPairs]
  | (a, b) :: r, h => by
    have := h (a, b) (List.mem_cons_self ..)
    simp only [GoVal.modelledPairs, flat_modelled this.1.flatVal, kval_modelled this.2,
      modelledPairs_k r fun x hx => h x (List.mem_cons_of_mem _ hx), Bool.and_self]

theorem marshalAny_k {m : GoMap} (hf : KMap m) : marshalAny (.map m) = .ok (kMapWire m).bytes := by
  have : (GoVal.map m).modelled = true := by simp only [GoVal.modelled, modelledPairs_k m hf]
  simp only [marshalAny, this, Bool.not_true, Bool.false_eq_true, if_false, encodeAny_map_k encCfg hf]

theorem marshal_bytes {k : Key} (hk : KeyFlat k) (b : Bytes) :
    k.marshal = .ok b ↔ ∃ m, k.marshalMap = some m ∧ b = (kMapWire m).bytes := by
  unfold Key.marshal
  cases hm : k.marshalMap with
  | none => simp
  | some m =>
    simp only [marshalAny_k (marshalMap_inv hk hm).1.kmap, Out.ok.injEq, Option.some.injEq,
      exists_eq_left']
    exact eq_comm

theorem unmarshal_bytes {m : GoMap} (hf : KMap m) (hok : LabelsOK m) (hlen : m.length ≤ maxElems) :
    Key.unmarshal (kMapWire m).bytes = Key.ofMap ((sortEntries m).map kNormEntry) := by
  obtain ⟨_, hp, hd⟩ := kmap_roundtrip encCfg hf hok hlen
  have htag := isTagByte_of_parse_map (hp true)
  have hscan : ensureUntaggedHeaderLabels (kMapWire m).bytes none = true :=
    ensureUntagged_of_parse_false none (hp false)
  simp only [Key.unmarshal, htag, hscan, Bool.false_eq_true, if_false, Bool.not_true, hp true, hd]

/-- `Key.UnmarshalCBOR` on the bytes of the map `Key.MarshalCBOR` built returns
    a key with the same common fields and the parameters of `wireParam`, which `validate` treats
    like `k` for every operation -/
theorem key_roundtrip_core (k : Key) (hk : KeyFlat k) (hd : ParamsDisjoint k)
    (hnn : NoNilCoords k)
    (hv : k.validate .none = none) (m : GoMap) (hm : k.marshalMap = some m)
    (hlen : m.length ≤ maxElems) :
    ∃ k', Key.unmarshal (kMapWire m).bytes = .ok k' ∧
      k'.kty = k.kty ∧ k'.id = k.id ∧ k'.alg = k.alg ∧ k'.ops = k.ops ∧ k'.baseIV = k.baseIV ∧
      (∀ l, normalizeLabel l = some l → ¬ isCommon l → k'.params.lookup l = wireParam k l) ∧
      (∀ l, isCommon l → k'.params.lookup l = none) ∧
      (∀ n : Int, int64Range n → n < 0 → k'.pbytes n = wirePbytes k n) ∧
      (k.kty = 1 ∨ k.kty = 2 → k'.crv = k.crv) ∧
      (∀ op, k'.validate op = k.validate op) ∧
      KeyFlat k' ∧ k'.params.length ≤ k.params.length + 5 := by
  obtain ⟨hkm, hok, hlen5⟩ := marshalMap_inv hk hm
  have hwl := marshalMap_lookup k m hm hk.params.normal
  have hsm : ∀ e ∈ sortEntries m, e ∈ m := fun e he => (sortEntries_perm m).mem_iff.mp he
  have hlk' := decoded_lookup hk hm
  -- the common fields of the decoded map are those of `baseMap`, as the decoder types them
  have hc : ∀ i : Int, 1 ≤ i ∧ i ≤ 5 →
      GoMap.lookup ((sortEntries m).map kNormEntry) (lbl i) = ((baseMap k).lookup (lbl i)).map kNorm :=
    fun i hi => by rw [hlk', wireLookup_common k hd i hi]
  have hkz : k.kty ≠ 0 := by
    intro h0
    unfold Key.validate at hv
    simp [h0] at hv
  -- the parameter loop accepts what is left: labels are int64 or text, and under -1 an EC2 / OKP
  -- key holds its curve, which the decoder types int64
  have hpok : ∀ e ∈ erase5 ((sortEntries m).map kNormEntry), ParamOK k.kty e := by
    intro e he
    obtain ⟨e0, he0, rfl⟩ := List.mem_map.mp (mem_erase5 he)
    have hmem := hsm e0 he0
    simp only [ParamOK, kNormEntry, (hkm e0 hmem).1.normVal_eq]
    refine ⟨(hkm e0 hmem).1.shape, fun h12 hl1 => ?_⟩
    have h1 : m.lookup e0.1 = some e0.2 := (lookup_iff_mem hok hkm.normal e0.2).mpr hmem
    obtain ⟨v, hv1, hv2⟩ := wireLookup_crv k hv h12.symm
    rw [hl1, hwl, hv1] at h1
    cases h1
    exact ⟨k.crv, hv2⟩
  -- the decoded key, kept opaque so that `k'.params` stays a term the rewrites below can match
  obtain ⟨k', e1, e2, e3, e4, e5, e6⟩ : ∃ k' : Key, k'.kty = k.kty ∧ k'.id = k.id ∧
      k'.alg = k.alg ∧ k'.ops = k.ops ∧ k'.baseIV = k.baseIV ∧
      k'.params = (erase5 ((sortEntries m).map kNormEntry)).map (retypeEntry k.kty) :=
    ⟨{ k with params := (erase5 ((sortEntries m).map kNormEntry)).map (retypeEntry k.kty) },
      rfl, rfl, rfl, rfl, rfl, rfl⟩
  have hplk : ∀ l, normalizeLabel l = some l → ¬ isCommon l →
      k'.params.lookup l = wireParam k l := by
    intro l _ hc
    rw [e6, lookup_retype, lookup_erase5_other _ _ hc, hlk', wireParam, Option.map_map]
    rfl
  have hplc : ∀ l, isCommon l → k'.params.lookup l = none :=
    fun l hc => e6 ▸ lookup_retype_erase5_common _ _ hc
  have hpb : ∀ n : Int, int64Range n → n < 0 → k'.pbytes n = wirePbytes k n := by
    intro n hr hlt
    rw [pbytes_eq, hplk (lbl n) (keyLabel_lbl n hr).normalize (not_common_neg n hlt), wireParam,
      optBytes_retype_norm, wireLookup_neg k n hlt]
    unfold wirePbytes
    split
    · rw [optBytes_pad, pbytes_eq]
    · rw [pbytes_eq]
  have hcrv : k.kty = 1 ∨ k.kty = 2 → k'.crv = k.crv := by
    intro h12
    obtain ⟨v, hv1, hv2⟩ := wireLookup_crv k hv h12
    apply C14.crv_of_lookup
    rw [hplk (lbl (-1)) (keyLabel_lbl _ (by decide)).normalize (not_common_neg _ (by decide)),
      wireParam, hv1, Option.map_some, hv2, retypeVal_crv h12.symm]
  have hval : ∀ op, k'.validate op = k.validate op := fun op =>
    validate_transfer k k' op e1 e3 hcrv
      (fun n h1 h2 => hpb n (int64Range_small n (by omega) (by omega)) h2)
      (fun h12 n h1 h2 b => paramIsBstr_wire k k' n h2 b (hnn h12 n h1 h2)
        (hplk (lbl n) (keyLabel_lbl n (int64Range_small n (by omega) (by omega))).normalize
          (not_common_neg n (by omega))))
  have hkm' : KeyMap ((sortEntries m).map kNormEntry) :=
    KeyMap.normEntry (fun e he => hkm e (hsm e he))
  have hf2 : KeyFlat k' := by
    refine ⟨e1 ▸ hk.kty, e3 ▸ hk.alg, e2 ▸ hk.id, e4 ▸ hk.ops, e5 ▸ hk.baseIV, ?_⟩
    rw [e6]
    intro e he
    obtain ⟨e0, he0, rfl⟩ := List.mem_map.mp he
    have := hkm' e0 (mem_erase5 he0)
    exact ⟨this.1, retype_kval _ _ this.2⟩
  have hlen2 : k'.params.length ≤ k.params.length + 5 := by
    have h1 := (erase5_sublist ((sortEntries m).map kNormEntry)).length_le
    rw [List.length_map, sortEntries_length] at h1
    rw [e6, List.length_map]
    omega
  refine ⟨k', ?_, e1, e2, e3, e4, e5, hplk, hplc, hpb, hcrv, hval, hf2, hlen2⟩
  rw [unmarshal_bytes hkm.kmap hok hlen]
  apply ofMap_ok _ k'
  · rw [baseMap_congr k k' e1 e2 e3 e4 e5]; exact hc
  · rw [e1]; exact hkz
  · rw [e1, e6]; exact (keyParams_eq_some_iff k.kty _ _).mpr ⟨hpok, rfl⟩
  · exact (hval .none).trans hv

end KeyRT

/-! ## C14 — the COSE_Key wire round trip -/

namespace C14
open KeyRT RoundTrip

/-- `wireParam` spelt out for a parameter label: the parameter of `k` itself — x / y of an EC2 key
    left-padded — as the decoder types it, the curve retyped -/
theorem wireParam_eq (k : Key) (l : GoVal) (hc : ¬ isCommon l) :
    wireParam k l =
      (if k.kty = 2 ∧ ((lbl (-2)).keyEq l = true ∨ (lbl (-3)).keyEq l = true)
        then (k.params.lookup l).map (padVal (curveSize k.crv)) else k.params.lookup l).map
        (fun v => retypeVal k.kty l (kNorm v)) := by
  rw [wireParam, wireLookup_param k hc]

/-- for a key of the flat data model whose parameters avoid the labels of the common
    fields and which `validate` accepts, `UnmarshalCBOR(MarshalCBOR(k))` succeeds and returns the
    same kty, kid, alg, key_ops and Base IV (exactly — no nil/empty normalisation occurs in the
    model) and, under every parameter label, the value `wireParam k l`: the parameter of `k` as
    the generic decoder types it, the EC2 coordinates x / y left-padded to the curve size, the
    curve of EC2 / OKP keys retyped to `Curve`. -/
theorem key_marshal_unmarshal (k : Key) (hk : KeyFlat k) (hs : KeySize k) (hd : ParamsDisjoint k)
    (hnn : NoNilCoords k)
    (hv : k.validate .none = none) (b : Bytes) (hb : k.marshal = .ok b) :
    ∃ k', Key.unmarshal b = .ok k' ∧
      k'.kty = k.kty ∧ k'.id = k.id ∧ k'.alg = k.alg ∧ k'.ops = k.ops ∧ k'.baseIV = k.baseIV ∧
      (∀ l, normalizeLabel l = some l → ¬ isCommon l → k'.params.lookup l = wireParam k l) ∧
      (∀ l, isCommon l → k'.params.lookup l = none) ∧
      (∀ n : Int, int64Range n → n < 0 → k'.pbytes n = wirePbytes k n) ∧
      (k.kty = 1 ∨ k.kty = 2 → k'.crv = k.crv) ∧
      k'.validate .none = none ∧ KeyFlat k' ∧ k'.params.length ≤ k.params.length + 5 := by
  obtain ⟨m, hm, rfl⟩ := (marshal_bytes hk b).mp hb
  obtain ⟨k', h0, h1, h2, h3, h4, h5, h7, h8, h9, h10, hval, h11, h12⟩ :=
    key_roundtrip_core k hk hd hnn hv m hm (Nat.le_trans (marshalMap_inv hk hm).2.2 hs)
  exact ⟨k', h0, h1, h2, h3, h4, h5, h7, h8, h9, h10, (hval .none).trans hv, h11, h12⟩

/-- the same, for one parameter that is not an EC2 coordinate: it comes back under its label
    as the decoder types it (curve retyped) -/
theorem key_param_roundtrip (k : Key) (hk : KeyFlat k) (hs : KeySize k) (hd : ParamsDisjoint k)
    (hnn : NoNilCoords k)
    (hv : k.validate .none = none) (b : Bytes) (hb : k.marshal = .ok b) (k' : Key)
    (hu : Key.unmarshal b = .ok k') (l v : GoVal) (hm : (l, v) ∈ k.params)
    (hxy : k.kty = 2 → l ≠ lbl (-2) ∧ l ≠ lbl (-3)) :
    k'.params.lookup l = some (retypeVal k.kty l (kNorm v)) := by
  obtain ⟨k'', hu', _, _, _, _, _, hplk, _⟩ := key_marshal_unmarshal k hk hs hd hnn hv b hb
  rw [hu] at hu'
  cases hu'
  have hl := (hk.params _ hm).1.normalize
  -- `MarshalCBOR` succeeded, so no parameter label occurs twice
  obtain ⟨m, hmm, _⟩ := (marshal_bytes hk b).mp hb
  have hp := ((marshalMap_eq_some_iff k hk.params.normal m).mp hmm).1
  have hlk : k.params.lookup l = some v :=
    (lookup_iff_mem (labelsOK_of_keyMap_pairwise hk.params.normal hp) hk.params.normal v).mpr hm
  have hc : ¬ isCommon l := fun hc => by
    rw [(paramsDisjoint_iff k).mp hd l hc] at hlk
    cases hlk
  rw [hplk l hl hc, wireParam_eq k l hc, if_neg, hlk]
  · rfl
  · intro ⟨h2, h⟩
    obtain ⟨n2, n3⟩ := hxy h2
    rcases h with h | h
    · exact n2 ((GoVal.lbl_keyEq_iff _ l).mp h)
    · exact n3 ((GoVal.lbl_keyEq_iff _ l).mp h)

/-! ### keys built from Go keys -/

theorem ecParams_disjoint (c : Int) (x y : Nat) (d : Option Nat) (i : Int) (hi : 1 ≤ i) :
    (ecParams c x y d).lookup (lbl i) = none := by
  have h1 : (-1 : Int) ≠ i := by omega
  have h2 : (-2 : Int) ≠ i := by omega
  have h3 : (-3 : Int) ≠ i := by omega
  have h4 : (-4 : Int) ≠ i := by omega
  cases d <;> simp [ecParams, GoMap.lookup_cons, GoVal.keyEq_lbl_lbl, lookup_nil, h1, h2, h3, h4]

/-- every key `NewKeyEC2` returns lies in the flat data model -/
theorem keyFromEC_flat (bits x y : Nat) (d : Option Nat) (k : Key)
    (hk : keyFromEC bits x y d = .ok k) : KeyFlat k ∧ KeySize k ∧ ParamsDisjoint k := by
  obtain ⟨hc, hkeq, hv⟩ := keyFromEC_inv bits x y d k hk
  obtain ⟨hcrv, hpx, hpy, hpd⟩ := keyFromEC_pbytes bits x y d k hk
  -- `validate` bounds the stored x, y and d by the curve size, which is at most 66
  obtain ⟨_, _, _, _, _, hlen⟩ := C15.validate_ec2 k .none hv (by rw [hkeq])
  obtain ⟨hlx, hly, hld⟩ := hlen (by rw [hcrv]; exact curveSize_pos_of _ hc)
  rw [hpx] at hlx
  rw [hpy] at hly
  have h66 := curveSize_le k.crv
  have hcr : int64Range (curveOfBits bits) := by
    rcases hc with h | h | h <;> rw [h] <;> decide
  have hpm : KeyMap (ecParams (curveOfBits bits) x y d) := by
    have e1 : KeyLabel (lbl (-1)) ∧ KVal (.crv (curveOfBits bits)) := ⟨keyLabel_lbl _ (by decide), hcr⟩
    have e2 : KeyLabel (lbl (-2)) ∧ KVal (.bytes (ec2Coordinate x (curveSize (curveOfBits bits)))) :=
      ⟨keyLabel_lbl _ (by decide), by simp only [KVal]; omega⟩
    have e3 : KeyLabel (lbl (-3)) ∧ KVal (.bytes (ec2Coordinate y (curveSize (curveOfBits bits)))) :=
      ⟨keyLabel_lbl _ (by decide), by simp only [KVal]; omega⟩
    cases d with
    | none => exact .cons e1 (.cons e2 (.cons e3 .nil))
    | some dv =>
      rw [hpd dv rfl] at hld
      exact .cons e1 (.cons e2 (.cons e3
        (.cons ⟨keyLabel_lbl _ (by decide), by simp only [KVal]; omega⟩ .nil)))
  rw [hkeq]
  refine ⟨keyFlat_of_params (by decide) ?_ hpm, ?_, (paramsDisjoint_iff _).mpr fun l hl => ?_⟩
  · rcases hc with h | h | h <;> rw [h] <;> decide
  · show (ecParams (curveOfBits bits) x y d).length + 5 ≤ maxElems
    cases d <;> simp [ecParams, maxElems]
  · obtain ⟨i, hi, rfl⟩ := (isCommon_iff l).mp hl
    exact ecParams_disjoint _ _ _ _ i hi.1

theorem marshal_of_marshalMap {k : Key} (hk : KeyFlat k) {m : GoMap} (hm : k.marshalMap = some m) :
    k.marshal = .ok (kMapWire m).bytes :=
  (marshal_bytes hk _).mpr ⟨m, hm, rfl⟩

/-- an EC2 key built from a Go key (`NewKeyEC2` via `NewKeyFromPublic/Private`) survives
    `MarshalCBOR` / `UnmarshalCBOR`: same kty, alg and curve, the coordinates read back are the
    numbers put in, and x and y are stored at exactly the curve's byte size — for every key the
    constructor accepts, a zero coordinate included (no `0 < x`, `0 < y` hypotheses): the re-parsed
    x and y are `FillBytes` of the coordinates — those of the in-memory key (`X.Bytes()`, or
    `curveSize` zero octets for 0) left-padded to the curve size by `MarshalCBOR`. -/
theorem ec2_key_wire_roundtrip (bits x y : Nat) (d : Option Nat) (k : Key)
    (hk : keyFromEC bits x y d = .ok k) :
    ∃ b k', k.marshal = .ok b ∧ Key.unmarshal b = .ok k' ∧
      k'.kty = 2 ∧ k'.alg = k.alg ∧ k'.id = none ∧ k'.ops = none ∧ k'.baseIV = none ∧
      k'.crv = curveOfBits bits ∧
      k'.ecCoords = (x, y, d.getD 0) ∧
      k'.pbytes (-2) = fillBytes (curveSize (curveOfBits bits)) x ∧
      k'.pbytes (-3) = fillBytes (curveSize (curveOfBits bits)) y ∧
      k'.pbytes (-4) = (d.map natBytes).getD [] ∧
      (k'.pbytes (-2)).length = curveSize (curveOfBits bits) ∧
      (k'.pbytes (-3)).length = curveSize (curveOfBits bits) ∧
      k'.pbytes (-2) = leftPad (curveSize (curveOfBits bits)) (k.pbytes (-2)) ∧
      k'.pbytes (-3) = leftPad (curveSize (curveOfBits bits)) (k.pbytes (-3)) ∧
      k'.validate .none = none ∧
      (∀ op, k'.validate op = k.validate op) := by
  obtain ⟨hflat, hsize, hdis⟩ := keyFromEC_flat bits x y d k hk
  obtain ⟨hc, hkeq, hv, hxlt, hylt⟩ := keyFromEC_inv_fits bits x y d k hk
  obtain ⟨hcrv, hpx, hpy, hpd⟩ := keyFromEC_pbytes bits x y d k hk
  have hpar : k.params = ecParams (curveOfBits bits) x y d := by rw [hkeq]
  have h2 : k.kty = 2 := by rw [hkeq]
  obtain ⟨m, hm⟩ := keyFromEC_marshal_some bits x y d k hk
  have hb := marshal_of_marshalMap hflat hm
  have hnn : NoNilCoords k := by
    apply noNilCoords_of_vals
    rw [hpar]
    -- the values are a `Curve` and byte strings
    cases d <;> simp [ecParams]
  obtain ⟨k', hu, e1, e2, e3, e4, e5, _, _, hpb, hcr, hval, _⟩ :=
    key_roundtrip_core k hflat hdis hnn hv m hm (Nat.le_trans (marshalMap_inv hflat hm).2.2 hsize)
  have q2 : k'.pbytes (-2) = fillBytes (curveSize (curveOfBits bits)) x := by
    rw [hpb (-2) (by decide) (by decide), wirePbytes, if_pos ⟨h2, Or.inl rfl⟩, hpx, hcrv,
      leftPad_ec2Coordinate _ _ hxlt]
  have q3 : k'.pbytes (-3) = fillBytes (curveSize (curveOfBits bits)) y := by
    rw [hpb (-3) (by decide) (by decide), wirePbytes, if_pos ⟨h2, Or.inr rfl⟩, hpy, hcrv,
      leftPad_ec2Coordinate _ _ hylt]
  have q4 : k'.pbytes (-4) = (d.map natBytes).getD [] := by
    rw [hpb (-4) (by decide) (by decide), wirePbytes, if_neg (fun h => by have := h.2; omega)]
    cases d with
    | some dv => exact hpd dv rfl
    | none =>
      rw [pbytes_eq, hpar]
      simp [ecParams, GoMap.lookup_cons, GoVal.keyEq_lbl_lbl, lookup_nil, optBytes]
  refine ⟨_, k', hb, hu, by rw [e1, h2], e3, by rw [e2, hkeq], by rw [e4, hkeq], by rw [e5, hkeq],
    by rw [hcr (Or.inr h2), hcrv], ?_, q2, q3, q4, by rw [q2, fillBytes_length],
    by rw [q3, fillBytes_length], by rw [q2, hpx, leftPad_ec2Coordinate _ _ hxlt],
    by rw [q3, hpy, leftPad_ec2Coordinate _ _ hylt], (hval .none).trans hv, hval⟩
  unfold Key.ecCoords
  rw [q2, q3, q4, os2ip_fillBytes _ _ hxlt, os2ip_fillBytes _ _ hylt]
  cases d with
  | none => rfl
  | some dv => simp only [Option.map_some, Option.getD_some, os2ip_natBytes]

/-- converting back: `PublicKey()` succeeds on every EC2 key built from a Go key, both on the
    in-memory key and on the key re-parsed from its serialisation — whatever the coordinates.  In
    particular neither fails with `ErrEC2NoPub`. -/
theorem ec2_key_wire_publicKey (bits x y : Nat) (d : Option Nat) (k : Key)
    (hk : keyFromEC bits x y d = .ok k) (b : Bytes) (hb : k.marshal = .ok b) (k' : Key)
    (hu : Key.unmarshal b = .ok k') :
    k.publicKey = none ∧ k'.validate .verify = none ∧ k'.publicKey = none := by
  obtain ⟨hc, _, _⟩ := keyFromEC_inv bits x y d k hk
  obtain ⟨hver, hpub⟩ := keyFromEC_publicKey bits x y d k hk
  obtain ⟨b0, k0, hb0, hu0, h2, _, _, _, _, hcrv, _, _, _, _, _, _, _, _, _, hval⟩ :=
    ec2_key_wire_roundtrip bits x y d k hk
  rw [hb] at hb0
  cases hb0
  rw [hu] at hu0
  cases hu0
  have hv' : k'.validate .verify = none := by rw [hval, hver]
  exact ⟨hpub, hv', publicKey_of_ec2 k' h2 (by rw [hcrv]; exact hc) hv'⟩

/-- non-vacuity, and the repaired defect end to end: the P-256 key with x = 0 (y = 1; the
    model's `validate`, like go-cose's, does not check the curve equation).  The constructor
    accepts it and holds x as 32 zero octets; `MarshalCBOR` succeeds; `UnmarshalCBOR` accepts the
    bytes; the re-parsed x is again 32 zero octets and y has 32 octets; the coordinates read back
    are (0, 1); and `PublicKey()` returns no error — before the repair x was the empty string
    (`big.Int.Bytes()` of 0) and the conversion back failed with `ErrEC2NoPub`. -/
theorem ec2_zero_coordinate_roundtrip :
    ∃ k b k', keyFromEC 256 0 1 none = .ok k ∧
      k.pbytes (-2) = List.replicate 32 0 ∧
      k.marshal = .ok b ∧ Key.unmarshal b = .ok k' ∧
      k'.pbytes (-2) = List.replicate 32 0 ∧ (k'.pbytes (-3)).length = 32 ∧
      k'.ecCoords = (0, 1, 0) ∧
      k.publicKey = none ∧
      k'.validate .verify = none ∧ k'.publicKey = none ∧ k'.publicKey ≠ some .ec2NoPub := by
  have hk := keyFromEC_ok 256 0 1 none (by decide) (by decide) (by decide) (by intro dv h; cases h)
  obtain ⟨b, k', hb, hu, _, _, _, _, _, _, hco, q2, _, _, _, l3, _, _, _, _⟩ :=
    ec2_key_wire_roundtrip 256 0 1 none _ hk
  obtain ⟨_, hx0, _, _⟩ := keyFromEC_pbytes 256 0 1 none _ hk
  obtain ⟨p0, pv, p1⟩ := ec2_key_wire_publicKey 256 0 1 none _ hk b hb k' hu
  have e32 : curveSize (curveOfBits 256) = 32 := by decide
  rw [e32] at q2 l3
  rw [fillBytes_zero] at q2
  refine ⟨_, b, k', hk, ?_, hb, hu, q2, l3, hco, p0, pv, p1, ?_⟩
  · rw [hx0, e32, ec2Coordinate_zero]
  · rw [p1]; intro h; cases h

/-- the parameter list `NewKeyOKP` builds for Ed25519 -/
def edParams (x : Bytes) (d : Option Bytes) : GoMap :=
  let params : GoMap := [(lbl (-1), .crv 6), (lbl (-2), .bytes x)]
  match d with | some dv => params ++ [(lbl (-4), .bytes dv)] | none => params

theorem keyFromEd_inv (x : Bytes) (d : Option Bytes) (k : Key) (hk : keyFromEd x d = .ok k) :
    k = { kty := 1, alg := -8, params := edParams x d } ∧ k.validate .none = none := by
  unfold keyFromEd at hk
  dsimp only at hk
  split at hk
  · cases hk
  · rename_i hv
    cases hk
    exact ⟨rfl, hv⟩

theorem edParams_lookups (x : Bytes) (d : Option Bytes) :
    (edParams x d).lookup (lbl (-1)) = some (.crv 6) ∧
    (edParams x d).lookup (lbl (-2)) = some (.bytes x) ∧
    (edParams x d).lookup (lbl (-4)) = d.map GoVal.bytes ∧
    (∀ i : Int, 1 ≤ i → (edParams x d).lookup (lbl i) = none) := by
  refine ⟨?_, ?_, ?_, ?_⟩
  · cases d <;> simp [edParams, GoMap.lookup_cons, GoVal.keyEq_lbl_lbl]
  · cases d <;> simp [edParams, GoMap.lookup_cons, GoVal.keyEq_lbl_lbl]
  · cases d <;> simp [edParams, GoMap.lookup_cons, GoVal.keyEq_lbl_lbl, lookup_nil]
  · intro i hi
    have h1 : (-1 : Int) ≠ i := by omega
    have h2 : (-2 : Int) ≠ i := by omega
    have h4 : (-4 : Int) ≠ i := by omega
    cases d <;> simp [edParams, GoMap.lookup_cons, GoVal.keyEq_lbl_lbl, lookup_nil, h1, h2, h4]

theorem edParams_distinct (x : Bytes) (d : Option Bytes) :
    (edParams x d).Pairwise (fun a b => a.1.keyEq b.1 = false) := by
  cases d <;> simp [edParams, GoVal.keyEq_lbl_lbl]

/-- an Ed25519 key built from a Go key survives `MarshalCBOR` / `UnmarshalCBOR`: same kty,
    alg, curve, and the same x and d byte strings. -/
theorem okp_key_wire_roundtrip (x : Bytes) (d : Option Bytes) (k : Key)
    (hk : keyFromEd x d = .ok k) :
    ∃ b k', k.marshal = .ok b ∧ Key.unmarshal b = .ok k' ∧
      k'.kty = 1 ∧ k'.alg = -8 ∧ k'.id = none ∧ k'.ops = none ∧ k'.baseIV = none ∧
      k'.crv = 6 ∧ k'.pbytes (-2) = x ∧ k'.pbytes (-4) = d.getD [] ∧
      k'.deriveAlgorithm = some (-8) ∧ k'.validate .none = none := by
  obtain ⟨hkeq, hv⟩ := keyFromEd_inv x d k hk
  obtain ⟨l1, l2, l4, ldis⟩ := edParams_lookups x d
  have hpar : k.params = edParams x d := by rw [hkeq]
  have h1 : k.kty = 1 := by rw [hkeq]
  rw [← hpar] at l1 l2 l4 ldis
  have hcrv := crv_of_lookup k _ l1
  have hpx := pbytes_of_lookup k _ _ l2
  have hpd : k.pbytes (-4) = d.getD [] := by
    rw [pbytes_eq, l4]; cases d <;> rfl
  obtain ⟨_, _, _, _, hx32, hd32⟩ := C15.validate_okp k .none hv h1
  rw [hpx] at hx32
  rw [hpd] at hd32
  have hpm : KeyMap (edParams x d) := by
    have e1 : KeyLabel (lbl (-1)) ∧ KVal (.crv 6) :=
      ⟨keyLabel_lbl _ (by decide), show int64Range 6 by decide⟩
    have e2 : KeyLabel (lbl (-2)) ∧ KVal (.bytes x) :=
      ⟨keyLabel_lbl _ (by decide), by simp only [KVal]; omega⟩
    cases d with
    | none => exact .cons e1 (.cons e2 .nil)
    | some dv =>
      rw [Option.getD_some] at hd32
      exact .cons e1 (.cons e2 (.cons ⟨keyLabel_lbl _ (by decide), by simp only [KVal]; omega⟩ .nil))
  have hflat : KeyFlat k := by
    rw [hkeq]
    exact keyFlat_of_params (by decide) (by decide) hpm
  have hsize : KeySize k := by
    rw [hkeq]
    show (edParams x d).length + 5 ≤ maxElems
    cases d <;> simp [edParams, maxElems]
  have hdis : ParamsDisjoint k :=
    ⟨ldis 1 (by decide), ldis 2 (by decide), ldis 3 (by decide), ldis 4 (by decide),
      ldis 5 (by decide)⟩
  obtain ⟨m, hm⟩ := marshalMap_some k hflat.params.normal (by rw [hpar]; exact edParams_distinct x d)
  have hb := marshal_of_marshalMap hflat hm
  have hnn : NoNilCoords k := by
    apply noNilCoords_of_vals
    rw [hpar]
    -- the values are a `Curve` and byte strings
    cases d <;> simp [edParams]
  obtain ⟨k', hu, e1, e2, e3, e4, e5, _, _, hpb, hcr, hval, _⟩ :=
    key_roundtrip_core k hflat hdis hnn hv m hm (Nat.le_trans (marshalMap_inv hflat hm).2.2 hsize)
  have hne : ¬ (k.kty = 2 ∧ ((-2 : Int) = -2 ∨ (-2 : Int) = -3)) := fun h => by
    rw [h1] at h; exact absurd h.1 (by decide)
  have hne4 : ¬ (k.kty = 2 ∧ ((-4 : Int) = -2 ∨ (-4 : Int) = -3)) := fun h => by
    rw [h1] at h; exact absurd h.1 (by decide)
  have hc6 : k'.crv = 6 := by rw [hcr (Or.inl h1), hcrv]
  have hk1 : k'.kty = 1 := by rw [e1, h1]
  refine ⟨_, k', hb, hu, hk1, by rw [e3, hkeq], by rw [e2, hkeq], by rw [e4, hkeq],
    by rw [e5, hkeq], hc6, ?_, ?_, ?_, (hval .none).trans hv⟩
  · rw [hpb (-2) (by decide) (by decide), wirePbytes, if_neg hne, hpx]
  · rw [hpb (-4) (by decide) (by decide), wirePbytes, if_neg hne4, hpd]
  · unfold Key.deriveAlgorithm
    rw [hk1, hc6]
    decide

end C14

/-! ## decode → encode → decode → encode -/

namespace KeyRT
open RoundTrip

theorem kNorm_idem (v : GoVal) : kNorm (kNorm v) = kNorm v := by
  cases v <;> try rfl
  case arr xs =>
    simp only [kNorm, List.map_map]
    congr 1
    apply List.map_congr_left
    intro x _
    exact normVal_normVal x

/-- retyping the curve is invisible to the encoder -/
theorem kNorm_retype_norm (kty : Int) (l v : GoVal) :
    kNorm (retypeVal kty l (kNorm v)) = kNorm v := by
  unfold retypeVal
  split
  · cases v <;> try exact kNorm_idem _
    all_goals rfl
  · exact kNorm_idem v

theorem leftPad_idem (s : Nat) (b : Bytes) : leftPad s (leftPad s b) = leftPad s b := by
  generalize hc' : leftPad s b = c
  have hl : c.length = if 0 < b.length ∧ b.length < s then s else b.length := by
    rw [← hc']; exact leftPad_length s b
  by_cases hc : 0 < b.length ∧ b.length < s
  · rw [if_pos hc] at hl
    unfold leftPad
    rw [if_neg (by omega)]
  · have hcb : c = b := by rw [← hc']; unfold leftPad; rw [if_neg hc]
    subst hcb
    unfold leftPad
    rw [if_neg hc]

/-- what the kind of a generically decoded value says about it: integers, byte strings and text
    strings are flat values, and a typed-nil `[]byte` is never decoded (`null` decodes to the
    untyped nil) -/
def DecShape : GoVal → Prop
  | .int k n => FlatVal (.int k n)
  | .bytes b => FlatVal (.bytes b)
  | .str s => FlatVal (.str s)
  | .bytesNil => False
  | _ => True

theorem decoded_shape {w : Wire} {v : GoVal} (h : decodeAny w = .ok v) (hwf : w.wf = true) :
    DecShape v := by
  have leaf : ∀ {w : Wire}, decodeAny w = .ok v → w.wf = true → Plain w = true →
      (∀ hw xs, w ≠ .arr hw xs) → (∀ hw kvs, w ≠ .map hw kvs) → DecShape v := by
    intro w h hwf hp ha hm
    have hf := flatVal_of_plain_leaf ha hm h hwf hp
    -- `DecShape` repeats `FlatVal` on byte and text strings and asks nothing of the rest
    cases v
    case bytes => exact hf
    case str => exact hf
    case bytesNil => exact hf
    all_goals trivial
  cases w with
  | uint hw n => exact leaf h hwf rfl (fun _ _ => nofun) (fun _ _ => nofun)
  | nint hw n => exact leaf h hwf rfl (fun _ _ => nofun) (fun _ _ => nofun)
  | bstr hw b => exact leaf h hwf rfl (fun _ _ => nofun) (fun _ _ => nofun)
  | tstr hw b => exact leaf h hwf rfl (fun _ _ => nofun) (fun _ _ => nofun)
  | tag hw t x => unfold decodeAny at h; cases h
  | prim hw n =>
    cases hw <;> unfold decodeAny at h
    · split at h
      · cases h; trivial
      · split at h
        · cases h; trivial
        · split at h <;> cases h <;> trivial
    all_goals cases h <;> trivial
  | arr hw xs => obtain ⟨l, -, rfl⟩ := decodeAny_arr_ok h; trivial
  | map hw kvs => obtain ⟨l, -, rfl⟩ := decodeAny_map_ok h; trivial

/-- an accepted COSE_Key was built from a generically decoded map `tmp`: its keys are pairwise
    different (the decoder refuses duplicates), it has at most `maxElems` entries, and every entry
    was decoded from a pair of well-formed items within the parser's limits, so that label and value
    have the shape of decoded values -/
theorem unmarshal_inv (b : Bytes) (k : Key) (h : Key.unmarshal b = .ok k) :
    ∃ tmp, Key.ofMap tmp = .ok k ∧ tmp.Pairwise KeyNe ∧ tmp.length ≤ maxElems ∧
      ∀ e ∈ tmp, DecShape e.1 ∧ DecShape e.2 ∧
        ∃ x : Wire, decodeAny x = .ok e.2 ∧ x.wf = true ∧ x.inLimits true 1 = true := by
  unfold Key.unmarshal at h
  split at h
  · cases h
  split at h
  · cases h
  · rename_i w kvs hp
    split at h
    · cases h
    split at h
    · rename_i tmp hd
      obtain ⟨_, hwf, hlim⟩ := parseTop_sound hp
      simp only [Wire.wf, Bool.and_eq_true, wfPairs_iff] at hwf
      simp only [Wire.inLimits, Bool.and_eq_true, decide_eq_true_eq, inLimitsPairs_iff] at hlim
      obtain ⟨t, ht, hrel, hpw⟩ := decodePairs_inv kvs [] tmp hd
      rw [List.reverse_nil, List.nil_append] at ht
      subst ht
      refine ⟨tmp, h, hpw List.Pairwise.nil,
        by rw [← hrel.length_eq]; exact hlim.1.2, fun e he => ?_⟩
      obtain ⟨p, hp, hd⟩ := hrel.mem_right e he
      exact ⟨decoded_shape hd.1 (hwf.2 p hp).1, decoded_shape hd.2.1 (hwf.2 p hp).2,
        p.2, hd.2.1, (hwf.2 p hp).2, (hlim.2 p hp).2⟩
    · cases h
    · cases h
    · cases h
  · cases h

theorem accepted_params (b : Bytes) (k : Key) (h : Key.unmarshal b = .ok k) :
    k.params.Pairwise (fun a b => a.1.keyEq b.1 = false) ∧ ParamsDisjoint k ∧
    k.validate .none = none := by
  obtain ⟨tmp, ho, hpw, _, _⟩ := unmarshal_inv b k h
  obtain ⟨_, _, _, _, _, _, hpar, hv⟩ := Key.ofMap_inv tmp k ho
  have hpe : k.params = (erase5 tmp).map (retypeEntry k.kty) :=
    ((keyParams_eq_some_iff _ _ _).mp hpar).2
  refine ⟨?_, ?_, hv⟩
  · rw [hpe, List.pairwise_map]
    exact hpw.sublist (erase5_sublist tmp)
  · exact (paramsDisjoint_iff k).mpr fun l hc => hpe ▸ lookup_retype_erase5_common _ _ hc

/-- no parameter of an accepted key is a typed-nil `[]byte` -/
theorem accepted_no_bytesNil (b : Bytes) (k : Key) (h : Key.unmarshal b = .ok k) :
    ∀ e ∈ k.params, e.2 ≠ .bytesNil := by
  obtain ⟨tmp, ho, _, _, src⟩ := unmarshal_inv b k h
  have hpe : k.params = (erase5 tmp).map (retypeEntry k.kty) :=
    ((keyParams_eq_some_iff _ _ _).mp (Key.ofMap_inv tmp k ho).2.2.2.2.2.2.1).2
  intro e he
  rw [hpe] at he
  obtain ⟨e0, he0, rfl⟩ := List.mem_map.mp he
  have h0 : e0.2 ≠ .bytesNil := fun hn => by
    have := (src e0 (mem_erase5 he0)).2.1
    rw [hn] at this
    exact this
  simp only [retypeEntry, retypeVal]
  split
  · split
    · intro hc; cases hc
    · exact h0
  · exact h0

theorem accepted_noNilCoords (b : Bytes) (k : Key) (h : Key.unmarshal b = .ok k) :
    NoNilCoords k := noNilCoords_of_vals (accepted_no_bytesNil b k h)

theorem perm_of_lookup_eq {g g' : GoMap} (hok : LabelsOK g)
    (hn : ∀ e ∈ g, normalizeLabel e.1 = some e.1) (hok' : LabelsOK g')
    (hn' : ∀ e ∈ g', normalizeLabel e.1 = some e.1)
    (h : ∀ l, normalizeLabel l = some l → g.lookup l = g'.lookup l) : g.Perm g' := by
  have nodup : ∀ {x : GoMap}, LabelsOK x → (∀ e ∈ x, normalizeLabel e.1 = some e.1) → x.Nodup :=
    fun hx hnx => (keys_nodup hx hnx).of_map Prod.fst fun _ _ hab heq => hab (congrArg _ heq)
  rw [List.perm_ext_iff_of_nodup (nodup hok hn) (nodup hok' hn')]
  intro e
  obtain ⟨l, v⟩ := e
  constructor
  · intro he
    have hl := hn _ he
    rw [← lookup_iff_mem hok' hn' v, ← h l hl]
    exact (lookup_iff_mem hok hn v).mpr he
  · intro he
    have hl := hn' _ he
    rw [← lookup_iff_mem hok hn v, h l hl]
    exact (lookup_iff_mem hok' hn' v).mpr he

theorem KMap.normEntry {h : GoMap} (hf : KMap h) : KMap (h.map kNormEntry) := by
  intro e he
  obtain ⟨e0, he0, rfl⟩ := List.mem_map.mp he
  exact ⟨flatLabel_normVal (hf e0 he0).1, kNorm_kVal (hf e0 he0).2⟩

theorem encode_kNormEntry (cfg : EncCfg) {h : GoMap} (hf : KMap h) :
    encodeAny cfg (.map (h.map kNormEntry)) = encodeAny cfg (.map h) := by
  rw [C08.encodeAny_map, C08.encodeAny_map, encodePairs_k cfg hf, encodePairs_k cfg hf.normEntry,
    List.map_map, List.length_map]
  have : (fun e => wireBytes (entryWireBy kWire e)) ∘ kNormEntry
      = fun e => wireBytes (entryWireBy kWire e) := by
    funext e
    simp only [Function.comp, entryWireBy, kNormEntry, valWire_of_normVal, kWire_kNorm]
  rw [this]

theorem labelsOK_kNormEntry {g : GoMap} (hkm : KeyMap g) (hok : LabelsOK g) :
    LabelsOK (g.map kNormEntry) :=
  labelsOK_map _ (fun e he => normalizeLabel_normVal (hkm e he).1.flat) hok

theorem padVal_nonbytes_norm (s : Nat) (v : GoVal) (h : ∀ b, v ≠ .bytes b) :
    padVal s (kNorm v) = kNorm v := by
  cases v
  case bytes => exact absurd rfl (h _)
  all_goals rfl

/-- padding, decoding, retyping and padding again changes nothing the encoder can see -/
theorem pad_cycle (s : Nat) (kty : Int) (l v : GoVal) (hl : (lbl (-1)).keyEq l = false) :
    kNorm (padVal s (retypeVal kty l (kNorm (padVal s v)))) = kNorm (padVal s v) := by
  have hr : ∀ x, retypeVal kty l x = x := by
    intro x
    unfold retypeVal
    rw [if_neg (fun h => by rw [hl] at h; exact absurd h.2 (by decide))]
  rw [hr]
  by_cases hb : ∃ b, v = .bytes b
  · obtain ⟨b, rfl⟩ := hb
    simp only [padVal, kNorm, normVal, leftPad_idem]
  · have hnb : ∀ b, v ≠ .bytes b := fun b e => hb ⟨b, e⟩
    have hp : padVal s v = v := by
      cases v
      case bytes => exact absurd rfl (hnb _)
      all_goals rfl
    rw [hp, padVal_nonbytes_norm s v hnb, kNorm_idem]

/-- after one round trip the serialised map is, up to the decoder's typing, the same -/
theorem wireLookup_roundtrip (k k2 : Key) (hd : ParamsDisjoint k)
    (e1 : k2.kty = k.kty) (e2 : k2.id = k.id) (e3 : k2.alg = k.alg) (e4 : k2.ops = k.ops)
    (e5 : k2.baseIV = k.baseIV)
    (hplk : ∀ l, normalizeLabel l = some l → ¬ isCommon l → k2.params.lookup l = wireParam k l)
    (hplc : ∀ l, isCommon l → k2.params.lookup l = none)
    (hcrv : k.kty = 1 ∨ k.kty = 2 → k2.crv = k.crv) (l : GoVal) (hl : normalizeLabel l = some l) :
    (wireLookup k2 l).map kNorm = (wireLookup k l).map kNorm := by
  by_cases hc : isCommon l
  · obtain ⟨i, hi, rfl⟩ := (isCommon_iff l).mp hc
    rw [wireLookup_common k2 ((paramsDisjoint_iff k2).mpr hplc) i hi, wireLookup_common k hd i hi, baseMap_congr k k2 e1 e2 e3 e4 e5]
  · have hk2 : k2.params.lookup l = wireParam k l := hplk l hl hc
    have w2 : wireLookup k2 l =
        if k.kty = 2 ∧ ((lbl (-2)).keyEq l = true ∨ (lbl (-3)).keyEq l = true)
          then (wireParam k l).map (padVal (curveSize k2.crv)) else wireParam k l := by
      rw [wireLookup_param k2 hc, hk2, e1]
    rw [w2, wireParam, wireLookup_param k hc]
    by_cases hcond : k.kty = 2 ∧ ((lbl (-2)).keyEq l = true ∨ (lbl (-3)).keyEq l = true)
    · simp only [if_pos hcond, hcrv (Or.inr hcond.1)]
      have hl1 : (lbl (-1)).keyEq l = false := by
        rcases hcond.2 with h | h <;> rw [(GoVal.lbl_keyEq_iff _ l).mp h] <;> simp [GoVal.keyEq_lbl_lbl]
      cases k.params.lookup l with
      | none => rfl
      | some v =>
        simp only [Option.map_some]
        rw [pad_cycle _ _ _ _ hl1]
    · simp only [if_neg hcond]
      cases k.params.lookup l with
      | none => rfl
      | some v =>
        simp only [Option.map_some]
        rw [kNorm_retype_norm]

/-! ## what the decoder guarantees about an accepted key -/

theorem dec_arr {w : Wire} {l : List GoVal} (h : decodeAny w = .ok (.arr l)) (hwf : w.wf = true)
    (t : Bool) (d : Nat) (hlim : w.inLimits t d = true) :
    l.length ≤ maxElems ∧ ∀ v ∈ l, ∃ x, x.wf = true ∧ decodeAny x = .ok v := by
  cases w with
  | arr hw xs =>
    obtain ⟨l', hl, he⟩ := decodeAny_arr_ok h
    cases he
    have hrel := decodeList_rel xs l hl
    simp only [Wire.wf, Bool.and_eq_true, wfList_iff] at hwf
    simp only [Wire.inLimits, Bool.and_eq_true, decide_eq_true_eq] at hlim
    refine ⟨by rw [← hrel.length_eq]; exact hlim.1.2, fun v hv => ?_⟩
    obtain ⟨x, hx, hd⟩ := hrel.mem_right v hv
    exact ⟨x, hwf.2 x hx, hd⟩
  | map hw kvs => obtain ⟨_, -, he⟩ := decodeAny_map_ok h; cases he
  | _ => exact Bool.noConfusion (decoded_leaf (by intro _ _; nofun) (by intro _ _; nofun) h)

theorem ite_some_eq {α : Type} {c : Prop} [Decidable c] {a v : α} {o : Option α}
    (h : (if c then some a else o) = some v) : v = a ∨ o = some v := by
  split at h
  · exact Or.inl (Option.some.inj h).symm
  · exact Or.inr h

/-- the eight key operations RFC 9052 names are numbered 1 … 8 -/
theorem keyOp_range (s : Bytes) (v : Int) (h : keyOpFromString s = some v) : 1 ≤ v ∧ v ≤ 8 := by
  unfold keyOpFromString at h
  iterate 8
    obtain rfl | h := ite_some_eq h
    · decide
  cases h

theorem decodeOps_range : ∀ (l : List GoVal) (o : List Int), decodeOps l = some o →
    (∀ x ∈ l, ∀ n, x = .int .i64 n → int64Range n) →
    (∀ x ∈ o, int64Range x) ∧ o.length = l.length
  | [], o, h, _ => by
    cases h
    exact ⟨nofun, rfl⟩
  | x :: r, o, h, hr => by
    have tl := fun o' hd => decodeOps_range r o' hd fun y hy => hr y (List.mem_cons_of_mem _ hy)
    unfold decodeOps at h
    split at h
    · rename_i heq
      cases heq
    · rename_i v r' heq
      cases heq
      obtain ⟨o', hd, rfl⟩ := Option.map_eq_some_iff.mp h
      exact ⟨List.forall_mem_cons.mpr ⟨hr _ (List.mem_cons_self ..) v rfl, (tl o' hd).1⟩,
        congrArg (· + 1) (tl o' hd).2⟩
    · rename_i s r' heq
      cases heq
      split at h
      · rename_i v o' hv hd
        cases h
        have := keyOp_range s v hv
        exact ⟨List.forall_mem_cons.mpr ⟨int64Range_small _ (by omega) (by omega), (tl o' hd).1⟩,
          congrArg (· + 1) (tl o' hd).2⟩
      · cases h
    · cases h

/-- everything `KeyFlat` asks of the common fields and of the labels holds of any accepted key:
    the generic decoder only produces `int64` integers in range, valid text, and byte strings and
    arrays within the CBOR length limits.  What remains open is the shape of the parameter
    values. -/
theorem accepted_flat (b : Bytes) (k : Key) (hu : Key.unmarshal b = .ok k)
    (hvals : ∀ e ∈ k.params, KVal e.2) :
    KeyFlat k ∧ ∀ m, k.marshalMap = some m → m.length ≤ maxElems := by
  obtain ⟨tmp, ho, _, hlen_tmp, src⟩ := unmarshal_inv b k hu
  have vshape : ∀ {l v}, tmp.lookup l = some v → DecShape v := fun hl =>
    (src _ (GoMap.mem_of_lookup hl)).2.1
  obtain ⟨hkty, _, fid, falg, fops, fbiv, hpar, _⟩ := Key.ofMap_inv tmp k ho
  obtain ⟨hpok, hpe⟩ := (keyParams_eq_some_iff k.kty (erase5 tmp) _).mp hpar
  have hflat : KeyFlat k := by
    refine { kty := vshape hkty, alg := ?_, id := fun c hc => vshape (fid c hc), ops := ?_,
             baseIV := fun c hc => vshape (fbiv c hc), params := ?_ }
    · by_cases ha : k.alg = 0
      · rw [ha]; decide
      · exact vshape (falg ha)
    · intro o ho'
      obtain ⟨l, hl, hdo⟩ := fops o ho'
      obtain ⟨_, _, x, hx, hxw, hxl⟩ := src _ (GoMap.mem_of_lookup hl)
      obtain ⟨h1, h2⟩ := dec_arr hx hxw true 1 hxl
      obtain ⟨r1, r2⟩ := decodeOps_range l o hdo (by
        intro y hy n hyn
        obtain ⟨z, hzw, hz⟩ := h2 y hy
        rw [hyn] at hz
        exact decoded_shape hz hzw)
      exact ⟨r1, by rw [r2]; exact h1⟩
    · intro e he
      refine ⟨?_, hvals e he⟩
      rw [hpe] at he
      obtain ⟨e0, he0, rfl⟩ := List.mem_map.mp he
      have h1 := (src e0 (mem_erase5 he0)).1
      simp only [retypeEntry]
      rcases (hpok e0 he0).1 with ⟨n, hn⟩ | ⟨s, hs⟩
      · rw [hn] at h1 ⊢
        exact ⟨rfl, h1⟩
      · rw [hs] at h1 ⊢
        exact h1
  refine ⟨hflat, ?_⟩
  -- every label of `m` is a label of `tmp`, which has at most `maxElems` entries: a parameter label
  -- survived `erase5`, and a common field that is set was read off `tmp`
  intro m hm
  obtain ⟨hkm, hok, _⟩ := marshalMap_inv hflat hm
  have hd := (accepted_params b k hu).2.1
  obtain ⟨-, b2, b3, b4, b5⟩ := baseMap_lookup k
  have hsub : m.map Prod.fst ⊆ tmp.map Prod.fst := by
    intro l hl
    obtain ⟨⟨l, v⟩, he, rfl⟩ := List.mem_map.mp hl
    have h1 : wireLookup k l = some v := by
      rw [← marshalMap_lookup k m hm hflat.params.normal]
      exact (lookup_iff_mem hok hkm.normal v).mpr he
    have h2 : tmp.lookup l ≠ none := by
      by_cases hc : isCommon l
      · rcases hc with rfl | rfl | rfl | rfl | rfl
        · rw [hkty]; nofun
        · rw [wireLookup_common k hd 2 (by decide), b2] at h1
          obtain ⟨c, hc, -⟩ := Option.map_eq_some_iff.mp h1
          rw [fid c hc]; nofun
        · rw [wireLookup_common k hd 3 (by decide), b3] at h1
          split at h1
          · cases h1
          · rename_i ha
            rw [falg ha]; nofun
        · rw [wireLookup_common k hd 4 (by decide), b4] at h1
          obtain ⟨o, hop, -⟩ := Option.map_eq_some_iff.mp h1
          obtain ⟨l, hl4, -⟩ := fops o hop
          rw [hl4]; nofun
        · rw [wireLookup_common k hd 5 (by decide), b5] at h1
          obtain ⟨c, hc, -⟩ := Option.map_eq_some_iff.mp h1
          rw [fbiv c hc]; nofun
      · rw [wireLookup_param k hc, hpe, lookup_retype] at h1
        intro hn
        rw [(GoMap.lookup_eq_none_iff _ l).mpr fun e he =>
          (GoMap.lookup_eq_none_iff tmp l).mp hn e (mem_erase5 he)] at h1
        split at h1 <;> cases h1
    cases hl2 : tmp.lookup l with
    | none => exact absurd hl2 h2
    | some w => exact List.mem_map.mpr ⟨_, GoMap.mem_of_lookup hl2, rfl⟩
  have := List.Nodup.length_le_of_subset (keys_nodup hok hkm.normal) hsub
  simp only [List.length_map] at this
  omega

end KeyRT

/-! ## C15 — re-encoding an accepted COSE_Key -/

namespace C15
open KeyRT RoundTrip

/-- a COSE_Key that `UnmarshalCBOR` accepts and whose parameter values lie in the flat
    data model (`KVal`: no nested maps, floats, simple values, or arrays of non-scalars — tags and
    bignums are `unmodelled` and never reach an accepted key) can be re-encoded; the re-encoding
    `b'` is accepted again, and encoding the key decoded from `b'` yields `b'` byte for byte:
    decode → encode → decode → encode is a fixpoint after the first encode.  The key `k2` decoded
    from `b'` has the same common fields as `k`; its parameters are those of `k` with EC2 x / y at
    full length (`wireParam`), in canonical (wire) order.  Nothing else is assumed: the ranges of
    the common fields, the shape of the labels and the size of the map follow from the decoder
    (`accepted_flat`). -/
theorem reencode_idempotent (b : Bytes) (k : Key) (hu : Key.unmarshal b = .ok k)
    (hvals : ∀ e ∈ k.params, KVal e.2) :
    ∃ b', k.marshal = .ok b' ∧ ∃ k2, Key.unmarshal b' = .ok k2 ∧ k2.marshal = .ok b' ∧
      k2.kty = k.kty ∧ k2.id = k.id ∧ k2.alg = k.alg ∧ k2.ops = k.ops ∧ k2.baseIV = k.baseIV ∧
      (∀ l, normalizeLabel l = some l → ¬ isCommon l → k2.params.lookup l = wireParam k l) ∧
      (∀ l, isCommon l → k2.params.lookup l = none) ∧
      (∀ n : Int, int64Range n → n < 0 → k2.pbytes n = wirePbytes k n) ∧
      (k.kty = 1 ∨ k.kty = 2 → k2.crv = k.crv) := by
  obtain ⟨hf, hs⟩ := accepted_flat b k hu hvals
  obtain ⟨hpw, hd, hv⟩ := accepted_params b k hu
  obtain ⟨m, hm⟩ := marshalMap_some k hf.params.normal hpw
  obtain ⟨hkm, hok, _⟩ := marshalMap_inv hf hm
  obtain ⟨k2, hu2, e1, e2, e3, e4, e5, hplk, hplc, hpb, hcrv, _, hf2, _⟩ :=
    key_roundtrip_core k hf hd (accepted_noNilCoords b k hu) hv m hm (hs m hm)
  have hb := C14.marshal_of_marshalMap hf hm
  obtain ⟨hpw2, _, _⟩ := accepted_params _ k2 hu2
  obtain ⟨m2, hm2⟩ := marshalMap_some k2 hf2.params.normal hpw2
  obtain ⟨hkm2, hok2, _⟩ := marshalMap_inv hf2 hm2
  have hperm : (m2.map kNormEntry).Perm (m.map kNormEntry) := by
    apply perm_of_lookup_eq (labelsOK_kNormEntry hkm2 hok2) (KeyMap.normEntry hkm2).normal
      (labelsOK_kNormEntry hkm hok) (KeyMap.normEntry hkm).normal
    intro l hl
    rw [lookup_kNormEntry hkm2, lookup_kNormEntry hkm, marshalMap_lookup k2 m2 hm2 hf2.params.normal,
      marshalMap_lookup k m hm hf.params.normal]
    exact wireLookup_roundtrip k k2 hd e1 e2 e3 e4 e5 hplk hplc hcrv l hl
  have henc : encodeAny encCfg (.map m2) = encodeAny encCfg (.map m) := by
    rw [← encode_kNormEntry encCfg hkm2.kmap, ← encode_kNormEntry encCfg hkm.kmap]
    exact C08.encode_map_perm_invariant encCfg _ _ hperm
      (fun ps hps => (C08.keys_nodup_of_labelsOK encCfg _ (labelsOK_kNormEntry hkm2 hok2) ps hps).1)
  have hb2 : k2.marshal = .ok (kMapWire m).bytes := by
    rw [C14.marshal_of_marshalMap hf2 hm2]
    rw [encodeAny_map_k encCfg hkm2.kmap, encodeAny_map_k encCfg hkm.kmap] at henc
    rw [Option.some.inj henc]
  exact ⟨_, hb, k2, hu2, hb2, e1, e2, e3, e4, e5, hplk, hplc, hpb, hcrv⟩

/-- every further cycle returns the same bytes and the same key -/
theorem reencode_stable (b : Bytes) (k : Key) (hu : Key.unmarshal b = .ok k)
    (hvals : ∀ e ∈ k.params, KVal e.2) (b' : Bytes) (hb : k.marshal = .ok b') :
    ∃ k2, Key.unmarshal b' = .ok k2 ∧ k2.marshal = .ok b' ∧
      (Key.unmarshal b' >>= Key.marshal) = .ok b' := by
  obtain ⟨_, h1, k2, h2, h3, _⟩ := reencode_idempotent b k hu hvals
  rw [h1] at hb
  cases hb
  exact ⟨k2, h2, h3, by rw [h2]; exact h3⟩

/-- an accepted key always re-encodes when its parameter values are flat: `MarshalCBOR`
    cannot fail on it -/
theorem accepted_marshals (b : Bytes) (k : Key) (hu : Key.unmarshal b = .ok k)
    (hvals : ∀ e ∈ k.params, KVal e.2) : ∃ b', k.marshal = .ok b' := by
  obtain ⟨b', h, _⟩ := reencode_idempotent b k hu hvals
  exact ⟨b', h⟩

/-- (repair e8483d3) every COSE_Key `UnmarshalCBOR` accepts with key type
    EC2 has EVERY PRESENT x (-2) and d (-4) a byte string and every present y (-3) a byte string
    or a boolean, each byte string within the curve's size; with key type OKP every present x and
    d is a byte string of 32 bytes (or empty).  "Coordinates within the curve's size" thus speaks
    about every coordinate on the wire, not only about those that happen to be byte strings:
    before the repair `a4 01 02 20 01 21 78 64 …` (x a 100-character text string) was accepted. -/
theorem accepted_coords (data : Bytes) (k : Key) (h : Key.unmarshal data = .ok k) :
    (k.kty = 2 →
      (∀ v, k.params.lookup (lbl (-2)) = some v →
        ∃ b, v = .bytes b ∧ (curveSize k.crv > 0 → b.length ≤ curveSize k.crv)) ∧
      (∀ v, k.params.lookup (lbl (-3)) = some v →
        (∃ b, v = .bytes b ∧ (curveSize k.crv > 0 → b.length ≤ curveSize k.crv)) ∨
          ∃ s, v = .bool s) ∧
      (∀ v, k.params.lookup (lbl (-4)) = some v →
        ∃ b, v = .bytes b ∧ (curveSize k.crv > 0 → b.length ≤ curveSize k.crv))) ∧
    (k.kty = 1 →
      (∀ v, k.params.lookup (lbl (-2)) = some v →
        ∃ b, v = .bytes b ∧ (b.length = 0 ∨ b.length = 32)) ∧
      (∀ v, k.params.lookup (lbl (-4)) = some v →
        ∃ b, v = .bytes b ∧ (b.length = 0 ∨ b.length = 32))) := by
  obtain ⟨_, _, hv⟩ := accepted_params data k h
  have hnil := accepted_no_bytesNil data k h
  have hne : ∀ (l v : GoVal), k.params.lookup l = some v → v ≠ .bytesNil := by
    intro l v hl
    exact hnil _ (GoMap.mem_of_lookup hl)
  constructor
  · intro h2
    obtain ⟨hx, hy, hd⟩ := validate_ec2_coords k .none hv h2
    -- a coordinate of the right type that is not a typed nil is a byte string or (y) the sign bit
    have key : ∀ {ob : Bool} {v : GoVal}, CoordOK (curveSize k.crv) ob v → v ≠ .bytesNil →
        (∃ b, v = .bytes b ∧ (curveSize k.crv > 0 → b.length ≤ curveSize k.crv)) ∨
          (ob = true ∧ ∃ s, v = .bool s) :=
      fun h hn => h.elim Or.inl fun h => h.elim (fun h => absurd h hn) Or.inr
    exact ⟨fun v hl => (key (hx v hl) (hne _ v hl)).resolve_right fun h => Bool.noConfusion h.1,
      fun v hl => (key (hy v hl) (hne _ v hl)).imp id And.right,
      fun v hl => (key (hd v hl) (hne _ v hl)).resolve_right fun h => Bool.noConfusion h.1⟩
  · intro h1
    obtain ⟨hx, hd⟩ := validate_okp_coords k .none hv h1
    exact ⟨fun v hl => (hx v hl).resolve_right (hne _ v hl),
      fun v hl => (hd v hl).resolve_right (hne _ v hl)⟩

/-- … so for an accepted EC2 / OKP key the accessor `ParamBytes` loses nothing: a coordinate it
    reads as empty is absent, an empty byte string, or (y only) the sign bit -/
theorem accepted_pbytes_faithful (data : Bytes) (k : Key) (h : Key.unmarshal data = .ok k)
    (h12 : k.kty = 2 ∨ k.kty = 1) (n : Int) (hn : n = -2 ∨ n = -4 ∨ (n = -3 ∧ k.kty = 2))
    (v : GoVal) (hl : k.params.lookup (lbl n) = some v) :
    v = .bytes (k.pbytes n) ∨ (n = -3 ∧ ∃ s, v = .bool s) := by
  obtain ⟨hec, hokp⟩ := accepted_coords data k h
  have fin : ∀ b, v = .bytes b → v = .bytes (k.pbytes n) := by
    intro b hb
    subst hb
    rw [C14.pbytes_of_lookup k n b hl]
  rcases h12 with h2 | h1
  · obtain ⟨hx, hy, hd⟩ := hec h2
    rcases hn with rfl | rfl | ⟨rfl, _⟩
    · obtain ⟨b, hb, _⟩ := hx v hl; exact Or.inl (fin b hb)
    · obtain ⟨b, hb, _⟩ := hd v hl; exact Or.inl (fin b hb)
    · rcases hy v hl with ⟨b, hb, _⟩ | hs
      · exact Or.inl (fin b hb)
      · exact Or.inr ⟨rfl, hs⟩
  · obtain ⟨hx, hd⟩ := hokp h1
    rcases hn with rfl | rfl | ⟨_, h2⟩
    · obtain ⟨b, hb, _⟩ := hx v hl; exact Or.inl (fin b hb)
    · obtain ⟨b, hb, _⟩ := hd v hl; exact Or.inl (fin b hb)
    · omega

end C15

/-! ## the hypotheses are needed; non-vacuity -/

namespace C14
open KeyRT RoundTrip

/-- for a key whose serialised map `m` is known, is a key map and is already in wire order: the
    bytes `MarshalCBOR` returns, and `UnmarshalCBOR` on them reduced to `Key.ofMap` on a concrete
    map (which the kernel evaluates) -/
theorem wire_of_marshalMap {k : Key} {m : GoMap} (hm : k.marshalMap = some m) (hkm : KeyMap m)
    (hp : m.Pairwise (fun a b => a.1.keyEq b.1 = false)) (hlen : m.length ≤ maxElems)
    (hs : sortEntries m = m) :
    k.marshal = .ok (kMapWire m).bytes ∧
      Key.unmarshal (kMapWire m).bytes = Key.ofMap (m.map kNormEntry) := by
  have hu := unmarshal_bytes hkm.kmap (labelsOK_of_keyMap_pairwise hkm.normal hp) hlen
  rw [hs] at hu
  refine ⟨?_, hu⟩
  unfold Key.marshal
  rw [hm]
  exact marshalAny_k hkm.kmap

/-- `validate` is needed: `MarshalCBOR` does not validate, `UnmarshalCBOR` does.  The symmetric key
    without its `k` parameter is emitted as `a1 01 04` and refused on the way back. -/
theorem key_marshal_unmarshal_needs_validate :
    ∃ k : Key, KeyFlat k ∧ KeySize k ∧ ParamsDisjoint k ∧ k.validate .none ≠ none ∧
      k.marshal = .ok [0xa1, 0x01, 0x04] ∧ Key.unmarshal [0xa1, 0x01, 0x04] = .err .other := by
  have hs : sortEntries [(lbl 1, .int .i64 4)] = [(lbl 1, .int .i64 4)] :=
    List.mergeSort_of_pairwise (by decide)
  obtain ⟨hb, hu⟩ := wire_of_marshalMap (k := { kty := 4 }) (m := [(lbl 1, .int .i64 4)]) rfl
    (by decide) (by decide) (by decide) hs
  have hbytes : (kMapWire [(lbl 1, .int .i64 4)]).bytes = [0xa1, 0x01, 0x04] := by
    rw [kMapWire, mapWireBy, hs]; rfl
  rw [hbytes] at hb hu
  exact ⟨{ kty := 4 }, by decide, by decide, by decide, by decide, hb, hu.trans rfl⟩

/-- a key whose `Params` hold an entry under label 1 -/
def overrideKey : Key := { kty := 4, params := [(lbl 1, .int .i64 5), (lbl (-1), .bytes [1])] }

/-- `ParamsDisjoint` is needed: `MarshalCBOR` lets a parameter stored under the label of a common
    field overwrite that field.  `Key{Type: 4, Params: {1: 5, -1: h'01'}}` is valid, is emitted
    as `a2 01 05 20 41 01`, and decodes as a key of type 5.  (go-cose behaves the same.) -/
theorem key_marshal_unmarshal_needs_disjoint :
    KeyFlat overrideKey ∧ KeySize overrideKey ∧ overrideKey.validate .none = none ∧
    ¬ ParamsDisjoint overrideKey ∧
    ∃ b k', overrideKey.marshal = .ok b ∧ Key.unmarshal b = .ok k' ∧ k'.kty = 5 := by
  obtain ⟨hb, hu⟩ := wire_of_marshalMap (k := overrideKey)
    (m := [(lbl 1, .int .i64 5), (lbl (-1), .bytes [1])]) rfl (by decide) (by decide) (by decide)
    (List.mergeSort_of_pairwise (by decide))
  exact ⟨by decide, by decide, by decide, by decide, _,
    { kty := 5, params := [(lbl (-1), .bytes [1])] }, hb, hu.trans rfl, rfl⟩

/-- a valid EC2 key whose private scalar is stored under the Go key `int8(-4)` -/
def int8Key : Key :=
  { kty := 2, params := [(lbl (-1), .crv 1), (lbl (-2), .bytes [1]),
                         (.int .i8 (-4), .bytes (List.replicate 33 0))] }

/-- the int64 spelling of integer labels (`KeyLabel`) is needed: the accessors and `validate` look
    parameters up under the `int64` key only, `MarshalCBOR` normalises every integer label.  A 33
    byte `d` under `int8(-4)` is invisible to `validate`, is emitted under -4, and is refused
    on the way back (coordinate too long for P-256).  (go-cose behaves the same.) -/
theorem key_marshal_unmarshal_needs_int64_labels :
    (∀ e ∈ int8Key.params, FlatLabel e.1 ∧ KVal e.2) ∧ LabelsOK int8Key.params ∧
    int8Key.validate .none = none ∧ ParamsDisjoint int8Key ∧
    ∃ b, int8Key.marshal = .ok b ∧ Key.unmarshal b = .err .other := by
  obtain ⟨hb, hu⟩ := wire_of_marshalMap (k := int8Key)
    (m := [(lbl 1, .int .i64 2), (lbl (-1), .crv 1), (lbl (-2), .bytes (leftPad 32 [1])),
      (lbl (-4), .bytes (List.replicate 33 0))]) rfl (by decide) (by decide) (by decide)
    (List.mergeSort_of_pairwise (by decide))
  refine ⟨by decide, ?_, by decide, by decide, _, hb, hu.trans rfl⟩
  rw [labelsOK_iff_normLabels]
  simp [int8Key, normLabels, normalizeLabel, lbl, wrap64]

/-- a P-256 key whose private scalar is the typed nil `[]byte(nil)` -/
def nilDKey : Key :=
  { kty := 2, params := [(lbl (-1), .crv 1), (lbl (-2), .bytes [1]), (lbl (-3), .bytes [1]),
                         (lbl (-4), .bytesNil)] }

/-- `NoNilCoords` is needed (since e8483d3): `validate` takes the typed nil `[]byte(nil)` under d
    for a byte string (an empty one: the key is a valid public key), `MarshalCBOR` writes it as
    `null` (`a5 01 02 20 01 21 58 20 … 22 58 20 … 23 f6`), and `UnmarshalCBOR` refuses a d
    that is not a byte string.  Before the repair the `null` was read back as "absent" and the
    round trip went through.  (go-cose behaves the same.) -/
theorem key_marshal_unmarshal_needs_no_nil_coords :
    KeyFlat nilDKey ∧ KeySize nilDKey ∧ ParamsDisjoint nilDKey ∧ nilDKey.validate .none = none ∧
    ¬ NoNilCoords nilDKey ∧
    ∃ b, nilDKey.marshal = .ok b ∧ Key.unmarshal b = .err .other := by
  obtain ⟨hb, hu⟩ := wire_of_marshalMap (k := nilDKey)
    (m := [(lbl 1, .int .i64 2), (lbl (-1), .crv 1), (lbl (-2), .bytes (leftPad 32 [1])),
      (lbl (-3), .bytes (leftPad 32 [1])), (lbl (-4), .bytesNil)]) rfl (by decide) (by decide)
    (by decide) (List.mergeSort_of_pairwise (by decide))
  exact ⟨by decide, by decide, by decide, by decide,
    fun h => h (Or.inr rfl) (-4) (by decide) (by decide) rfl, _, hb, hu.trans rfl⟩

end C14

/-! ### non-vacuity: a P-256 public key with kid, alg and key_ops -/

namespace C14
open KeyRT RoundTrip

/-- `{1: 2, 2: h'3131', 3: -7, 4: [2], -1: 1, -2: h'010203', -3: h'0405'}` (short coordinates, to
    exercise the padding) -/
def exKey : Key :=
  { kty := 2, id := some [0x31, 0x31], alg := -7, ops := some [2],
    params := [(lbl (-1), .crv 1), (lbl (-2), .bytes [1, 2, 3]), (lbl (-3), .bytes [4, 5])] }

theorem exKey_flat : KeyFlat exKey ∧ KeySize exKey ∧ ParamsDisjoint exKey ∧
    exKey.validate .none = none := by
  refine ⟨by decide, by decide, by decide, ?_⟩
  · simp [exKey, Key.validate, Key.paramIsBstr, Key.pbytes, paramBytes, Key.crv, paramInt,
      GoMap.lookup_cons, lookup_nil, GoVal.keyEq_lbl_lbl, Lk.getD, curveSize, Key.deriveAlgorithm]

/-- `key_marshal_unmarshal` on `exKey`: it marshals, the bytes unmarshal, all common fields come back, and the
    coordinates come back at the full 32 bytes with the same value -/
example : ∃ b k', exKey.marshal = .ok b ∧ Key.unmarshal b = .ok k' ∧
    k'.kty = 2 ∧ k'.id = some [0x31, 0x31] ∧ k'.alg = -7 ∧ k'.ops = some [2] ∧ k'.baseIV = none ∧
    k'.crv = 1 ∧ (k'.pbytes (-2)).length = 32 ∧ (k'.pbytes (-3)).length = 32 ∧
    k'.ecCoords = (0x010203, 0x0405, 0) := by
  obtain ⟨hf, hs, hd, hv⟩ := exKey_flat
  obtain ⟨m, hm⟩ := marshalMap_some exKey hf.params.normal (by decide)
  have hb := marshal_of_marshalMap hf hm
  obtain ⟨k', hu, e1, e2, e3, e4, e5, _, _, hpb, hcr, _⟩ := key_marshal_unmarshal exKey hf hs hd (noNilCoords_of_vals (by simp [exKey])) hv _ hb
  have hc : exKey.crv = 1 := crv_of_lookup exKey 1 (by simp [exKey, GoMap.lookup_cons, GoVal.keyEq_lbl_lbl])
  have hx : exKey.pbytes (-2) = [1, 2, 3] :=
    pbytes_of_lookup exKey _ _ (by simp [exKey, GoMap.lookup_cons, GoVal.keyEq_lbl_lbl])
  have hy : exKey.pbytes (-3) = [4, 5] :=
    pbytes_of_lookup exKey _ _ (by simp [exKey, GoMap.lookup_cons, GoVal.keyEq_lbl_lbl])
  have hdd : exKey.pbytes (-4) = [] := by
    simp [exKey, Key.pbytes, paramBytes, GoMap.lookup_cons, lookup_nil, GoVal.keyEq_lbl_lbl, Lk.getD]
  have q2 : k'.pbytes (-2) = leftPad 32 [1, 2, 3] := by
    rw [hpb (-2) (by decide) (by decide), wirePbytes, if_pos ⟨rfl, Or.inl rfl⟩, hx, hc]; rfl
  have q3 : k'.pbytes (-3) = leftPad 32 [4, 5] := by
    rw [hpb (-3) (by decide) (by decide), wirePbytes, if_pos ⟨rfl, Or.inr rfl⟩, hy, hc]; rfl
  have q4 : k'.pbytes (-4) = [] := by
    rw [hpb (-4) (by decide) (by decide), wirePbytes, if_neg (fun h => by have := h.2; omega), hdd]
  refine ⟨_, k', hb, hu, e1, e2, e3, e4, e5, by rw [hcr (Or.inr rfl), hc], ?_, ?_, ?_⟩
  · rw [q2, leftPad_length]; decide
  · rw [q3, leftPad_length]; decide
  · unfold Key.ecCoords
    rw [q2, q3, q4, os2ip_leftPad, os2ip_leftPad]
    decide

/-- `reencode_idempotent` on the bytes of `exKey`: decode → encode → decode → encode reaches a fixpoint -/
example : ∃ b k b' k2, exKey.marshal = .ok b ∧ Key.unmarshal b = .ok k ∧ k.marshal = .ok b' ∧
    Key.unmarshal b' = .ok k2 ∧ k2.marshal = .ok b' ∧ k2.kty = 2 ∧ k2.id = some [0x31, 0x31] ∧
    k2.alg = -7 ∧ k2.ops = some [2] := by
  obtain ⟨hf, hs, hd, hv⟩ := exKey_flat
  obtain ⟨m, hm⟩ := marshalMap_some exKey hf.params.normal (by decide)
  have hb := marshal_of_marshalMap hf hm
  obtain ⟨k, hu, e1, e2, e3, e4, _, _, _, _, _, _, hf', hlen⟩ :=
    key_marshal_unmarshal exKey hf hs hd (noNilCoords_of_vals (by simp [exKey])) hv _ hb
  obtain ⟨b', h1, k2, h2, h3, f1, f2, f3, f4, _⟩ :=
    C15.reencode_idempotent _ k hu (fun e he => (hf'.params e he).2)
  exact ⟨_, k, b', k2, hb, hu, h1, h2, h3, by rw [f1, e1]; rfl, by rw [f2, e2]; rfl,
    by rw [f3, e3]; rfl, by rw [f4, e4]; rfl⟩

end C14

