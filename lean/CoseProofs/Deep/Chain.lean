/-
  Deep/Chain — C01: every successful signing operation is accepted by the matching
  verification operation.
  * COSE_Signature (one signer of a COSE_Sign), COSE_Sign with any number of signers,
    countersignatures (full and abbreviated) on every parent kind — in memory;
  * COSE_Sign1 and the hash envelope after a wire round trip.
  Crypto is the parameter `C01.Matches`.
-/
import CoseModel.Messages
import CoseModel.HashEnvelope
import CoseProofs.Lemmas.Steps
import CoseProofs.Props.C01
import CoseProofs.Props.C03
import CoseProofs.Props.C11
import CoseProofs.Deep.Headers
import CoseProofs.Deep.Reencode
import CoseProofs.Deep.Tbs
open CoseModel
namespace C01

theorem signature_sign_ok_inv (sg : SigV) (s : Signer) (bprot : Bytes) (payload ext : Option Bytes)
    (hok : (Signature.sign sg s bprot payload ext).out = .ok ()) :
    ∃ p' tbs sig, payload.isNone = false ∧ bodyProtOK bprot = true ∧
      ensureSigningAlgorithm sg.h.rawP sg.h.p s.alg ext = .ok p' ∧
      Signature.toBeSigned { sg with h := { sg.h with p := p' } } bprot payload ext = .ok tbs ∧
      s.sign tbs = .ok sig ∧
      (Signature.sign sg s bprot payload ext).state =
        { h := { sg.h with p := p' }, sig := some sig } := by
  rw [Signature.sign_eq] at hok ⊢
  obtain ⟨p', t, sig, hg, ht, hsg, -, heq⟩ := signStep_ok_inv _ _ _ _ _ _ hok
  obtain ⟨hp, -, hb, hgate⟩ := Signature.signGate_eq_ok.mp hg
  exact ⟨p', t, sig, hp, hb, hgate, ht, hsg, by rw [heq]⟩

/-- COSE_Signature in memory, no assumption on signature lengths -/
theorem signature_then_verify_core (sg : SigV) (s : Signer) (v : Verifier) (bprot : Bytes)
    (payload ext : Option Bytes) (hm : MatchesCore s v)
    (hok : (Signature.sign sg s bprot payload ext).out = .ok ()) :
    (Signature.verify (Signature.sign sg s bprot payload ext).state v bprot payload ext).1
      = .ok () := by
  rw [Signature.sign_eq] at hok ⊢
  obtain ⟨p', t, sig, hg, ht, hsg, hne, heq⟩ := signStep_ok_inv _ _ _ _ _ _ hok
  obtain ⟨hp, -, hb, hgate⟩ := Signature.signGate_eq_ok.mp hg
  rw [heq, C03.verifySig_iff, hm.alg]
  exact ⟨Option.isNone_eq_false_iff.mp hp, blen_some_ne hne, hb,
    gate_after_sign _ _ _ _ _ hgate, t, ht, hm.correct t sig hsg⟩

/-- COSE_Signature (one signer of a COSE_Sign), in memory -/
theorem signature_then_verify (sg : SigV) (s : Signer) (v : Verifier) (bprot : Bytes)
    (payload ext : Option Bytes) (hm : Matches s v)
    (hok : (Signature.sign sg s bprot payload ext).out = .ok ()) :
    (Signature.verify (Signature.sign sg s bprot payload ext).state v bprot payload ext).1
      = .ok () :=
  signature_then_verify_core sg s v bprot payload ext hm.core hok

/-! ### countersignatures -/

theorem countersignature_sign_ok_inv (cs : SigV) (s : Signer) (parent : Parent) (ext : Option Bytes)
    (hok : (Countersignature.sign cs s parent ext).out = .ok ()) :
    ∃ p' tbs sig,
      ensureSigningAlgorithm cs.h.rawP cs.h.p s.alg ext = .ok p' ∧
      Countersignature.toBeSigned { cs with h := { cs.h with p := p' } } parent ext = .ok tbs ∧
      s.sign tbs = .ok sig ∧
      (Countersignature.sign cs s parent ext).state =
        { h := { cs.h with p := p' }, sig := some sig } := by
  rw [Countersignature.sign_eq] at hok ⊢
  obtain ⟨p', t, sig, hg, ht, hsg, -, heq⟩ := signStep_ok_inv _ _ _ _ _ _ hok
  exact ⟨p', t, sig, (Countersignature.signGate_eq_ok.mp hg).2, ht, hsg, by rw [heq]⟩

/-- full countersignatures in memory, no assumption on signature lengths -/
theorem countersign_then_verify_core (cs : SigV) (s : Signer) (v : Verifier) (parent : Parent)
    (ext : Option Bytes) (hm : MatchesCore s v)
    (hok : (Countersignature.sign cs s parent ext).out = .ok ()) :
    (Countersignature.verify (Countersignature.sign cs s parent ext).state v parent ext).1
      = .ok () := by
  rw [Countersignature.sign_eq] at hok ⊢
  obtain ⟨p', t, sig, hg, ht, hsg, hne, heq⟩ := signStep_ok_inv _ _ _ _ _ _ hok
  rw [heq, C03.verifyCsig_iff, hm.alg]
  exact ⟨blen_some_ne hne,
    gate_after_sign _ _ _ _ _ (Countersignature.signGate_eq_ok.mp hg).2,
    t, ht, hm.correct t sig hsg⟩

/-- full countersignatures, in memory, every parent kind (Sign1, Sign, Signature,
    Countersignature): whenever `Countersignature.Sign` succeeds, `Verify` on the same parent
    with the matching verifier and the same external data succeeds -/
theorem countersign_then_verify (cs : SigV) (s : Signer) (v : Verifier) (parent : Parent)
    (ext : Option Bytes) (hm : Matches s v)
    (hok : (Countersignature.sign cs s parent ext).out = .ok ()) :
    (Countersignature.verify (Countersignature.sign cs s parent ext).state v parent ext).1
      = .ok () :=
  countersign_then_verify_core cs s v parent ext hm.core hok

/-- abbreviated countersignatures, no assumption on signature lengths -/
theorem countersign0_then_verify_core (s : Signer) (v : Verifier) (parent : Parent)
    (ext : Option Bytes) (sig : Bytes) (hm : MatchesCore s v)
    (hok : (countersign0 s parent ext).1 = .ok sig) :
    (verifyCountersign0 v parent ext sig).1 = .ok () ∧ sig ≠ [] := by
  rw [countersign0_eq, callKey_ok_iff] at hok
  obtain ⟨-, t, ht, ha⟩ := hok
  obtain ⟨hsg, hne⟩ := answer_eq_ok.mp ha
  rw [C03.verifyCsign0_iff]
  exact ⟨⟨t, ht, hm.correct t sig hsg⟩, hne⟩

/-- abbreviated countersignatures (`Countersign0` / `VerifyCountersign0`) -/
theorem countersign0_then_verify (s : Signer) (v : Verifier) (parent : Parent) (ext : Option Bytes)
    (sig : Bytes) (hm : Matches s v) (hok : (countersign0 s parent ext).1 = .ok sig) :
    (verifyCountersign0 v parent ext sig).1 = .ok () :=
  (countersign0_then_verify_core s v parent ext sig hm.core hok).1

/-! ### COSE_Sign, any number of signers -/

/-- when the signing loop reports success, every slot holds the state
    left by `Signature.sign` on the original slot with the signer at the same position, and each
    of those calls succeeded -/
theorem signLoop_ok_inv (bprot : Bytes) (payload ext : Option Bytes) :
    ∀ (sgs : List SigV) (ss : List Signer),
      (signLoop bprot payload ext sgs ss).2.1 = .ok () →
      ∃ hl : (signLoop bprot payload ext sgs ss).1.length = sgs.length,
        ∀ i (h1 : i < sgs.length) (h2 : i < ss.length),
          (signLoop bprot payload ext sgs ss).1[i]'(hl ▸ h1) =
            (Signature.sign sgs[i] ss[i] bprot payload ext).state ∧
          (Signature.sign sgs[i] ss[i] bprot payload ext).out = .ok ()
  | sgs, ss, hok => by
    rcases C20.signLoop_spec bprot payload ext sgs ss with ⟨-, h⟩ | ⟨k, _, _, -, kf, ko, -, -⟩
    · exact h
    · exact absurd (ko ▸ hok) kf

/-- `Sign.sign` leaves headers and payload alone; on success the signature list is the loop's -/
theorem signmsg_sign_ok_inv (m : SignMsg) (ext : Option Bytes) (signers : List Signer)
    (hok : (Sign.sign m ext signers).out = .ok ()) :
    ∃ bprot, m.payload.isNone = false ∧ m.sigs.isEmpty = false ∧
      m.sigs.length = signers.length ∧ marshalProtected m.h = .ok bprot ∧
      (signLoop bprot m.payload ext m.sigs signers).2.1 = .ok () ∧
      (Sign.sign m ext signers).state =
        { m with sigs := (signLoop bprot m.payload ext m.sigs signers).1 } := by
  rcases Sign.sign_cases m ext signers with ⟨bprot, hg, heq⟩ | ⟨hne, -⟩
  · obtain ⟨hp, he, hl, hb⟩ := Sign.gate_eq_ok.mp hg
    rw [heq] at hok ⊢
    exact ⟨bprot, hp, he, hl, hb, hok, rfl⟩
  · exact absurd hok hne

/-- COSE_Sign with any number of signers in memory, no assumption on signature lengths -/
theorem signmsg_then_verify_core (m : SignMsg) (ext : Option Bytes) (signers : List Signer)
    (verifiers : List Verifier) (hlen : signers.length = verifiers.length)
    (hm : ∀ i (h1 : i < signers.length) (h2 : i < verifiers.length),
      MatchesCore signers[i] verifiers[i])
    (hok : (Sign.sign m ext signers).out = .ok ()) :
    (Sign.verify (Sign.sign m ext signers).state ext verifiers).1 = .ok () := by
  obtain ⟨bprot, hp, he, hl, hb, hloop, hst⟩ := signmsg_sign_ok_inv m ext signers hok
  obtain ⟨hll, hall⟩ := signLoop_ok_inv bprot m.payload ext m.sigs signers hloop
  rw [hst, C11.signmsg_verify_iff]
  refine ⟨Option.isNone_eq_false_iff.mp hp, fun hn => List.isEmpty_eq_false_iff.mp he ?_,
    hll.trans (hl.trans hlen), bprot, hb, fun i h1 h2 => ?_⟩
  · exact List.eq_nil_of_length_eq_zero (hll ▸ congrArg List.length hn)
  · have hi : i < m.sigs.length := hll ▸ h1
    obtain ⟨hsti, hout⟩ := hall i hi (hl ▸ hi)
    exact hsti ▸ signature_then_verify_core _ _ _ _ _ _ (hm i (hl ▸ hi) h2) hout

/-- COSE_Sign with any number of signers, in memory: whenever `SignMessage.Sign` succeeds,
    `SignMessage.Verify` with the positionally matching verifiers and the same external data
    succeeds -/
theorem signmsg_then_verify (m : SignMsg) (ext : Option Bytes) (signers : List Signer)
    (verifiers : List Verifier) (hlen : signers.length = verifiers.length)
    (hm : ∀ i (h1 : i < signers.length) (h2 : i < verifiers.length),
      Matches signers[i] verifiers[i])
    (hok : (Sign.sign m ext signers).out = .ok ()) :
    (Sign.verify (Sign.sign m ext signers).state ext verifiers).1 = .ok () :=
  signmsg_then_verify_core m ext signers verifiers hlen (fun i h1 h2 => (hm i h1 h2).core) hok

/-! ### COSE_Sign1 -/

theorem sign1_sign_ok_inv (m : Sign1Msg) (ext : Option Bytes) (s : Signer)
    (hok : (Sign1.sign m ext s).out = .ok ()) :
    ∃ p' tbs sig, m.payload.isNone = false ∧
      ensureSigningAlgorithm m.h.rawP m.h.p s.alg ext = .ok p' ∧
      Sign1.toBeSigned { m with h := { m.h with p := p' } } ext = .ok tbs ∧
      s.sign tbs = .ok sig ∧
      (Sign1.sign m ext s).state =
        { h := { m.h with p := p' }, payload := m.payload, sig := some sig } := by
  rw [Sign1.sign_eq] at hok ⊢
  obtain ⟨p', t, sig, hg, ht, hsg, -, heq⟩ := signStep_ok_inv _ _ _ _ _ _ hok
  obtain ⟨hp, -, hgate⟩ := Sign1.signGate_eq_ok.mp hg
  exact ⟨p', t, sig, hp, hgate, ht, hsg, by rw [heq]⟩

theorem toBeSigned1_ok_inv {m : Sign1Msg} {ext : Option Bytes} {tbs : Bytes}
    (h : Sign1.toBeSigned m ext = .ok tbs) :
    ∃ P P', marshalProtected m.h = .ok P ∧ detBstr P = .ok P' ∧
      tbs = encHead 4 4 ++ (encTstr ctxSignature1 ++ (P' ++ (encBstr (ext.getD []) ++
        optBytesEnc m.payload))) := by
  obtain ⟨P, hP, h⟩ := Out.bind_eq_ok.mp h
  obtain ⟨P', hd, h⟩ := Out.bind_eq_ok.mp h
  exact ⟨P, P', hP, hd, (Out.ok.inj h).symm⟩

theorem toBeSigned1_of {m : Sign1Msg} {ext : Option Bytes} {P P' : Bytes}
    (hP : marshalProtected m.h = .ok P) (hd : detBstr P = .ok P') :
    Sign1.toBeSigned m ext = .ok (encHead 4 4 ++ (encTstr ctxSignature1 ++ (P' ++
      (encBstr (ext.getD []) ++ optBytesEnc m.payload)))) := by
  simp [Sign1.toBeSigned, hP, hd, bind, Out.bind]

/-! ### the wire: decoded header maps are in the modelled region -/

/-- every key and value of the map is a value whose encoding the model mirrors -/
def AllModelled (l : GoMap) : Prop := ∀ e ∈ l, e.1.modelled = true ∧ e.2.modelled = true

theorem modelledPairs_iff (l : GoMap) : GoVal.modelledPairs l = true ↔ AllModelled l := by
  induction l with
  | nil => simp [GoVal.modelledPairs, AllModelled]
  | cons e r ih =>
    obtain ⟨k, v⟩ := e
    unfold AllModelled at ih ⊢
    simp only [GoVal.modelledPairs, Bool.and_eq_true, ih, List.forall_mem_cons]

mutual
theorem decodeAny_modelled : ∀ (w : Wire) (v : GoVal), decodeAny w = .ok v → v.modelled = true
  | .uint _ n, v, h => by
    unfold decodeAny at h
    split at h <;> cases h
    rfl
  | .nint _ n, v, h => by
    unfold decodeAny at h
    split at h <;> cases h
    rfl
  | .bstr _ b, v, h => by
    cases h
    rfl
  | .tstr _ b, v, h => by
    unfold decodeAny at h
    split at h <;> cases h
    rfl
  | .tag _ _ _, v, h => nomatch h
  | .prim .imm n, v, h => by
    unfold decodeAny at h
    split at h
    · cases h
      rfl
    split at h
    · cases h
      rfl
    split at h
    · cases h
      rfl
    · cases h
      rfl
  | .prim .w1 n, v, h => by
    cases h
    rfl
  | .prim .w2 n, v, h => nomatch h
  | .prim .w4 n, v, h => nomatch h
  | .prim .w8 n, v, h => by
    cases h
    rfl
  | .arr _ xs, v, h => by
    unfold decodeAny at h
    split at h <;> cases h
    rename_i l hl
    exact decodeList_modelled xs l hl
  | .map _ kvs, v, h => by
    unfold decodeAny at h
    split at h <;> cases h
    rename_i l hl
    exact (modelledPairs_iff l).mpr (decodePairs_modelled kvs [] l hl fun e he => nomatch he)
theorem decodeList_modelled : ∀ (xs : List Wire) (l : List GoVal), decodeList xs = .ok l →
    GoVal.modelledList l = true
  | [], l, h => by
    cases h
    rfl
  | x :: xs, l, h => by
    unfold decodeList at h
    split at h <;> cases h
    rename_i a b hx hxs
    simp only [GoVal.modelledList, decodeAny_modelled x a hx, decodeList_modelled xs b hxs,
      Bool.and_self]
theorem decodePairs_modelled : ∀ (kvs : List (Wire × Wire)) (acc out : GoMap),
    decodePairs kvs acc = .ok out → AllModelled acc → AllModelled out
  | [], acc, out, h, hacc => by
    cases h
    exact fun e he => hacc e (List.mem_reverse.mp he)
  | (k, v) :: r, acc, out, h, hacc => by
    unfold decodePairs at h
    -- the one branch that can return `.ok`: key decoded, neither bytes nor float, hashable,
    -- value decoded, no duplicate; in every other `h` equates `.ok` with a failure
    split at h <;> try cases h
    rename_i key hk
    split at h <;> try cases h
    split at h <;> try cases h
    split at h <;> try cases h
    rename_i value hv
    split at h <;> try cases h
    refine decodePairs_modelled r _ out h fun e he => ?_
    rcases List.mem_cons.mp he with rfl | he
    · exact ⟨decodeAny_modelled k key hk, decodeAny_modelled v value hv⟩
    · exact hacc e he
end

theorem allModelled_set {h : GoMap} {k v : GoVal} (hh : AllModelled h) (hk : k.modelled = true)
    (hv : v.modelled = true) : AllModelled (h.set k v) := by
  unfold GoMap.set
  split
  · intro e he
    obtain ⟨e0, he0, rfl⟩ := List.mem_map.mp he
    split
    · exact ⟨(hh e0 he0).1, hv⟩
    · exact hh e0 he0
  · intro e he
    rcases List.mem_append.mp he with he | he
    · exact hh e he
    · simp only [List.mem_singleton] at he; subst he; exact ⟨hk, hv⟩

theorem castAlg_allModelled {m : GoMap} (h : AllModelled m) : AllModelled (castAlg m) := by
  unfold castAlg
  split
  · exact allModelled_set h (by simp [lbl, GoVal.modelled]) (by simp [GoVal.modelled])
  · exact h

/-- a protected bucket accepted by the decoder holds only values of the modelled region -/
theorem decProtected_modelled {p : Wire} {pm : GoMap} (h : decProtected p = .ok pm) :
    GoVal.modelledPairs pm = true := by
  rw [modelledPairs_iff]
  unfold decProtected at h
  split at h
  · unfold decProtectedContent at h
    split at h
    · cases h
      exact fun e he => nomatch he
    · split at h
      · cases h
      · split at h
        · obtain ⟨_, -, h⟩ := Out.bind_eq_ok.mp h
          split at h
          · cases h
          · obtain ⟨m0, hd, h⟩ := Out.bind_eq_ok.mp h
            split at h
            · cases h
            · cases h
              exact castAlg_allModelled (decodePairs_modelled _ [] m0 hd fun e he => nomatch he)
        · cases h
  · cases h

/-! ### the wire: inversion of the encoder, matching against the decoder's tree -/

theorem hdrs_marshal_ok_inv {h : Hdrs} {x : Bytes × Bytes} (he : h.marshal = .ok x) :
    marshalProtected h = .ok x.1 ∧ marshalUnprotected h = .ok x.2 := by
  unfold Hdrs.marshal at he
  split at he
  · cases he
  · obtain ⟨_, hp, he⟩ := Out.bind_eq_ok.mp he
    obtain ⟨_, hu, he⟩ := Out.bind_eq_ok.mp he
    cases he
    exact ⟨hp, hu⟩

theorem sign1_marshal_ok_inv {tagged : Bool} {m : Sign1Msg} {b : Bytes}
    (he : Sign1.marshal tagged m = .ok b) :
    ∃ P U, blen m.sig ≠ 0 ∧ marshalProtected m.h = .ok P ∧ marshalUnprotected m.h = .ok U ∧
      b = C09.pre tagged ++ 0x84 :: (P ++ (U ++ (optBytesEnc m.payload ++ encBstr (m.sig.getD [])))) := by
  obtain ⟨c, hc, he⟩ := Out.bind_eq_ok.mp he
  unfold Sign1.content at hc
  split at hc
  · cases hc
  · rename_i hz
    obtain ⟨⟨P, U⟩, hh, hc⟩ := Out.bind_eq_ok.mp hc
    obtain ⟨h1, h2⟩ := hdrs_marshal_ok_inv hh
    cases hc
    cases he
    exact ⟨P, U, hz, h1, h2, by cases tagged <;> rfl⟩

/-- a well-formed byte-string item whose bytes are an encoder-emitted byte string holds that
    string — whatever its length: `parseHead` reads the content back from either side -/
theorem bstr_eq_encBstr {w' : HW} {c' sig : Bytes} (hf : w'.fits c'.length = true)
    (h : headBytes 2 w' c'.length ++ c' = encBstr sig) : c' = sig := by
  have hp := congrArg parseHead h
  rw [parseHead_headBytes 2 _ w' c' (by decide) hf, encBstr,
    HeadersDeep.parseHead_encHead 2 _ sig (by decide), Option.some.injEq, Prod.mk.injEq,
    Prod.mk.injEq, Prod.mk.injEq] at hp
  exact hp.2.2.2

theorem shortItem_wf_of_lt (o : Option Bytes) (ho : blen o < 18446744073709551616) :
    (C09.shortItem o).wf = true := by
  cases o with
  | none => simp [C09.shortItem, Wire.wf]
  | some b =>
    simp only [blen, Option.getD_some] at ho
    simpa [C09.shortItem, Wire.wf] using C08.shortest_fits _ ho

/-- matching the emitted bytes against the tree the decoder saw: protected bytes `P` a
    byte-string item, unprotected bytes the bytes of a well-formed item, payload shorter than
    2^64 — then the decoder's four items are the emitted ones -/
theorem match_items {w : HW} {c : Bytes} {uw p u pl sg : Wire} {o o1 o2 : Option Bytes}
    {sig : Bytes} (hfc : w.fits c.length = true) (huw : uw.wf = true)
    (ho : blen o < 18446744073709551616)
    (hwf : (Wire.arr .imm [p, u, pl, sg]).wf = true)
    (hpl : decByteString pl = .ok o1) (hsg : decByteString sg = .ok o2) (hz : blen o2 ≠ 0)
    (h : (headBytes 2 w c.length ++ c) ++ (uw.bytes ++ (optBytesEnc o ++ encBstr sig))
        = p.bytes ++ (u.bytes ++ (pl.bytes ++ (sg.bytes ++ [])))) :
    p = .bstr w c ∧ u = uw ∧ o1 = o ∧ o2 = some sig := by
  simp only [Wire.wf, Wire.wfList, Bool.and_eq_true] at hwf
  obtain ⟨-, hwp, hwu, hwpl, hwsg, -⟩ := hwf
  have h0 : (Wire.bstr w c).bytes ++ (uw.bytes ++ (optBytesEnc o ++ encBstr sig))
      = p.bytes ++ (u.bytes ++ (pl.bytes ++ (sg.bytes ++ []))) := by
    simpa [Wire.bytes] using h
  obtain ⟨hp, h1⟩ := Reencode.bytes_append_inj _ _ _ _ (by simpa [Wire.wf] using hfc) hwp h0
  obtain ⟨hu, h2⟩ := Reencode.bytes_append_inj _ _ _ _ huw hwu h1
  rw [← C09.shortItem_bytes] at h2
  obtain ⟨hpl', h3⟩ := Reencode.bytes_append_inj _ _ _ _ (shortItem_wf_of_lt o ho) hwpl h2
  subst hpl'
  rw [C09.shortItem_dec] at hpl
  refine ⟨hp.symm, hu.symm, (Out.ok.inj hpl).symm, ?_⟩
  rcases C05.payload_shape _ _ hsg with ⟨rfl, rfl⟩ | ⟨w', c', rfl, rfl⟩
  · simp [blen] at hz
  · simp only [Wire.wf] at hwsg
    simp only [Wire.bytes, List.append_nil] at h3
    rw [bstr_eq_encBstr hwsg h3.symm]

/-! ### COSE_Sign1 across the wire -/

/-- core of the wire theorems: a message `st` whose protected bytes `P` are a byte-string item
    (`detBstr` accepts them) and which holds signature `sig` is emitted with payload field `o`
    (`o = st.payload` attached, `o = none` detached); whatever the decoder makes of those bytes
    re-emits exactly `P` as protected bytes, has payload `o` and signature `sig`. -/
theorem sign1_wire_core (tagged : Bool) (st : Sign1Msg) (o : Option Bytes) (b : Bytes)
    (m2 : Sign1Msg) (P P' sig : Bytes)
    (hP : marshalProtected st.h = .ok P) (hdet : detBstr P = .ok P') (hsig : st.sig = some sig)
    (henc : Sign1.marshal tagged { st with payload := o } = .ok b)
    (hdec : Sign1.unmarshal tagged b = .ok m2)
    (ho : blen o < 18446744073709551616)
    (hUwf : ∀ U, marshalUnprotected st.h = .ok U → ∃ uw : Wire, uw.wf = true ∧ U = uw.bytes) :
    marshalProtected m2.h = .ok P ∧ m2.payload = o ∧ m2.sig = some sig := by
  obtain ⟨P0, U, -, hP0, hU, hb⟩ := sign1_marshal_ok_inv henc
  have hP0' : marshalProtected st.h = .ok P0 := hP0
  rw [hP] at hP0'
  cases hP0'
  obtain ⟨uw, huw, rfl⟩ := hUwf U hU
  obtain ⟨c, ⟨w, hfc, hPeq⟩, -, -⟩ := C02.detBstr_ok_inv P P' hdet
  obtain ⟨p, u, pl, sg, hb2, -, hwf, -, hpl, hsg, hz2, hh⟩ := C09.sign1_envelope_full hdec
  obtain ⟨hdp, -, -, hrp, -⟩ := C09.decHeaders_ok hh
  have hbytes := List.append_cancel_left (hb.symm.trans hb2)
  have h84 : headBytes 4 .imm 4 = [0x84] := by decide
  simp only [hsig, Option.getD_some, Wire.bytes, Wire.bytesList, List.length_cons,
    List.length_nil, Nat.zero_add, Nat.reduceAdd, h84, List.cons_append, List.nil_append,
    List.cons.injEq, true_and] at hbytes
  obtain ⟨hpe, -, hpay, hs2⟩ := match_items hfc huw ho hwf hpl hsg hz2 (by rw [← hPeq]; exact hbytes)
  refine ⟨?_, hpay, hs2⟩
  have hmod := decProtected_modelled hdp
  have hpb : p.bytes = P := by rw [hpe, hPeq]; rfl
  obtain ⟨x, xs, hx⟩ := C09.bytes_cons p
  rw [hpb] at hrp hx
  simp [marshalProtected, hmod, hrp, hx, encodeBucket]

/-- `Sign1.sign` never touches the unprotected bucket -/
theorem marshalUnprotected_sign1_state (m : Sign1Msg) (ext : Option Bytes) (s : Signer) :
    marshalUnprotected (Sign1.sign m ext s).state.h = marshalUnprotected m.h := by
  by_cases hok : (Sign1.sign m ext s).out = .ok ()
  · obtain ⟨_, _, _, -, -, -, -, hst⟩ := sign1_sign_ok_inv m ext s hok
    rw [hst]
    rfl
  · rw [Sign1.sign_eq] at hok ⊢
    exact signStep_fail_keeps _ _ _ _ _ _ (fun x => marshalUnprotected x.h) (fun _ => by rfl) hok

/-- verification of a decoded message that re-emits the signed protected bytes, carries the
    signed payload and the signer's signature -/
theorem verify_of_same_tbs (m2 : Sign1Msg) (ext : Option Bytes) (s : Signer) (v : Verifier)
    (P P' sig : Bytes) (pay : Option Bytes) (hm : Matches s v)
    (hP : marshalProtected m2.h = .ok P) (hd : detBstr P = .ok P')
    (hpay : m2.payload = pay) (hpn : pay.isNone = false) (hs2 : m2.sig = some sig)
    (hsg : s.sign (encHead 4 4 ++ (encTstr ctxSignature1 ++ (P' ++ (encBstr (ext.getD []) ++
      optBytesEnc pay)))) = .ok sig)
    (hgate : ensureVerificationAlgorithm m2.h.p v.alg ext = .ok ()) :
    (Sign1.verify m2 ext v).1 = .ok () := by
  have hlen := blen_some_ne (hm.nonempty _ sig hsg)
  have ht := toBeSigned1_of (m := m2) (ext := ext) hP hd
  rw [hpay] at ht
  simp only [Sign1.verify, hpay, hpn, hs2, hlen, hgate, ht, if_false, Bool.false_eq_true,
    Option.getD_some]
  exact hm.correct _ sig hsg

/-- COSE_Sign1 after a wire round trip (tagged or untagged): sign, encode, decode, verify.
    `_partial`:
    * `hdec`, `hgate` — the emitted bytes decode, and the decoded protected map passes the
      algorithm gate (facts about the CBOR layer / header data model taken as hypotheses);
    * `hUwf` — the unprotected bytes the encoder emits are the bytes of one well-formed CBOR
      item.  `marshalUnprotected` emits caller-supplied `RawUnprotected` verbatim and unvalidated;
      that bytes such as `a0 43` there shift the item boundaries of what follows is an
      observation on the implementation, not a theorem of this file.  `hUwf_of_empty` and
      `hUwf_of_raw` discharge the hypothesis.
    * `hpl` — payload shorter than 2^64 bytes (a CBOR head cannot say more; a Lean list can be
      longer, a Go slice cannot).
    No bound on the signature, header contents or external data. -/
theorem sign1_wire_verify_payload_sig (tagged : Bool) (m : Sign1Msg) (ext : Option Bytes) (s : Signer)
    (v : Verifier) (b : Bytes) (m2 : Sign1Msg) (hm : Matches s v)
    (hok : (Sign1.sign m ext s).out = .ok ())
    (henc : Sign1.marshal tagged (Sign1.sign m ext s).state = .ok b)
    (hdec : Sign1.unmarshal tagged b = .ok m2)
    (hgate : ensureVerificationAlgorithm m2.h.p v.alg ext = .ok ())
    (hpl : blen m.payload < 18446744073709551616)
    (hUwf : ∀ U, marshalUnprotected (Sign1.sign m ext s).state.h = .ok U →
      ∃ uw : Wire, uw.wf = true ∧ U = uw.bytes) :
    (Sign1.verify m2 ext v).1 = .ok () ∧ m2.payload = m.payload ∧
      m2.sig = (Sign1.sign m ext s).state.sig := by
  obtain ⟨p', tbs, sig, hpn, -, ht, hsg, hst⟩ := sign1_sign_ok_inv m ext s hok
  rw [hst] at henc hUwf ⊢
  obtain ⟨P, P', hP, hd, rfl⟩ := toBeSigned1_ok_inv ht
  obtain ⟨hP2, hpay, hs2⟩ :=
    sign1_wire_core tagged { h := { m.h with p := p' }, payload := m.payload, sig := some sig }
      m.payload b m2 P P' sig hP hd rfl henc hdec hpl hUwf
  exact ⟨verify_of_same_tbs m2 ext s v P P' sig m.payload hm hP2 hd hpay hpn hs2 hsg hgate,
    hpay, hs2⟩

/-- C01 for COSE_Sign1 across the wire; hypotheses as in `sign1_wire_verify_payload_sig` -/
theorem sign1_wire_partial (tagged : Bool) (m : Sign1Msg) (ext : Option Bytes) (s : Signer)
    (v : Verifier) (b : Bytes) (m2 : Sign1Msg) (hm : Matches s v)
    (hok : (Sign1.sign m ext s).out = .ok ())
    (henc : Sign1.marshal tagged (Sign1.sign m ext s).state = .ok b)
    (hdec : Sign1.unmarshal tagged b = .ok m2)
    (hgate : ensureVerificationAlgorithm m2.h.p v.alg ext = .ok ())
    (hpl : blen m.payload < 18446744073709551616)
    (hUwf : ∀ U, marshalUnprotected (Sign1.sign m ext s).state.h = .ok U →
      ∃ uw : Wire, uw.wf = true ∧ U = uw.bytes) :
    (Sign1.verify m2 ext v).1 = .ok () :=
  (sign1_wire_verify_payload_sig tagged m ext s v b m2 hm hok henc hdec hgate hpl hUwf).1

/-- detached payload: sign, encode without the payload (`payload := nil`), decode, put the
    original payload back, verify.  No bound on the payload is needed here. -/
theorem sign1_wire_detached_partial (tagged : Bool) (m : Sign1Msg) (ext : Option Bytes)
    (s : Signer) (v : Verifier) (b : Bytes) (m2 : Sign1Msg) (hm : Matches s v)
    (hok : (Sign1.sign m ext s).out = .ok ())
    (henc : Sign1.marshal tagged { (Sign1.sign m ext s).state with payload := none } = .ok b)
    (hdec : Sign1.unmarshal tagged b = .ok m2)
    (hgate : ensureVerificationAlgorithm m2.h.p v.alg ext = .ok ())
    (hUwf : ∀ U, marshalUnprotected (Sign1.sign m ext s).state.h = .ok U →
      ∃ uw : Wire, uw.wf = true ∧ U = uw.bytes) :
    (Sign1.verify { m2 with payload := m.payload } ext v).1 = .ok () := by
  obtain ⟨p', tbs, sig, hpn, -, ht, hsg, hst⟩ := sign1_sign_ok_inv m ext s hok
  rw [hst] at henc hUwf
  obtain ⟨P, P', hP, hd, rfl⟩ := toBeSigned1_ok_inv ht
  obtain ⟨hP2, -, hs2⟩ :=
    sign1_wire_core tagged { h := { m.h with p := p' }, payload := m.payload, sig := some sig }
      none b m2 P P' sig hP hd rfl henc hdec (by simp [blen]) hUwf
  exact verify_of_same_tbs { m2 with payload := m.payload } ext s v P P' sig m.payload hm hP2 hd
    rfl hpn hs2 hsg hgate

/-- `hUwf` holds when no raw unprotected bytes are retained and the unprotected map is empty
    (the encoder emits `a0`) -/
theorem hUwf_of_empty (h : Hdrs) (hr : h.rawU = none) (hu : h.u = []) :
    ∀ U, marshalUnprotected h = .ok U → ∃ uw : Wire, uw.wf = true ∧ U = uw.bytes := by
  intro U hU
  refine ⟨.map .imm [], by simp [Wire.wf, Wire.wfPairs, HW.fits], ?_⟩
  simp [marshalUnprotected, hr, hu, GoVal.modelledPairs, encodeBucket] at hU
  subst hU
  decide

/-- `hUwf` holds when the retained raw unprotected bytes are those of a well-formed item —
    in particular for every message obtained from the decoder (`rawU = some u.bytes`) -/
theorem hUwf_of_raw (h : Hdrs) (uw : Wire) (hwf : uw.wf = true) (hr : h.rawU = some uw.bytes) :
    ∀ U, marshalUnprotected h = .ok U → ∃ uw : Wire, uw.wf = true ∧ U = uw.bytes := by
  intro U hU
  refine ⟨uw, hwf, ?_⟩
  obtain ⟨x, xs, hx⟩ := C09.bytes_cons uw
  unfold marshalUnprotected at hU
  split at hU
  · cases hU
  · rw [hr, hx] at hU
    simp [encodeBucket] at hU
    rw [hx]; exact hU.symm

/-! ### hash envelope -/

theorem sign1Helper_ok_inv (tagged : Bool) (h : Hdrs) (payload ext : Option Bytes) (s : Signer)
    (b : Bytes) (hok : (sign1Helper tagged h payload ext s).1 = .ok b) :
    (Sign1.sign { h := h, payload := payload, sig := none } ext s).out = .ok () ∧
    Sign1.marshal tagged (Sign1.sign { h := h, payload := payload, sig := none } ext s).state
      = .ok b := by
  rw [sign1Helper_eq] at hok
  obtain ⟨_, ho, hm⟩ := Out.bind_eq_ok.mp hok
  exact ⟨ho, hm⟩

theorem unprotected_unmarshal_parse {d : Bytes} {u : GoMap} (h : Unprotected.unmarshal d = .ok u) :
    ∃ w, parseTop true d = some w := by
  unfold Unprotected.unmarshal at h
  split at h
  · cases h
  · split at h
    · cases h
    · split at h
      · rename_i w hw; exact ⟨w, hw⟩
      · cases h

/-- `SignHashEnvelope` either stops before signing (no call, not ok) or, the hash value having the
    length its algorithm demands and `u` being the unprotected map to be emitted, is the `Sign1`
    helper on the amended headers -/
theorem signHashEnvelope_cases (s : Signer) (h : Hdrs) (p : HashPayload) :
    (∃ x, signHashEnvelope s h p = (x, []) ∧ ∀ b, x ≠ .ok b) ∨
    ∃ u, validateHash p.alg p.value = true ∧
      ((∃ x xs, h.rawU = some (x :: xs) ∧ Unprotected.unmarshal (x :: xs) = .ok u) ∨
        ((∀ x xs, h.rawU ≠ some (x :: xs)) ∧ u = h.u)) ∧
      signHashEnvelope s h p =
        sign1Helper true { h with p := setHashEnvelopeProtectedHeader h.p p, rawP := none, u := u }
          p.value none s := by
  unfold signHashEnvelope
  split
  · exact .inl ⟨_, rfl, nofun⟩
  · rename_i hv
    dsimp only
    split
    · rename_i u heq
      split
      · exact .inl ⟨_, rfl, nofun⟩
      · refine .inr ⟨u, by simpa using hv, ?_, rfl⟩
        split at heq
        · rename_i x xs hraw
          exact .inl ⟨x, xs, hraw, heq⟩
        · rename_i hn
          cases heq
          exact .inr ⟨fun x xs hc => hn x xs hc, rfl⟩
    · exact .inl ⟨_, rfl, nofun⟩
    · exact .inl ⟨_, rfl, nofun⟩
    · exact .inl ⟨_, rfl, nofun⟩

theorem signHashEnvelope_ok_inv (s : Signer) (h : Hdrs) (p : HashPayload) (b : Bytes)
    (hsign : (signHashEnvelope s h p).1 = .ok b) :
    ∃ u, validateHash p.alg p.value = true ∧
      ((∃ x xs, h.rawU = some (x :: xs) ∧ Unprotected.unmarshal (x :: xs) = .ok u) ∨
        ((∀ x xs, h.rawU ≠ some (x :: xs)) ∧ u = h.u)) ∧
      (sign1Helper true { h with p := setHashEnvelopeProtectedHeader h.p p, rawP := none, u := u }
        p.value none s).1 = .ok b := by
  rcases signHashEnvelope_cases s h p with ⟨x, hx, hne⟩ | ⟨u, hv, hu, heq⟩
  · rw [hx] at hsign
    exact absurd hsign (hne b)
  · exact ⟨u, hv, hu, heq ▸ hsign⟩

theorem hashSize_lt (a : Int) : hashSize a < 18446744073709551616 := by
  unfold hashSize
  split
  · decide
  split
  · decide
  split
  · decide
  · decide

/-- hash envelope, closed loop across the wire: what `SignHashEnvelope` emits,
    `VerifyHashEnvelope` with the matching verifier accepts, returning the signed hash value.
    `_partial`: `hdec`, `hgate`, `hrules`, `halg` are facts about decoding the emitted header
    bytes, taken as hypotheses.  Extra hypotheses, as in `sign1_wire_verify_payload_sig`:
    * `hpl` — only when the hash algorithm id is unknown to the library (`hashSize = 0`, no
      length check) the hash value is assumed shorter than 2^64 bytes;
    * `hUwf` — only when the caller did not supply raw unprotected bytes: the encoded
      unprotected map is the bytes of one well-formed item.  (Supplied raw bytes were decoded by
      `SignHashEnvelope`, hence are one well-formed item.) -/
theorem henv_closed_partial (s : Signer) (v : Verifier) (h : Hdrs) (p : HashPayload) (b : Bytes)
    (m2 : Sign1Msg) (hm : Matches s v)
    (hsign : (signHashEnvelope s h p).1 = .ok b)
    (hdec : Sign1.unmarshal true b = .ok m2)
    (hgate : ensureVerificationAlgorithm m2.h.p v.alg none = .ok ())
    (hrules : validateHashEnvelopeHeaders m2.h.p m2.h.u = true)
    (halg : payloadHashAlgorithm m2.h.p = .found p.alg)
    (hpl : hashSize p.alg = 0 → blen p.value < 18446744073709551616)
    (hUwf : (∀ x xs, h.rawU ≠ some (x :: xs)) → ∀ U, marshalUnprotected h = .ok U →
      ∃ uw : Wire, uw.wf = true ∧ U = uw.bytes) :
    ∃ m3, (verifyHashEnvelope v b).1 = .ok m3 ∧ m3.payload = p.value := by
  obtain ⟨u, hvh, hu, hhelp⟩ := signHashEnvelope_ok_inv s h p b hsign
  obtain ⟨hok, henc⟩ := sign1Helper_ok_inv _ _ _ _ _ _ hhelp
  have hpl' : blen p.value < 18446744073709551616 := by
    by_cases hz : hashSize p.alg = 0
    · exact hpl hz
    · have := hashSize_lt p.alg
      simp only [validateHash, hz, decide_false, Bool.false_or, decide_eq_true_eq] at hvh
      omega
  have hU' : ∀ U, marshalUnprotected (Sign1.sign
      { h := { h with p := setHashEnvelopeProtectedHeader h.p p, rawP := none, u := u },
        payload := p.value, sig := none } none s).state.h = .ok U →
      ∃ uw : Wire, uw.wf = true ∧ U = uw.bytes := by
    rw [marshalUnprotected_sign1_state]
    intro U hU
    rcases hu with ⟨x, xs, hraw, hu⟩ | ⟨hnraw, rfl⟩
    · obtain ⟨w, hw⟩ := unprotected_unmarshal_parse hu
      obtain ⟨hbytes, hwf, -⟩ := parseTop_sound hw
      exact hUwf_of_raw _ w hwf (hbytes ▸ hraw) U hU
    · exact hUwf hnraw U hU
  obtain ⟨hver, hpay, -⟩ := sign1_wire_verify_payload_sig true _ none s v b m2 hm hok henc hdec hgate
    hpl' hU'
  have hpay' : m2.payload = p.value := hpay
  unfold verifyHashEnvelope
  simp only [hdec, hrules, Bool.not_true, Bool.false_eq_true, if_false]
  cases hv : Sign1.verify m2 none v with
  | mk o calls =>
    rw [hv] at hver
    simp only at hver
    subst hver
    simp only [halg, hpay', hvh, if_true]
    exact ⟨_, rfl, rfl⟩

/-! ### non-vacuity -/

/-- the transparent scheme of the harness is a matching pair -/
def exS : Signer := { alg := -7, sign := fun t => .ok (1 :: 1 :: t) }
def exV : Verifier :=
  { alg := -7, verify := fun t sg => if sg = 1 :: 1 :: t then .ok () else .err .verification }
theorem exSV : Matches exS exV where
  alg := rfl
  correct := by intro tbs sig h; cases h; simp [exV]
  nonempty := by intro tbs sig h; cases h; simp

def exSlot : SigV := { h := { rawP := some [0x43, 0xa1, 0x01, 0x26], p := [(lbl 1, .alg (-7))] } }
def exMsg : SignMsg := { payload := some [1, 2, 3], sigs := [exSlot, exSlot] }

theorem ex_det1 : detBstr [0x40] = .ok [0x40] := by
  simp [detBstr, parseTop, parseItem, fuelFor, parseHead]
theorem ex_det2 : detBstr [0x43, 0xa1, 0x01, 0x26] = .ok [0x43, 0xa1, 0x01, 0x26] := by
  simp [detBstr, parseTop, parseItem, fuelFor, parseHead]
theorem ex_gate : ensureSigningAlgorithm (some [0x43, 0xa1, 0x01, 0x26]) [(lbl 1, .alg (-7))] (-7) none
    = .ok [(lbl 1, .alg (-7))] := by rfl
theorem ex_mp : marshalProtected { rawP := some [0x43, 0xa1, 0x01, 0x26], p := [(lbl 1, .alg (-7))] }
    = .ok [0x43, 0xa1, 0x01, 0x26] := by
  simp [marshalProtected, GoVal.modelledPairs, GoVal.modelled, lbl, encodeBucket]
theorem ex_mp0 : marshalProtected {} = .ok [0x40] := by
  simp [marshalProtected, GoVal.modelledPairs, encodeBucket]
theorem ex_slot_ok : (Signature.sign exSlot exS [0x40] (some [1, 2, 3]) none).out = .ok () := by
  simp [Signature.sign, exSlot, exS, ex_gate, Signature.toBeSigned, ex_det1, ex_det2, ex_mp, blen, bodyProtOK]
theorem ex_sign_ok : (Sign.sign exMsg none [exS, exS]).out = .ok () := by
  simp [Sign.sign, exMsg, ex_mp0, signLoop, ex_slot_ok]

/-- non-vacuity of `signmsg_then_verify`: a concrete two-signer COSE_Sign, signed and verified -/
example : (Sign.verify (Sign.sign exMsg none [exS, exS]).state none [exV, exV]).1 = .ok () :=
  signmsg_then_verify exMsg none [exS, exS] [exV, exV] rfl
    (by
      intro i h1 h2
      have : i = 0 ∨ i = 1 := by simp at h1; omega
      rcases this with rfl | rfl <;> exact exSV)
    ex_sign_ok

/-- a second matching pair: constant one-byte signature -/
def exS7 : Signer := { alg := -7, sign := fun _ => .ok [7] }
def exV7 : Verifier :=
  { alg := -7, verify := fun _ sg => if sg = [7] then .ok () else .err .verification }
theorem exSV7 : Matches exS7 exV7 where
  alg := rfl
  correct := by intro tbs sig h; cases h; simp [exV7]
  nonempty := by intro tbs sig h; cases h; simp

def exP : Wire := .bstr .imm [0xa1, 0x01, 0x26]
def exU : Wire := .map .imm []
def exH : Hdrs :=
  { rawP := some exP.bytes, p := [(lbl 1, .alg (-7))], rawU := some exU.bytes, u := [] }
def exM1 : Sign1Msg := { h := exH, payload := some [1, 2, 3] }

theorem exP_bytes : exP.bytes = [0x43, 0xa1, 0x01, 0x26] := by decide
theorem exU_bytes : exU.bytes = [0xa0] := by decide

theorem ex_decP : decProtected exP = .ok [(lbl 1, .alg (-7))] := by
  -- the parser does not reduce by evaluation; everything after it does
  have hp : parseTop true [0xa1, 0x01, 0x26] = some (.map .imm [(.uint .imm 1, .nint .imm 6)]) :=
    parseTop_complete (w := .map .imm [(.uint .imm 1, .nint .imm 6)]) (by decide) (by decide)
  have hu : headerLabelsUntagged [0xa1, 0x01, 0x26] = true := by decide
  unfold exP decProtected decProtectedContent
  simp only [hp, hu]
  rfl

theorem ex_decU : decUnprot exU = .ok [] := rfl

theorem ex_hh : decHeaders exP exU = .ok exH :=
  C09.decHeaders_of ex_decP ex_decU (by decide)

theorem ex_sign1 : (Sign1.sign exM1 none exS7).out = .ok () ∧
    (Sign1.sign exM1 none exS7).state = { h := exH, payload := some [1, 2, 3], sig := some [7] } := by
  have hg : ensureSigningAlgorithm exH.rawP exH.p (-7) none = .ok exH.p := by rfl
  have hmp : marshalProtected exH = .ok [0x43, 0xa1, 0x01, 0x26] := by
    simp [marshalProtected, exH, exP_bytes, GoVal.modelledPairs, GoVal.modelled, lbl, encodeBucket]
  have hd : detBstr [0x43, 0xa1, 0x01, 0x26] = .ok [0x43, 0xa1, 0x01, 0x26] := by
    simp [detBstr, parseTop, parseItem, fuelFor, parseHead]
  have ht : ∃ t, Sign1.toBeSigned { h := { rawP := exH.rawP, p := exH.p, rawU := exH.rawU, u := exH.u }, payload := some [1, 2, 3] } none = .ok t :=
    ⟨_, toBeSigned1_of (m := { h := exH, payload := some [1, 2, 3] }) hmp hd⟩
  obtain ⟨t, ht⟩ := ht
  simp [Sign1.sign, exM1, blen, hg, ht, exS7]

def exSt : Sign1Msg := { h := exH, payload := some [1, 2, 3], sig := some [7] }

/-- the hypotheses of `sign1_wire_partial` are jointly satisfiable — a concrete
    COSE_Sign1 is signed, encoded (tagged), decoded, and the theorem yields its verification -/
example : ∃ b m2, Sign1.marshal true (Sign1.sign exM1 none exS7).state = .ok b ∧
    Sign1.unmarshal true b = .ok m2 ∧ (Sign1.verify m2 none exV7).1 = .ok () := by
  obtain ⟨hok, hst⟩ := ex_sign1
  have hz : blen exSt.sig ≠ 0 := by simp [exSt, blen]
  have hmod : GoVal.modelledPairs exSt.h.p = true ∧ GoVal.modelledPairs exSt.h.u = true := by
    simp [exSt, exH, GoVal.modelledPairs, GoVal.modelled, lbl]
  have henc := C09.marshal_of_decoded (tagged := true) (m := exSt) ex_hh hz hmod
  rw [C09.marshal_tree_bytes exP exU exSt.payload exSt.sig hz] at henc
  have hwf : (Wire.arr .imm [exP, exU, C09.shortItem exSt.payload, C09.shortItem exSt.sig]).wf
      = true := by
    simp [Wire.wf, Wire.wfList, Wire.wfPairs, HW.fits, exP, exU, exSt, C09.shortItem, HW.shortest]
  have hlim : (Wire.arr .imm [exP, exU, C09.shortItem exSt.payload,
      C09.shortItem exSt.sig]).inLimits false 0 = true := by
    simp [Wire.inLimits, Wire.inLimitsList, Wire.inLimitsPairs, exP, exU, exSt, C09.shortItem,
      maxNested, maxElems]
  have hdec := C09.unmarshal_marshal_tree (tagged := true) (m := exSt) hwf hlim
    (C09.shortItem_dec _) (C09.shortItem_dec _) hz ex_hh
  refine ⟨_, exSt, by rw [hst]; exact henc, hdec, ?_⟩
  exact sign1_wire_partial true exM1 none exS7 exV7 _ exSt exSV7 hok (by rw [hst]; exact henc) hdec
    (by decide) (by simp [exM1, blen])
    (by rw [hst]; exact hUwf_of_raw exH exU (by simp [exU, Wire.wf, Wire.wfPairs, HW.fits]) rfl)

end C01
