/-
  CoseProofs.Deep.Keys — COSE_Key conversion at the level of the parameter map (C14): the map
  `Key.MarshalCBOR` builds (`KeyRT`: the parameter loop as assignments in order over the common
  fields, then the EC2 padding) and the loop of `Key.UnmarshalCBOR` over the remaining entries, on
  which Deep/KeyRoundTrip.lean builds the byte-level round trip; the keys `NewKeyFromPublic` /
  `NewKeyFromPrivate` build; what `validate` says about the coordinates of an accepted key (C15).
  The last two sections are not about keys: the verdict of `hashProtLoop` on one entry with the
  loop as an `iff` over the entries (namespace `WireClosure`, continued in Deep/WireGeneric.lean),
  and the hash-envelope header rules of `validateHashEnvelopeHeaders` /
  `setHashEnvelopeProtectedHeader` derived from it (namespace `C12`), which use the same
  `GoMap.set` / `GoMap.lookup` lemmas (stated first, in namespace `CoseModel`).
-/
import CoseProofs.Lemmas.Ecdsa
import CoseProofs.Deep.Headers
import CoseProofs.Props.C12
import CoseProofs.Props.C14
import CoseProofs.Props.C15
open CoseModel

/-! ## `GoMap.set` / `GoMap.lookup` -/

namespace CoseModel

theorem GoVal.keyEq_lbl_lbl (n m : Int) : (lbl n).keyEq (lbl m) = decide (n = m) := by
  simp [lbl, GoVal.keyEq]

theorem GoVal.lbl_keyEq_iff (n : Int) (a : GoVal) : (lbl n).keyEq a = true ↔ a = lbl n :=
  ⟨fun h => (GoVal.eq_of_keyEq h).symm, fun h => by rw [h]; exact GoVal.keyEq_int_self .i64 n⟩

theorem GoVal.lbl_keyEq_false {n : Int} {l : GoVal} (h : l ≠ lbl n) : (lbl n).keyEq l = false :=
  Bool.eq_false_iff.mpr fun hq => h ((lbl_keyEq_iff n l).mp hq)

namespace GoMap

theorem lookup_cons (a b : GoVal) (t : GoMap) (k : GoVal) :
    GoMap.lookup ((a, b) :: t) k = if a.keyEq k = true then some b else GoMap.lookup t k := by
  unfold GoMap.lookup
  rw [List.find?_cons]
  cases a.keyEq k <;> rfl

theorem lookup_append (h t : GoMap) (k : GoVal) :
    GoMap.lookup (h ++ t) k = (h.lookup k).or (t.lookup k) := by
  unfold GoMap.lookup
  rw [List.find?_append]
  cases h.find? _ <;> rfl

theorem lookup_append_of_some (h t : GoMap) (k v : GoVal) (hs : h.lookup k = some v) :
    GoMap.lookup (h ++ t) k = some v := by
  rw [lookup_append, hs]
  rfl

theorem lookup_eq_none_iff (h : GoMap) (k : GoVal) :
    h.lookup k = none ↔ ∀ e ∈ h, e.1.keyEq k = false := by
  induction h with
  | nil => exact ⟨nofun, fun _ => rfl⟩
  | cons e r ih =>
    obtain ⟨a, b⟩ := e
    rw [lookup_cons, List.forall_mem_cons]
    cases a.keyEq k <;> simp [ih]

/-- what a map holds under a key is one of its entries (Go's `==` on keys is equality) -/
theorem mem_of_lookup {g : GoMap} {l v : GoVal} (h : g.lookup l = some v) : (l, v) ∈ g := by
  unfold GoMap.lookup at h
  split at h
  · rename_i e hf
    have hk := List.find?_some hf
    rw [← Option.some.inj h, ← GoVal.eq_of_keyEq hk]
    exact List.mem_of_find?_eq_some hf
  · cases h

theorem lookup_map_set (h : GoMap) (k k' v : GoVal) :
    GoMap.lookup (h.map (fun e => if e.1.keyEq k then (e.1, v) else e)) k' =
      if k.keyEq k' = true then (h.lookup k').map (fun _ => v) else h.lookup k' := by
  induction h with
  | nil => exact (ite_self _).symm
  | cons e r ih =>
    obtain ⟨a, b⟩ := e
    rw [List.map_cons, lookup_cons a b]
    show GoMap.lookup ((if a.keyEq k = true then (a, v) else (a, b)) :: _) k' = _
    by_cases hk : a.keyEq k = true
    · rw [if_pos hk, lookup_cons, ih]
      obtain rfl := GoVal.eq_of_keyEq hk
      cases a.keyEq k' <;> rfl
    · rw [if_neg hk, lookup_cons, ih]
      by_cases hk' : k.keyEq k' = true
      · have hak : ¬ a.keyEq k' = true := fun h => by
          obtain rfl := GoVal.eq_of_keyEq h
          obtain rfl := GoVal.eq_of_keyEq hk'
          exact hk hk'
        simp only [if_pos hk', if_neg hak]
      · simp only [if_neg hk']

/-- `m[k] = v; m[k']` is `v` when `k' == k`, and what it was before otherwise -/
theorem lookup_set (h : GoMap) (k k' v : GoVal) :
    (h.set k v).lookup k' = if k.keyEq k' = true then some v else h.lookup k' := by
  unfold GoMap.set GoMap.has
  cases hl : h.lookup k with
  | none =>
    rw [Option.isSome_none, if_neg Bool.false_ne_true, lookup_append, lookup_cons]
    split
    · rename_i hk
      rw [← GoVal.eq_of_keyEq hk, hl]
      rfl
    · exact Option.or_none
  | some w =>
    rw [Option.isSome_some, if_pos rfl, lookup_map_set]
    split
    · rename_i hk
      rw [← GoVal.eq_of_keyEq hk, hl]
      rfl
    · rfl

theorem lookup_set_lbl_same (h : GoMap) (n : Int) (v : GoVal) :
    (h.set (lbl n) v).lookup (lbl n) = some v := by
  rw [lookup_set, GoVal.keyEq_lbl_lbl, if_pos (decide_eq_true rfl)]

theorem lookup_set_lbl_other (h : GoMap) (n m : Int) (v : GoVal) (hne : n ≠ m) :
    (h.set (lbl n) v).lookup (lbl m) = h.lookup (lbl m) := by
  rw [lookup_set, GoVal.keyEq_lbl_lbl, if_neg (by simpa using hne)]

end GoMap
end CoseModel

/-! ## C14 — COSE_Key conversion on the parameter map -/

namespace C14

theorem lookup_nil (k : GoVal) : GoMap.lookup [] k = none := rfl

theorem pbytes_of_lookup (k : Key) (n : Int) (b : Bytes)
    (h : k.params.lookup (lbl n) = some (.bytes b)) : k.pbytes n = b := by
  simp [Key.pbytes, paramBytes, h, Lk.getD]

end C14

/-! ## C15 — `validate` on EC2 / OKP keys -/

namespace C15

theorem paramIsBstr_of_pbytes_pos (k : Key) (l : Int) (b : Bool) (h : 0 < (k.pbytes l).length) :
    k.paramIsBstr l b = true := by
  unfold Key.pbytes paramBytes at h
  unfold Key.paramIsBstr
  cases hl : k.params.lookup (lbl l) with
  | none => rfl
  | some v =>
    rw [hl] at h
    cases v
    case bytes => rfl
    case bytesNil => rfl
    -- a value of any other type is read as the empty string
    all_goals exact (Nat.lt_irrefl 0 h).elim

theorem paramIsBstr_of_absent (k : Key) (l : Int) (b : Bool)
    (h : k.params.lookup (lbl l) = none) : k.paramIsBstr l b = true := by
  simp [Key.paramIsBstr, h]

theorem paramIsBstr_of_bytes (k : Key) (l : Int) (b : Bool) (x : Bytes)
    (h : k.params.lookup (lbl l) = some (.bytes x)) : k.paramIsBstr l b = true := by
  simp [Key.paramIsBstr, h]

theorem validate_ec2 (k : Key) (op : KOp) (h : k.validate op = none) (h2 : k.kty = 2) :
    k.crv ≠ 0 ∧ k.crv ≠ 4 ∧ k.crv ≠ 5 ∧ k.crv ≠ 6 ∧ k.crv ≠ 7 ∧
    (curveSize k.crv > 0 → (k.pbytes (-2)).length ≤ curveSize k.crv ∧
      (k.pbytes (-3)).length ≤ curveSize k.crv ∧ (k.pbytes (-4)).length ≤ curveSize k.crv) := by
  obtain ⟨⟨_, _, _, ⟨h0, _⟩, hsz, h4, h5, h6, h7⟩, _⟩ := (Key.validate_ec2_iff k op h2).mp h
  exact ⟨h0, h4, h5, h6, h7, hsz⟩

theorem validate_okp (k : Key) (op : KOp) (h : k.validate op = none) (h1 : k.kty = 1) :
    k.crv ≠ 0 ∧ k.crv ≠ 1 ∧ k.crv ≠ 2 ∧ k.crv ≠ 3 ∧
    ((k.pbytes (-2)).length = 0 ∨ (k.pbytes (-2)).length = 32) ∧
    ((k.pbytes (-4)).length = 0 ∨ (k.pbytes (-4)).length = 32) := by
  obtain ⟨⟨_, _, _, ⟨h0, _⟩, ⟨hx, hd⟩, hc1, hc2, hc3⟩, _⟩ := (Key.validate_okp_iff k op h1).mp h
  exact ⟨h0, hc1, hc2, hc3, (Nat.eq_zero_or_pos _).imp_right hx, (Nat.eq_zero_or_pos _).imp_right hd⟩

/-! ### coordinate types (repair e8483d3) -/

theorem paramIsBstr_inv (k : Key) (l : Int) (orBool : Bool) (h : k.paramIsBstr l orBool = true)
    (v : GoVal) (hl : k.params.lookup (lbl l) = some v) :
    (∃ b, v = .bytes b) ∨ v = .bytesNil ∨ (orBool = true ∧ ∃ s, v = .bool s) := by
  unfold Key.paramIsBstr at h
  rw [hl] at h
  cases v <;> simp at h
  case bytes b => exact Or.inl ⟨b, rfl⟩
  case bytesNil => exact Or.inr (Or.inl rfl)
  case bool s => exact Or.inr (Or.inr ⟨h, s, rfl⟩)

theorem paramIsBstr_eq_false (k : Key) (l : Int) (orBool : Bool) (v : GoVal)
    (hv : k.params.lookup (lbl l) = some v) (hnb : ∀ b, v ≠ .bytes b) (hnn : v ≠ .bytesNil)
    (hbool : orBool = true → ∀ s, v ≠ .bool s) : k.paramIsBstr l orBool = false := by
  cases hp : k.paramIsBstr l orBool with
  | false => rfl
  | true =>
    rcases paramIsBstr_inv k l orBool hp v hv with ⟨b, hb⟩ | hn | ⟨ho, s, hs⟩
    · exact absurd hb (hnb b)
    · exact absurd hn hnn
    · exact absurd hs (hbool ho s)

/-- a coordinate of the right type and size: a byte string no longer than `size` when `size > 0`,
    or a typed-nil `[]byte` (in-memory keys only: the decoder never yields one), or — for y only —
    a boolean -/
def CoordOK (size : Nat) (orBool : Bool) (v : GoVal) : Prop :=
  (∃ b, v = .bytes b ∧ (size > 0 → b.length ≤ size)) ∨ v = .bytesNil ∨
    (orBool = true ∧ ∃ s, v = .bool s)

/-- an EC2 key `validate` accepts has every present x, y, d of the right type — x and d byte
    strings, y a byte string or the sign bit — and within the curve's size.  (Before e8483d3 the
    size bound of `validate_ec2` spoke about `ParamBytes`, which reads a parameter of any other
    type as absent: a 100-character text string for d passed.) -/
theorem validate_ec2_coords (k : Key) (op : KOp) (h : k.validate op = none) (h2 : k.kty = 2) :
    (∀ v, k.params.lookup (lbl (-2)) = some v → CoordOK (curveSize k.crv) false v) ∧
    (∀ v, k.params.lookup (lbl (-3)) = some v → CoordOK (curveSize k.crv) true v) ∧
    (∀ v, k.params.lookup (lbl (-4)) = some v → CoordOK (curveSize k.crv) false v) := by
  obtain ⟨⟨⟨htx, hty, htd⟩, _, _, _, hsz, _⟩, _⟩ := (Key.validate_ec2_iff k op h2).mp h
  have key : ∀ (l : Int) (ob : Bool), k.paramIsBstr l ob = true →
      (curveSize k.crv > 0 → (k.pbytes l).length ≤ curveSize k.crv) →
      ∀ v, k.params.lookup (lbl l) = some v → CoordOK (curveSize k.crv) ob v := by
    intro l ob hp hb v hl
    rcases paramIsBstr_inv k l ob hp v hl with ⟨b, rfl⟩ | hn | hbo
    · refine Or.inl ⟨b, rfl, fun hpos => ?_⟩
      have := hb hpos
      rwa [C14.pbytes_of_lookup k l b hl] at this
    · exact Or.inr (Or.inl hn)
    · exact Or.inr (Or.inr hbo)
  exact ⟨key (-2) false htx (fun hp => (hsz hp).1), key (-3) true hty (fun hp => (hsz hp).2.1),
    key (-4) false htd (fun hp => (hsz hp).2.2)⟩

/-- an OKP key `validate` accepts has every present x and d a byte string of 32 bytes (or
    empty) -/
theorem validate_okp_coords (k : Key) (op : KOp) (h : k.validate op = none) (h1 : k.kty = 1) :
    (∀ v, k.params.lookup (lbl (-2)) = some v →
      (∃ b, v = .bytes b ∧ (b.length = 0 ∨ b.length = 32)) ∨ v = .bytesNil) ∧
    (∀ v, k.params.lookup (lbl (-4)) = some v →
      (∃ b, v = .bytes b ∧ (b.length = 0 ∨ b.length = 32)) ∨ v = .bytesNil) := by
  obtain ⟨⟨⟨htx, htd⟩, _⟩, _⟩ := (Key.validate_okp_iff k op h1).mp h
  obtain ⟨_, _, _, _, hx, hd⟩ := validate_okp k op h h1
  have key : ∀ (l : Int), k.paramIsBstr l false = true →
      ((k.pbytes l).length = 0 ∨ (k.pbytes l).length = 32) →
      ∀ v, k.params.lookup (lbl l) = some v →
        (∃ b, v = .bytes b ∧ (b.length = 0 ∨ b.length = 32)) ∨ v = .bytesNil := by
    intro l hp hb v hl
    rcases paramIsBstr_inv k l false hp v hl with ⟨b, rfl⟩ | hn | ⟨hbo, _⟩
    · refine Or.inl ⟨b, rfl, ?_⟩
      rwa [C14.pbytes_of_lookup k l b hl] at hb
    · exact Or.inr hn
    · cases hbo
  exact ⟨key (-2) htx hx, key (-4) htd hd⟩

/-- the flaw the repair closed, as a refusal: an EC2 key with a text string (any length) for d,
    or `null` for x, or an integer for y, is invalid for every operation -/
theorem validate_ec2_refuses_wrong_type (k : Key) (op : KOp) (h2 : k.kty = 2) (l : Int)
    (hl : l = -2 ∨ l = -3 ∨ l = -4) (v : GoVal) (hv : k.params.lookup (lbl l) = some v)
    (hnb : ∀ b, v ≠ .bytes b) (hnn : v ≠ .bytesNil) (hbool : l = -3 → ∀ s, v ≠ .bool s) :
    k.validate op = some .invalidKey := by
  have hp := paramIsBstr_eq_false k l (decide (l = -3)) v hv hnb hnn (fun h => hbool (of_decide_eq_true h))
  apply Key.validate_ec2_of_not_bstr k op h2
  rcases hl with rfl | rfl | rfl <;> simp at hp <;> simp [hp]

/-- an OKP key with x or d of any type but byte string is invalid for every operation -/
theorem validate_okp_refuses_wrong_type (k : Key) (op : KOp) (h1 : k.kty = 1) (l : Int)
    (hl : l = -2 ∨ l = -4) (v : GoVal) (hv : k.params.lookup (lbl l) = some v)
    (hnb : ∀ b, v ≠ .bytes b) (hnn : v ≠ .bytesNil) :
    k.validate op = some .invalidKey := by
  have hp := paramIsBstr_eq_false k l false v hv hnb hnn (fun h => by cases h)
  apply Key.validate_okp_of_not_bstr k op h1
  rcases hl with rfl | rfl <;> simp [hp]

theorem key_accept_consistent (tmp : GoMap) (k : Key) (h : Key.ofMap tmp = .ok k) :
    k.kty ≠ 0 ∧ k.validate .none = none ∧
    (k.kty = 2 → k.crv ≠ 0 ∧ k.crv ≠ 4 ∧ k.crv ≠ 5 ∧ k.crv ≠ 6 ∧ k.crv ≠ 7 ∧
      (curveSize k.crv > 0 → (k.pbytes (-2)).length ≤ curveSize k.crv ∧
        (k.pbytes (-3)).length ≤ curveSize k.crv ∧ (k.pbytes (-4)).length ≤ curveSize k.crv)) ∧
    (k.kty = 1 → k.crv ≠ 0 ∧ k.crv ≠ 1 ∧ k.crv ≠ 2 ∧ k.crv ≠ 3 ∧
      ((k.pbytes (-2)).length = 0 ∨ (k.pbytes (-2)).length = 32) ∧
      ((k.pbytes (-4)).length = 0 ∨ (k.pbytes (-4)).length = 32)) ∧
    (k.alg ≠ 0 → k.deriveAlgorithm = some k.alg) := by
  obtain ⟨-, hz, -, -, -, -, -, hv⟩ := Key.ofMap_inv tmp k h
  exact ⟨hz, hv, validate_ec2 k .none hv, validate_okp k .none hv, Key.validate_alg k .none hv⟩

end C15

/-! ## the map `Key.MarshalCBOR` builds -/

namespace KeyRT
open C14

/-! ### the parameter loop -/

/-- the assignments `m[l] = v` for the entries `(l, v)` of `r`, in order -/
def setAll (acc r : GoMap) : GoMap := r.foldl (fun a e => a.set e.1 e.2) acc

theorem setAll_ind (P : GoMap → Prop) : ∀ (r acc : GoMap), P acc →
    (∀ a, ∀ e ∈ r, P a → P (a.set e.1 e.2)) → P (setAll acc r)
  | [], _, ha, _ => ha
  | e :: r, acc, ha, hs => setAll_ind P r _ (hs acc e (List.mem_cons_self ..) ha)
      fun a e' he' => hs a e' (List.mem_cons_of_mem _ he')

theorem length_set (h : GoMap) (k v : GoVal) : (h.set k v).length ≤ h.length + 1 := by
  unfold GoMap.set
  split
  · simp
  · simp

theorem length_setAll : ∀ (r acc : GoMap), (setAll acc r).length ≤ acc.length + r.length
  | [], _ => Nat.le_refl _
  | e :: r, acc => by
    have h1 : (setAll acc (e :: r)).length ≤ _ := length_setAll r (acc.set e.1 e.2)
    have h2 := length_set acc e.1 e.2
    rw [List.length_cons]
    omega

/-- assignments under pairwise different labels: every entry of `r` is found under its label, and
    what `acc` held under the other labels is kept -/
theorem lookup_setAll : ∀ (r acc : GoMap) (l : GoVal),
    r.Pairwise (fun a b => a.1.keyEq b.1 = false) →
    (setAll acc r).lookup l = match r.lookup l with | some v => some v | none => acc.lookup l
  | [], _, _, _ => rfl
  | (a, b) :: r, acc, l, hp => by
    rw [List.pairwise_cons] at hp
    show (setAll (acc.set a b) r).lookup l = _
    rw [lookup_setAll r _ l hp.2, GoMap.lookup_set, GoMap.lookup_cons]
    by_cases hk : a.keyEq l = true
    · -- no later entry carries the label `a`
      have hr : GoMap.lookup r l = none := (GoMap.lookup_eq_none_iff r l).mpr fun e he =>
        Bool.eq_false_iff.mpr fun h => by
          have hae := hp.1 e he
          rw [GoVal.eq_of_keyEq h, ← GoVal.eq_of_keyEq hk] at hae
          rw [← GoVal.eq_of_keyEq hk, hae] at hk
          cases hk
      rw [if_pos hk, if_pos hk, hr]
    · rw [if_neg hk, if_neg hk]

/-- on normalised labels the parameter loop of `Key.MarshalCBOR` succeeds exactly when no label
    occurs twice or has been seen before, and it makes the assignments in order -/
theorem go_eq_some_iff (r : GoMap) (seen : List GoVal) (acc m0 : GoMap)
    (hn : ∀ e ∈ r, normalizeLabel e.1 = some e.1) :
    (Key.marshalMap.go r seen acc = some m0 ↔
      (r.Pairwise (fun a b => a.1.keyEq b.1 = false) ∧
        ∀ e ∈ r, seen.any (fun s => s.keyEq e.1) = false) ∧ m0 = setAll acc r) := by
  fun_induction Key.marshalMap.go r seen acc
  case case1 => exact ⟨fun h => ⟨⟨.nil, nofun⟩, (Option.some.inj h).symm⟩, fun h => congrArg some h.2.symm⟩
  -- a label that does not normalise: excluded by `hn`
  case case2 l v r _ _ hl => exact nomatch hl.symm.trans (hn _ (List.mem_cons_self ..))
  -- a label seen before: refused
  case case3 l v r seen _ nl hl hs =>
    obtain rfl := Option.some.inj (hl.symm.trans (hn _ (List.mem_cons_self ..)))
    exact ⟨nofun, fun h => nomatch hs.symm.trans (h.1.2 _ (List.mem_cons_self ..))⟩
  case case4 l v r seen acc nl hl hs ih =>
    obtain rfl := Option.some.inj (hl.symm.trans (hn _ (List.mem_cons_self ..)))
    rw [ih fun e he => hn e (List.mem_cons_of_mem _ he), List.pairwise_cons, List.forall_mem_cons]
    simp only [List.any_cons, Bool.or_eq_false_iff, forall_and]
    exact ⟨fun ⟨⟨h1, h2, h3⟩, h4⟩ => ⟨⟨⟨h2, h1⟩, Bool.eq_false_iff.mpr hs, h3⟩, h4⟩,
      fun ⟨⟨⟨h2, h1⟩, _, h3⟩, h4⟩ => ⟨⟨h1, h2, h3⟩, h4⟩⟩

theorem go_labels (r : GoMap) (seen : List GoVal) (acc m0 : GoMap)
    (h : Key.marshalMap.go r seen acc = some m0) : ∀ e ∈ r, normalizeLabel e.1 ≠ none := by
  fun_induction Key.marshalMap.go r seen acc
  case case1 => nofun
  -- the step that goes on: the label normalises
  case case4 hn _ ih =>
    rw [List.forall_mem_cons, hn]
    exact ⟨nofun, ih h⟩
  all_goals cases h

/-! ### the common fields -/

/-- the five common fields as `Key.MarshalCBOR` enters them -/
def baseMap (k : Key) : GoMap :=
  [(lbl 1, .int .i64 k.kty)]
  ++ (match k.id with | some b => [(lbl 2, GoVal.bytes b)] | none => [])
  ++ (if k.alg ≠ 0 then [(lbl 3, GoVal.alg k.alg)] else [])
  ++ (match k.ops with
      | some l => [(lbl 4, GoVal.arr (l.map (fun o => GoVal.int .i64 o)))]
      | none => [])
  ++ (match k.baseIV with | some b => [(lbl 5, GoVal.bytes b)] | none => [])

/-- an optional entry under the integer label `n` -/
def optEntry (n : Int) : Option GoVal → GoMap
  | some v => [(lbl n, v)]
  | none => []

theorem baseMap_eq (k : Key) : baseMap k =
    optEntry 1 (some (.int .i64 k.kty)) ++ optEntry 2 (k.id.map GoVal.bytes) ++
      optEntry 3 (if k.alg = 0 then none else some (.alg k.alg)) ++
      optEntry 4 (k.ops.map (fun l => GoVal.arr (l.map (fun o => GoVal.int .i64 o)))) ++
      optEntry 5 (k.baseIV.map GoVal.bytes) := by
  unfold baseMap
  congr 1
  · congr 1
    · congr 1
      · congr 1
        cases k.id <;> rfl
      · by_cases hz : k.alg = 0
        · rw [if_neg (not_not_intro hz), if_pos hz]; rfl
        · rw [if_pos hz, if_neg hz]; rfl
    · cases k.ops <;> rfl
  · cases k.baseIV <;> rfl

theorem lookup_optEntry (n : Int) (o : Option GoVal) (l : GoVal) :
    (optEntry n o).lookup l = if (lbl n).keyEq l then o else none := by
  cases o with
  | none => exact (ite_self _).symm
  | some v => exact GoMap.lookup_cons ..

theorem mem_optEntry {n : Int} {o : Option GoVal} {e : GoVal × GoVal} (h : e ∈ optEntry n o) :
    e.1 = lbl n ∧ o = some e.2 := by
  cases o with
  | none => cases h
  | some v => rw [List.mem_singleton.mp h]; exact ⟨rfl, rfl⟩

theorem baseMap_lookup_eq (k : Key) (l : GoVal) : (baseMap k).lookup l =
    ((((if (lbl 1).keyEq l then some (.int .i64 k.kty) else none).or
      (if (lbl 2).keyEq l then k.id.map GoVal.bytes else none)).or
      (if (lbl 3).keyEq l then (if k.alg = 0 then none else some (.alg k.alg)) else none)).or
      (if (lbl 4).keyEq l then
        k.ops.map (fun l => GoVal.arr (l.map (fun o => GoVal.int .i64 o))) else none)).or
      (if (lbl 5).keyEq l then k.baseIV.map GoVal.bytes else none) := by
  simp only [baseMap_eq, GoMap.lookup_append, lookup_optEntry]

/-- the labels of the five common COSE_Key fields -/
def isCommon (l : GoVal) : Prop := l = lbl 1 ∨ l = lbl 2 ∨ l = lbl 3 ∨ l = lbl 4 ∨ l = lbl 5

theorem isCommon_iff (l : GoVal) : isCommon l ↔ ∃ i : Int, (1 ≤ i ∧ i ≤ 5) ∧ l = lbl i := by
  constructor
  · rintro (h | h | h | h | h)
    · exact ⟨1, by decide, h⟩
    · exact ⟨2, by decide, h⟩
    · exact ⟨3, by decide, h⟩
    · exact ⟨4, by decide, h⟩
    · exact ⟨5, by decide, h⟩
  · rintro ⟨i, hi, rfl⟩
    have : i = 1 ∨ i = 2 ∨ i = 3 ∨ i = 4 ∨ i = 5 := by omega
    exact this.imp (congrArg lbl) fun h => h.imp (congrArg lbl) fun h => h.imp (congrArg lbl)
      fun h => h.imp (congrArg lbl) (congrArg lbl)

theorem baseMap_lookup (k : Key) :
    (baseMap k).lookup (lbl 1) = some (.int .i64 k.kty) ∧
    (baseMap k).lookup (lbl 2) = k.id.map GoVal.bytes ∧
    (baseMap k).lookup (lbl 3) = (if k.alg = 0 then none else some (.alg k.alg)) ∧
    (baseMap k).lookup (lbl 4) = k.ops.map (fun l => GoVal.arr (l.map (fun o => GoVal.int .i64 o))) ∧
    (baseMap k).lookup (lbl 5) = k.baseIV.map GoVal.bytes := by
  simp only [baseMap_lookup_eq, GoVal.keyEq_lbl_lbl, Int.reduceEq, decide_true, decide_false,
    Bool.false_eq_true, if_true, if_false, Option.or_none, Option.none_or, and_self]

theorem baseMap_lookup_other (k : Key) (l : GoVal) (h : ¬ isCommon l) :
    (baseMap k).lookup l = none := by
  unfold isCommon at h
  simp only [not_or] at h
  simp only [baseMap_lookup_eq, GoVal.lbl_keyEq_false h.1, GoVal.lbl_keyEq_false h.2.1,
    GoVal.lbl_keyEq_false h.2.2.1, GoVal.lbl_keyEq_false h.2.2.2.1, GoVal.lbl_keyEq_false h.2.2.2.2,
    Bool.false_eq_true, if_false, Option.or_none]

theorem not_common_neg (n : Int) (hn : n < 0) : ¬ isCommon (lbl n) := by
  unfold isCommon lbl
  simp only [GoVal.int.injEq, true_and]
  omega

/-! ### `Key.MarshalCBOR` -/

/-- the EC2 coordinate padding at the end of `Key.MarshalCBOR` (key.go:608-619) -/
def padXY (k : Key) (m : GoMap) : GoMap :=
  let size := curveSize k.crv
  let x := k.pbytes (-2)
  let y := k.pbytes (-3)
  let m := if 0 < x.length ∧ x.length < size then m.set (lbl (-2)) (.bytes (leftPad size x)) else m
  if 0 < y.length ∧ y.length < size then m.set (lbl (-3)) (.bytes (leftPad size y)) else m

/-- `Key.MarshalCBOR` before the CBOR encoding: the parameter loop, started on the map of the
    common fields, then the padding for an EC2 key -/
theorem marshalMap_eq (k : Key) :
    k.marshalMap = (Key.marshalMap.go k.params [] (baseMap k)).map
      (fun m0 => if k.kty = 2 then padXY k m0 else m0) := by
  -- `base.set` on a label not yet present appends: by evaluation, in each shape of the common fields
  have hb : baseMap k =
      (let base : GoMap := [(lbl 1, .int .i64 k.kty)]
       let base := match k.id with | some b => base.set (lbl 2) (.bytes b) | none => base
       let base := if k.alg ≠ 0 then base.set (lbl 3) (.alg k.alg) else base
       let base := match k.ops with
         | some l => base.set (lbl 4) (.arr (l.map (fun o => .int .i64 o)))
         | none => base
       match k.baseIV with | some b => base.set (lbl 5) (.bytes b) | none => base) := by
    unfold baseMap
    by_cases hz : k.alg = 0
    · simp only [hz, ne_eq, not_true_eq_false, if_false]
      cases k.id <;> cases k.ops <;> cases k.baseIV <;> rfl
    · simp only [hz, ne_eq, not_false_eq_true, if_true]
      cases k.id <;> cases k.ops <;> cases k.baseIV <;> rfl
  unfold Key.marshalMap
  dsimp only
  split
  · rename_i heq
    rw [show Key.marshalMap.go k.params [] (baseMap k) = none from hb ▸ heq]; rfl
  · rename_i m0 heq
    rw [show Key.marshalMap.go k.params [] (baseMap k) = some m0 from hb ▸ heq, Option.map_some]
    by_cases h2 : k.kty = 2
    · simp only [h2, if_true]
      by_cases hs : curveSize k.crv > 0
      · simp only [hs, if_true]; rfl
      · have h0 : curveSize k.crv = 0 := by omega
        simp [padXY, h0]
    · simp only [h2, if_false]

/-- the bytes `Key.ParamBytes` extracts from a stored value -/
def optBytes : Option GoVal → Bytes
  | some (.bytes b) => b
  | _ => []

theorem pbytes_eq (k : Key) (n : Int) : k.pbytes n = optBytes (k.params.lookup (lbl n)) := by
  unfold Key.pbytes paramBytes
  cases k.params.lookup (lbl n) with
  | none => rfl
  | some v => cases v <;> rfl

/-- the EC2 coordinate padding applied to a stored value -/
def padVal (size : Nat) : GoVal → GoVal
  | .bytes b => .bytes (leftPad size b)
  | v => v

/-- one padding step of `Key.MarshalCBOR` (key.go:612-614, :615-617): a byte string stored under
    `n` that is neither empty nor as long as `size` is left-padded to `size` -/
def padStep (size : Nat) (n : Int) (m : GoMap) : GoMap :=
  if 0 < (optBytes (m.lookup (lbl n))).length ∧ (optBytes (m.lookup (lbl n))).length < size
    then m.set (lbl n) (.bytes (leftPad size (optBytes (m.lookup (lbl n))))) else m

theorem lookup_padStep (size : Nat) (n : Int) (m : GoMap) (l : GoVal) :
    (padStep size n m).lookup l =
      if (lbl n).keyEq l then (m.lookup l).map (padVal size) else m.lookup l := by
  by_cases hl : l = lbl n
  · subst hl
    rw [if_pos (by rw [GoVal.keyEq_lbl_lbl]; exact decide_eq_true rfl)]
    unfold padStep
    cases h : m.lookup (lbl n) with
    | none => simp [optBytes, h]
    | some v =>
      cases v
      case bytes b =>
        show (if 0 < b.length ∧ b.length < size then m.set (lbl n) (.bytes (leftPad size b))
          else m).lookup (lbl n) = some (.bytes (leftPad size b))
        by_cases hc : 0 < b.length ∧ b.length < size
        · rw [if_pos hc]
          exact GoMap.lookup_set_lbl_same m n _
        · rw [if_neg hc, h, leftPad, if_neg hc]
      all_goals simp [optBytes, h, padVal]
  · rw [if_neg (by rw [GoVal.lbl_keyEq_false hl]; nofun)]
    unfold padStep
    split
    · rw [GoMap.lookup_set, if_neg (by rw [GoVal.lbl_keyEq_false hl]; nofun)]
    · rfl

/-- the two padding steps of an EC2 key, on a map that holds the parameters under negative labels -/
theorem padXY_eq (k : Key) (m0 : GoMap)
    (hneg : ∀ n : Int, n < 0 → m0.lookup (lbl n) = k.params.lookup (lbl n)) :
    padXY k m0 = padStep (curveSize k.crv) (-3) (padStep (curveSize k.crv) (-2) m0) := by
  have h3 : (padStep (curveSize k.crv) (-2) m0).lookup (lbl (-3)) = k.params.lookup (lbl (-3)) := by
    rw [lookup_padStep, GoVal.keyEq_lbl_lbl, if_neg (by decide), hneg _ (by decide)]
  unfold padXY
  dsimp only
  rw [pbytes_eq, pbytes_eq, ← hneg (-2) (by decide), ← h3]
  rfl

/-- what `Key.MarshalCBOR` stores under a label: the parameter (which overrides a common field
    of the same label), else the common field; EC2 x / y left-padded to the curve size -/
def wireLookup (k : Key) (l : GoVal) : Option GoVal :=
  let o := match k.params.lookup l with | some v => some v | none => (baseMap k).lookup l
  if k.kty = 2 ∧ ((lbl (-2)).keyEq l = true ∨ (lbl (-3)).keyEq l = true)
    then o.map (padVal (curveSize k.crv)) else o

/-- `Key.MarshalCBOR` on normalised labels: it succeeds exactly when no parameter label occurs
    twice, and builds the common fields, overwritten by the parameters in order, then, for an EC2
    key, padded under x and y -/
theorem marshalMap_eq_some_iff (k : Key) (hn : ∀ e ∈ k.params, normalizeLabel e.1 = some e.1)
    (m : GoMap) :
    k.marshalMap = some m ↔ k.params.Pairwise (fun a b => a.1.keyEq b.1 = false) ∧
      m = if k.kty = 2
        then padStep (curveSize k.crv) (-3) (padStep (curveSize k.crv) (-2) (setAll (baseMap k) k.params))
        else setAll (baseMap k) k.params := by
  have hpad : k.params.Pairwise (fun a b => a.1.keyEq b.1 = false) →
      padXY k (setAll (baseMap k) k.params) = padStep (curveSize k.crv) (-3)
        (padStep (curveSize k.crv) (-2) (setAll (baseMap k) k.params)) := fun hp =>
    padXY_eq k _ fun n hlt => by
      rw [lookup_setAll _ _ _ hp]
      cases k.params.lookup (lbl n) with
      | some v => rfl
      | none => exact baseMap_lookup_other k _ (not_common_neg n hlt)
  rw [marshalMap_eq, Option.map_eq_some_iff]
  constructor
  · rintro ⟨m0, hgo, rfl⟩
    obtain ⟨⟨hp, _⟩, rfl⟩ := (go_eq_some_iff _ _ _ _ hn).mp hgo
    exact ⟨hp, by rw [hpad hp]⟩
  · rintro ⟨hp, rfl⟩
    exact ⟨_, (go_eq_some_iff _ _ _ _ hn).mpr ⟨⟨hp, fun _ _ => rfl⟩, rfl⟩, by rw [hpad hp]⟩

theorem marshalMap_lookup (k : Key) (m : GoMap) (hm : k.marshalMap = some m)
    (hn : ∀ e ∈ k.params, normalizeLabel e.1 = some e.1) (l : GoVal) :
    m.lookup l = wireLookup k l := by
  obtain ⟨hp, rfl⟩ := (marshalMap_eq_some_iff k hn m).mp hm
  unfold wireLookup
  dsimp only
  by_cases h2 : k.kty = 2
  · rw [if_pos h2, lookup_padStep, lookup_padStep, lookup_setAll _ _ _ hp]
    cases hx : (lbl (-2)).keyEq l <;> cases hy : (lbl (-3)).keyEq l <;>
      simp only [h2, true_and, Bool.false_eq_true, or_self, or_true, true_or, if_true, if_false]
    -- both cannot hold: `l` is one label
    rw [(GoVal.lbl_keyEq_iff _ l).mp hx, GoVal.keyEq_lbl_lbl] at hy
    cases hy
  · rw [if_neg h2, if_neg (fun h => h2 h.1), lookup_setAll _ _ _ hp]

theorem wireLookup_param (k : Key) {l : GoVal} (hc : ¬ isCommon l) :
    wireLookup k l =
      if k.kty = 2 ∧ ((lbl (-2)).keyEq l = true ∨ (lbl (-3)).keyEq l = true)
        then (k.params.lookup l).map (padVal (curveSize k.crv)) else k.params.lookup l := by
  unfold wireLookup
  rw [baseMap_lookup_other k l hc]
  cases k.params.lookup l <;> rfl

theorem wireLookup_neg (k : Key) (n : Int) (hn : n < 0) :
    wireLookup k (lbl n) =
      if k.kty = 2 ∧ (n = -2 ∨ n = -3)
        then (k.params.lookup (lbl n)).map (padVal (curveSize k.crv)) else k.params.lookup (lbl n) := by
  simp only [wireLookup_param k (not_common_neg n hn), GoVal.keyEq_lbl_lbl, decide_eq_true_eq]
  by_cases hc : k.kty = 2 ∧ (n = -2 ∨ n = -3)
  · rw [if_pos hc, if_pos ⟨hc.1, by have := hc.2; omega⟩]
  · rw [if_neg hc, if_neg (fun h => hc ⟨h.1, by have := h.2; omega⟩)]

/-- the retyping of the curve parameter of EC2 / OKP keys in `Key.UnmarshalCBOR` (key.go:702-709) -/
def retypeVal (kty : Int) (l v : GoVal) : GoVal :=
  if (kty = 2 ∨ kty = 1) ∧ (lbl (-1)).keyEq l = true then
    (match v with
     | .int .i64 c => .crv c
     | v => v)
  else v

def retypeEntry (kty : Int) (e : GoVal × GoVal) : GoVal × GoVal := (e.1, retypeVal kty e.1 e.2)

theorem retypeVal_crv {kty : Int} (h : kty = 2 ∨ kty = 1) (c : Int) :
    retypeVal kty (lbl (-1)) (.int .i64 c) = .crv c :=
  if_pos ⟨h, rfl⟩

theorem retypeVal_other {kty : Int} {l : GoVal} (h : ¬ ((kty = 2 ∨ kty = 1) ∧ l = lbl (-1)))
    (v : GoVal) : retypeVal kty l v = v :=
  if_neg fun hc => h ⟨hc.1, (GoVal.lbl_keyEq_iff _ l).mp hc.2⟩

/-- what the loop of `Key.UnmarshalCBOR` over the remaining entries (key.go:699-716) asks of an
    entry: an int64 or text
    label, and under -1, for an EC2 / OKP key, an int64 -/
def ParamOK (kty : Int) (e : GoVal × GoVal) : Prop :=
  ((∃ n, e.1 = .int .i64 n) ∨ ∃ s, e.1 = .str s) ∧
    ((kty = 2 ∨ kty = 1) → e.1 = lbl (-1) → ∃ c, e.2 = .int .i64 c)

/-- one accepted entry in front of an accepted rest -/
theorem keyParams_step {kty : Int} {k v w : GoVal} {r rest p : GoMap}
    (hr : (∀ e ∈ r, ParamOK kty e) ∧ rest = r.map (retypeEntry kty))
    (h1 : ParamOK kty (k, v)) (h2 : retypeVal kty k v = w) :
    some ((k, w) :: rest) = some p ↔
      (∀ e ∈ (k, v) :: r, ParamOK kty e) ∧ p = ((k, v) :: r).map (retypeEntry kty) := by
  obtain ⟨hok, rfl⟩ := hr
  rw [List.forall_mem_cons, List.map_cons, retypeEntry, h2, Option.some.injEq]
  exact ⟨fun h => ⟨⟨h1, hok⟩, h.symm⟩, fun h => h.2.symm⟩

/-- the loop succeeds exactly on such entries, and only retypes the curve -/
theorem keyParams_eq_some_iff (kty : Int) (r p : GoMap) :
    keyParams kty r = some p ↔ (∀ e ∈ r, ParamOK kty e) ∧ p = r.map (retypeEntry kty) := by
  fun_induction keyParams kty r generalizing p
  case case1 => exact ⟨fun h => ⟨nofun, (Option.some.inj h).symm⟩, fun h => congrArg some h.2.symm⟩
  case case2 hr ih =>
    exact ⟨nofun, fun h => nomatch hr.symm.trans
      ((ih _).mpr ⟨fun e he => h.1 e (List.mem_cons_of_mem _ he), rfl⟩)⟩
  case case3 rest hr l hc c ih =>
    obtain ⟨h12, rfl⟩ := hc
    exact keyParams_step ((ih rest).mp hr) ⟨.inl ⟨_, rfl⟩, fun _ _ => ⟨c, rfl⟩⟩ (retypeVal_crv h12 c)
  case case4 rest hr l hc hv ih =>
    obtain ⟨h12, rfl⟩ := hc
    exact ⟨nofun, fun h => by
      obtain ⟨c, hcv⟩ := (h.1 _ (List.mem_cons_self ..)).2 h12 rfl
      exact (hv c hcv).elim⟩
  case case5 v _ rest hr l hc ih =>
    have hc' : ¬ ((kty = 2 ∨ kty = 1) ∧ GoVal.int .i64 l = lbl (-1)) :=
      fun h => hc ⟨h.1, (GoVal.int.inj h.2).2⟩
    exact keyParams_step ((ih rest).mp hr)
      ⟨.inl ⟨l, rfl⟩, fun h12 hl => absurd ⟨h12, hl⟩ hc'⟩ (retypeVal_other hc' v)
  case case6 v _ rest hr s ih =>
    exact keyParams_step ((ih rest).mp hr)
      ⟨.inr ⟨s, rfl⟩, fun _ hl => nomatch hl⟩ (retypeVal_other (l := .str s) (fun h => nomatch h.2) v)
  case case7 hi hs ih =>
    exact ⟨nofun, fun h => (h.1 _ (List.mem_cons_self ..)).1.elim
      (fun ⟨n, hn⟩ => (hi n hn).elim) (fun ⟨s, hs'⟩ => (hs s hs').elim)⟩
end KeyRT

namespace C15

theorem accepted_labels (tmp : GoMap) (k : Key) (h : Key.ofMap tmp = .ok k) :
    ∀ e ∈ k.params, (∃ n, e.1 = .int .i64 n) ∨ (∃ s, e.1 = .str s) := by
  obtain ⟨-, -, -, -, -, -, hp, -⟩ := Key.ofMap_inv tmp k h
  obtain ⟨hok, hpe⟩ := (KeyRT.keyParams_eq_some_iff _ _ _).mp hp
  intro e he
  rw [hpe] at he
  obtain ⟨e0, he0, rfl⟩ := List.mem_map.mp he
  exact (hok e0 he0).1

end C15


/-! ## C14 — the serialised EC2 / OKP parameters -/

namespace C14
open KeyRT

/-! ### the serialised parameter map -/

theorem normalizeLabel_lbl_small (n : Int) (h1 : -9223372036854775808 ≤ n) (h2 : n ≤ 9223372036854775807) :
    normalizeLabel (lbl n) = some (lbl n) := by
  rw [lbl, normalizeLabel_int_of_narrow rfl, wrap64_of_int64 h1 h2]

theorem marshalMap_labels (k : Key) (m : GoMap) (h : k.marshalMap = some m) :
    ∀ e ∈ k.params, normalizeLabel e.1 ≠ none := by
  rw [marshalMap_eq, Option.map_eq_some_iff] at h
  obtain ⟨_, hgo, _⟩ := h
  exact go_labels _ _ _ _ hgo

/-- (repair 0eeddbc) `Key.MarshalCBOR` refuses a parameter label of type `uint` / `uint64` above
    `math.MaxInt64` — before the repair it was written under the wrapped, negative label, so that
    `Params{uint64(2^64-2): x}` came out as the x coordinate (label -2) -/
theorem marshalMap_refuses_wide_label (k : Key) (kd : IntKind) (v : Int) (w : GoVal)
    (hk : kd = .u ∨ kd = .u64) (hv : v > maxInt64) (hm : (.int kd v, w) ∈ k.params) :
    k.marshalMap = none := by
  cases h : k.marshalMap with
  | none => rfl
  | some m =>
    refine absurd ?_ (marshalMap_labels k m h _ hm)
    rcases hk with rfl | rfl <;> exact normalizeLabel_int_eq_none.mpr ⟨rfl, hv⟩

/-- every integer parameter label of a key that `Key.MarshalCBOR` serialises (the label being a
    value of its Go type) is at most `math.MaxInt64` -/
theorem marshalMap_labels_int64 (k : Key) (m : GoMap) (h : k.marshalMap = some m)
    (e : GoVal × GoVal) (he : e ∈ k.params) (kd : IntKind) (v : Int) (hl : e.1 = .int kd v)
    (hhi : v ≤ kd.hi) : v ≤ maxInt64 :=
  le_maxInt64_of_normalizes hhi (hl ▸ marshalMap_labels k m h e he)

theorem lt_pow_of_natBytes_length_le (x size : Nat) (h : (natBytes x).length ≤ size) :
    x < 256 ^ size := (natBytes_length_le_iff x size).mp h

theorem crv_of_lookup (k : Key) (c : Int) (h : k.params.lookup (lbl (-1)) = some (.crv c)) :
    k.crv = c := by
  simp [Key.crv, paramInt, h, Lk.getD]

/-- the parameter list `NewKeyFromPublic` / `NewKeyFromPrivate` hand to `NewKeyEC2`: x and y as
    `ec2Coordinate` leaves them — `big.Int.Bytes()` (minimal length), except that a coordinate 0 is
    `size` zero octets rather than the empty string; d is `D.Bytes()` -/
def ecParams (crv : Int) (x y : Nat) (d : Option Nat) : GoMap :=
  let params : GoMap := [(lbl (-1), .crv crv), (lbl (-2), .bytes (ec2Coordinate x (curveSize crv))),
    (lbl (-3), .bytes (ec2Coordinate y (curveSize crv)))]
  match d with | some dv => params ++ [(lbl (-4), .bytes (natBytes dv))] | none => params

theorem curveOfBits_cases (bits : Nat) :
    curveOfBits bits = 0 ∨ curveOfBits bits = 1 ∨ curveOfBits bits = 2 ∨ curveOfBits bits = 3 := by
  fun_cases curveOfBits bits
  · exact .inr (.inl rfl)
  · exact .inr (.inr (.inl rfl))
  · exact .inr (.inr (.inr rfl))
  · exact .inl rfl

theorem keyFromEC_inv (bits x y : Nat) (d : Option Nat) (k : Key)
    (hk : keyFromEC bits x y d = .ok k) :
    (curveOfBits bits = 1 ∨ curveOfBits bits = 2 ∨ curveOfBits bits = 3) ∧
    k = { kty := 2,
          alg := (if curveOfBits bits = 1 then -7 else if curveOfBits bits = 2 then -35 else -36),
          params := ecParams (curveOfBits bits) x y d } ∧
    k.validate .none = none := by
  revert hk
  fun_cases keyFromEC bits x y d
  -- the one branch that returns a key
  case case3 hc _ _ _ _ _ hv =>
    intro hk
    rw [← Out.ok.inj hk]
    exact ⟨(curveOfBits_cases bits).resolve_left hc, rfl, hv⟩
  all_goals exact nofun

theorem ecParams_lookups (c : Int) (x y : Nat) (d : Option Nat) :
    (ecParams c x y d).lookup (lbl (-1)) = some (.crv c) ∧
    (ecParams c x y d).lookup (lbl (-2)) = some (.bytes (ec2Coordinate x (curveSize c))) ∧
    (ecParams c x y d).lookup (lbl (-3)) = some (.bytes (ec2Coordinate y (curveSize c))) ∧
    (∀ dv, d = some dv → (ecParams c x y d).lookup (lbl (-4)) = some (.bytes (natBytes dv))) := by
  cases d <;> simp [ecParams, GoMap.lookup_cons, GoVal.keyEq_lbl_lbl, lookup_nil]

theorem ecParams_normal (c : Int) (x y : Nat) (d : Option Nat) :
    ∀ e ∈ ecParams c x y d, normalizeLabel e.1 = some e.1 := by
  intro e he
  cases d <;> simp only [ecParams, List.cons_append, List.nil_append, List.mem_cons,
    List.not_mem_nil, or_false] at he <;> rcases he with rfl | rfl | rfl | rfl <;> rfl

theorem curveSize_pos_of (c : Int) (hc : c = 1 ∨ c = 2 ∨ c = 3) : 0 < curveSize c := by
  rcases hc with h | h | h <;> rw [h] <;> decide

/-- the in-memory key of `NewKeyFromPublic` / `NewKeyFromPrivate`: x and y are `ec2Coordinate` of
    the coordinates — `X.Bytes()`, `Y.Bytes()`, except that 0 is `size` zero octets —, d is
    `D.Bytes()` -/
theorem keyFromEC_pbytes (bits x y : Nat) (d : Option Nat) (k : Key)
    (hk : keyFromEC bits x y d = .ok k) :
    k.crv = curveOfBits bits ∧
    k.pbytes (-2) = ec2Coordinate x (curveSize (curveOfBits bits)) ∧
    k.pbytes (-3) = ec2Coordinate y (curveSize (curveOfBits bits)) ∧
    (∀ dv, d = some dv → k.pbytes (-4) = natBytes dv) := by
  obtain ⟨_, hkeq, _⟩ := keyFromEC_inv bits x y d k hk
  have hl := ecParams_lookups (curveOfBits bits) x y d
  have hpar : k.params = ecParams (curveOfBits bits) x y d := by rw [hkeq]
  rw [← hpar] at hl
  exact ⟨crv_of_lookup k _ hl.1, pbytes_of_lookup k _ _ hl.2.1, pbytes_of_lookup k _ _ hl.2.2.1,
    fun dv hd => pbytes_of_lookup k _ _ (hl.2.2.2 dv hd)⟩

/-- what `NewKeyFromPublic` / `NewKeyFromPrivate` return for an EC key: the curve is one of the
    three, the parameters are `ecParams`, and both coordinates fit the field (`validate` refuses a
    stored coordinate longer than the field) -/
theorem keyFromEC_inv_fits (bits x y : Nat) (d : Option Nat) (k : Key)
    (hk : keyFromEC bits x y d = .ok k) :
    (curveOfBits bits = 1 ∨ curveOfBits bits = 2 ∨ curveOfBits bits = 3) ∧
    k = { kty := 2,
          alg := (if curveOfBits bits = 1 then -7 else if curveOfBits bits = 2 then -35 else -36),
          params := ecParams (curveOfBits bits) x y d } ∧
    k.validate .none = none ∧
    x < 256 ^ curveSize (curveOfBits bits) ∧ y < 256 ^ curveSize (curveOfBits bits) := by
  obtain ⟨hc, hkeq, hv⟩ := keyFromEC_inv bits x y d k hk
  obtain ⟨hcrv, hpx, hpy, _⟩ := keyFromEC_pbytes bits x y d k hk
  have h2 : k.kty = 2 := by rw [hkeq]
  have hsz : curveSize k.crv > 0 := by
    rw [hcrv]
    exact curveSize_pos_of _ hc
  obtain ⟨_, _, _, _, _, hlen⟩ := C15.validate_ec2 k .none hv h2
  obtain ⟨hlx, hly, _⟩ := hlen hsz
  rw [hpx, hcrv] at hlx
  rw [hpy, hcrv] at hly
  exact ⟨hc, hkeq, hv, (ec2Coordinate_length_le_iff _ _).mp hlx, (ec2Coordinate_length_le_iff _ _).mp hly⟩

/-- the same, by cases: a non-zero coordinate is held as `big.Int.Bytes()` gives it (minimal
    length), a zero coordinate as `size` zero octets -/
theorem keyFromEC_pbytes_cases (bits x y : Nat) (d : Option Nat) (k : Key)
    (hk : keyFromEC bits x y d = .ok k) :
    (x ≠ 0 → k.pbytes (-2) = natBytes x) ∧
    (x = 0 → k.pbytes (-2) = List.replicate (curveSize (curveOfBits bits)) 0) ∧
    (y ≠ 0 → k.pbytes (-3) = natBytes y) ∧
    (y = 0 → k.pbytes (-3) = List.replicate (curveSize (curveOfBits bits)) 0) := by
  obtain ⟨_, hx, hy, _⟩ := keyFromEC_pbytes bits x y d k hk
  refine ⟨fun h => ?_, fun h => ?_, fun h => ?_, fun h => ?_⟩
  · rw [hx, ec2Coordinate_nonzero _ _ h]
  · rw [hx, h, ec2Coordinate_zero]
  · rw [hy, ec2Coordinate_nonzero _ _ h]
  · rw [hy, h, ec2Coordinate_zero]

/-- the repaired defect: the key the constructor returns never holds an empty x or y — for every
    coordinate value it accepts, 0 included (`big.Int.Bytes()` of 0 is the empty string, which
    `validate` / `PublicKey()` read as "x or y missing") — and neither is longer than the field -/
theorem keyFromEC_coord_nonempty (bits x y : Nat) (d : Option Nat) (k : Key)
    (hk : keyFromEC bits x y d = .ok k) :
    0 < (k.pbytes (-2)).length ∧ 0 < (k.pbytes (-3)).length ∧
    (k.pbytes (-2)).length ≤ curveSize (curveOfBits bits) ∧
    (k.pbytes (-3)).length ≤ curveSize (curveOfBits bits) := by
  obtain ⟨hc, _, _, hxlt, hylt⟩ := keyFromEC_inv_fits bits x y d k hk
  obtain ⟨_, hx, hy, _⟩ := keyFromEC_pbytes bits x y d k hk
  have hs := curveSize_pos_of _ hc
  rw [hx, hy]
  exact ⟨ec2Coordinate_length_pos _ _ hs, ec2Coordinate_length_pos _ _ hs,
    (ec2Coordinate_length_le_iff _ _).mpr hxlt, (ec2Coordinate_length_le_iff _ _).mpr hylt⟩

/-- the coordinates of the in-memory key convert back (`SetBytes`) to the numbers put in -/
theorem keyFromEC_ecCoords (bits x y : Nat) (d : Option Nat) (k : Key)
    (hk : keyFromEC bits x y d = .ok k) :
    os2ip (k.pbytes (-2)) = x ∧ os2ip (k.pbytes (-3)) = y ∧
    (∀ dv, d = some dv → k.ecCoords = (x, y, dv)) := by
  obtain ⟨_, hx, hy, hd⟩ := keyFromEC_pbytes bits x y d k hk
  have ex : os2ip (k.pbytes (-2)) = x := by rw [hx, ec2Coordinate_roundtrip]
  have ey : os2ip (k.pbytes (-3)) = y := by rw [hy, ec2Coordinate_roundtrip]
  refine ⟨ex, ey, fun dv hdv => ?_⟩
  unfold Key.ecCoords
  rw [ex, ey, hd dv hdv, os2ip_natBytes]

/-- everything the serialised map of `NewKeyEC2(x, y, d)` holds for the coordinates; no
    hypothesis on x, y beyond the constructor having accepted them: `MarshalCBOR` left-pads the
    minimal form of a non-zero coordinate, and the zero coordinate is already at full width -/
theorem ec2_marshal_lookups (bits x y : Nat) (d : Option Nat) (k : Key) (m : GoMap)
    (hk : keyFromEC bits x y d = .ok k) (hm : k.marshalMap = some m) :
    ∃ size, size = curveSize (curveOfBits bits) ∧ size ≠ 0 ∧ x < 256 ^ size ∧ y < 256 ^ size ∧
      m.lookup (lbl (-2)) = some (.bytes (fillBytes size x)) ∧
      m.lookup (lbl (-3)) = some (.bytes (fillBytes size y)) ∧
      (∀ dv, d = some dv → m.lookup (lbl (-4)) = some (.bytes (natBytes dv))) := by
  obtain ⟨hc, hkeq, _, hxlt, hylt⟩ := keyFromEC_inv_fits bits x y d k hk
  obtain ⟨hcrv, _⟩ := keyFromEC_pbytes bits x y d k hk
  have hpar : k.params = ecParams (curveOfBits bits) x y d := by rw [hkeq]
  have h2 : k.kty = 2 := by rw [hkeq]
  obtain ⟨_, hlx, hly, hld⟩ := ecParams_lookups (curveOfBits bits) x y d
  have hwl : ∀ n : Int, n < 0 → m.lookup (lbl n) = _ := fun n hn =>
    (marshalMap_lookup k m hm (hpar ▸ ecParams_normal _ x y d) (lbl n)).trans (wireLookup_neg k n hn)
  rw [hpar, hcrv] at hwl
  refine ⟨_, rfl, Nat.ne_of_gt (curveSize_pos_of _ hc), hxlt, hylt, ?_, ?_, fun dv hd => ?_⟩
  · rw [hwl (-2) (by decide), if_pos ⟨h2, Or.inl rfl⟩, hlx, ← leftPad_ec2Coordinate _ _ hxlt]
    rfl
  · rw [hwl (-3) (by decide), if_pos ⟨h2, Or.inr rfl⟩, hly, ← leftPad_ec2Coordinate _ _ hylt]
    rfl
  · rw [hwl (-4) (by decide), if_neg (fun h => by have := h.2; omega), hld dv hd]

/-- the serialised x and y always have exactly the curve's byte size — for every key the
    constructor accepts, the zero coordinate included -/
theorem ec2_marshal_fullwidth (bits x y : Nat) (d : Option Nat) (k : Key) (m : GoMap)
    (hk : keyFromEC bits x y d = .ok k) (hm : k.marshalMap = some m) :
    ∃ size, size = curveSize (curveOfBits bits) ∧ size ≠ 0 ∧
      m.lookup (lbl (-2)) = some (.bytes (fillBytes size x)) ∧
      m.lookup (lbl (-3)) = some (.bytes (fillBytes size y)) ∧
      (fillBytes size x).length = size ∧ (fillBytes size y).length = size := by
  obtain ⟨size, h1, h2, _, _, h3, h4, _⟩ := ec2_marshal_lookups bits x y d k m hk hm
  exact ⟨size, h1, h2, h3, h4, fillBytes_length _ _, fillBytes_length _ _⟩

/-- converting the serialised parameters back (`SetBytes`) yields the same numbers, whatever the
    key's other fields -/
theorem ec2_coords_roundtrip (k' : Key) (size x y dv : Nat)
    (hx : k'.params.lookup (lbl (-2)) = some (.bytes (leftPad size (natBytes x))))
    (hy : k'.params.lookup (lbl (-3)) = some (.bytes (leftPad size (natBytes y))))
    (hd : k'.params.lookup (lbl (-4)) = some (.bytes (natBytes dv))) :
    k'.ecCoords = (x, y, dv) := by
  unfold Key.ecCoords
  rw [pbytes_of_lookup _ _ _ hx, pbytes_of_lookup _ _ _ hy, pbytes_of_lookup _ _ _ hd,
    os2ip_leftPad, os2ip_leftPad, os2ip_natBytes, os2ip_natBytes, os2ip_natBytes]

theorem ecCoords_of_params (p : GoMap) (size x y dv : Nat)
    (hx : p.lookup (lbl (-2)) = some (.bytes (leftPad size (natBytes x))))
    (hy : p.lookup (lbl (-3)) = some (.bytes (leftPad size (natBytes y))))
    (hd : p.lookup (lbl (-4)) = some (.bytes (natBytes dv))) :
    ({ params := p } : Key).ecCoords = (x, y, dv) :=
  ec2_coords_roundtrip { params := p } size x y dv hx hy hd

/-- end to end: the coordinates read back from the serialised map of `NewKeyEC2(x, y, d)` are
    `x`, `y`, `d` -/
theorem ec2_marshal_coords (bits x y dv : Nat) (k : Key) (m : GoMap)
    (hk : keyFromEC bits x y (some dv) = .ok k) (hm : k.marshalMap = some m)
    (k' : Key) (hk' : k'.params = m) :
    k'.ecCoords = (x, y, dv) := by
  obtain ⟨size, _, _, hxlt, hylt, h3, h4, h5⟩ := ec2_marshal_lookups bits x y _ k m hk hm
  rw [← hk'] at h3 h4 h5
  unfold Key.ecCoords
  rw [pbytes_of_lookup _ _ _ h3, pbytes_of_lookup _ _ _ h4, pbytes_of_lookup _ _ _ (h5 dv rfl),
    os2ip_fillBytes _ _ hxlt, os2ip_fillBytes _ _ hylt, os2ip_natBytes]

theorem okp_params_roundtrip (xb : Bytes) (d : Option Bytes) (k : Key)
    (hk : keyFromEd xb d = .ok k) :
    k.pbytes (-2) = xb ∧ (∀ dv, d = some dv → k.pbytes (-4) = dv) ∧ k.deriveAlgorithm = some (-8) := by
  unfold keyFromEd at hk
  dsimp only at hk
  split at hk
  · cases hk
  · cases hk
    cases d <;>
      simp [Key.pbytes, paramBytes, Key.deriveAlgorithm, Key.crv, paramInt, GoMap.lookup_cons, lookup_nil,
        GoVal.keyEq_lbl_lbl, Lk.getD]


theorem keyFromEC_signer_alg (bits x y dv : Nat) (k : Key)
    (hk : keyFromEC bits x y (some dv) = .ok k) (a : Int) (hs : k.signer = .ok a) :
    a = (if curveOfBits bits = 1 then -7 else if curveOfBits bits = 2 then -35 else -36) ∧
    (∀ oc b, k.verifier oc = .ok b → b = a) := by
  obtain ⟨hc, hkeq, hv⟩ := keyFromEC_inv bits x y _ k hk
  obtain ⟨hcrv, _, _, _⟩ := keyFromEC_pbytes bits x y _ k hk
  have h2 : k.kty = 2 := by rw [hkeq]
  obtain ⟨_, _, _, hda, _⟩ := C15.signer_gate k a hs
  constructor
  · rw [Key.deriveAlgorithm_ec2 k h2, hcrv] at hda
    rcases hc with h | h | h
    all_goals
      rw [h] at hda ⊢
      exact (Option.some.inj hda).symm
  · intro oc b hb
    obtain ⟨_, _, hdb, _⟩ := C15.verifier_gate k oc b hb
    rw [hda] at hdb
    exact (Option.some.inj hdb).symm

/-- non-vacuity of `ec2_marshal_fullwidth`: every key `NewKeyEC2` returns can be serialised -/
theorem keyFromEC_marshal_some (bits x y : Nat) (d : Option Nat) (k : Key)
    (hk : keyFromEC bits x y d = .ok k) : ∃ m, k.marshalMap = some m := by
  obtain ⟨_, rfl, _⟩ := keyFromEC_inv bits x y d k hk
  rw [marshalMap_eq]
  cases d <;> exact ⟨_, rfl⟩

/-- the full width is a property of the wire (the in-memory statement is false for small
    non-zero coordinates — `keyFromEC_memory_not_fullwidth`): every key the constructor returns can
    be serialised, and what `MarshalCBOR` emits under x and y is the stored parameter left-padded,
    which is `FillBytes` of the coordinate at the curve's byte size and so has exactly that size —
    for every coordinate value, 0 included, no `0 < x` / `0 < y` -/
theorem keyFromEC_fullwidth_wire (bits x y : Nat) (d : Option Nat) (k : Key)
    (hk : keyFromEC bits x y d = .ok k) :
    ∃ m, k.marshalMap = some m ∧
      m.lookup (lbl (-2)) = some (.bytes (leftPad (curveSize (curveOfBits bits)) (k.pbytes (-2)))) ∧
      m.lookup (lbl (-3)) = some (.bytes (leftPad (curveSize (curveOfBits bits)) (k.pbytes (-3)))) ∧
      leftPad (curveSize (curveOfBits bits)) (k.pbytes (-2)) = fillBytes (curveSize (curveOfBits bits)) x ∧
      leftPad (curveSize (curveOfBits bits)) (k.pbytes (-3)) = fillBytes (curveSize (curveOfBits bits)) y ∧
      (leftPad (curveSize (curveOfBits bits)) (k.pbytes (-2))).length = curveSize (curveOfBits bits) ∧
      (leftPad (curveSize (curveOfBits bits)) (k.pbytes (-3))).length = curveSize (curveOfBits bits) := by
  obtain ⟨m, hm⟩ := keyFromEC_marshal_some bits x y d k hk
  obtain ⟨size, rfl, _, hxlt, hylt, h3, h4, _⟩ := ec2_marshal_lookups bits x y d k m hk hm
  obtain ⟨_, hx, hy, _⟩ := keyFromEC_pbytes bits x y d k hk
  have ex := leftPad_ec2Coordinate _ _ hxlt
  have ey := leftPad_ec2Coordinate _ _ hylt
  rw [← hx] at ex
  rw [← hy] at ey
  refine ⟨m, hm, by rw [ex]; exact h3, by rw [ey]; exact h4, ex, ey, ?_, ?_⟩
  · rw [ex, fillBytes_length]
  · rw [ey, fillBytes_length]

/-! ### the constructor accepts every coordinate that fits — non-vacuity -/

theorem natBytes_one : natBytes 1 = [1] := by simp [natBytes]

/-- `validate` accepts, for every operation, an EC2 key on one of the three curves whose x and y
    are not empty and no longer than the curve's size, whose d is no longer (and present when
    signing; and, since e8483d3, a byte string whenever present: a d of another type is not
    read as absent), and whose algorithm is the curve's -/
theorem validate_of_ec2 (k : Key) (c : Int) (op : KOp) (h2 : k.kty = 2) (hcrv : k.crv = c)
    (hc : c = 1 ∨ c = 2 ∨ c = 3)
    (hx0 : 0 < (k.pbytes (-2)).length) (hy0 : 0 < (k.pbytes (-3)).length)
    (hx : (k.pbytes (-2)).length ≤ curveSize c) (hy : (k.pbytes (-3)).length ≤ curveSize c)
    (hd : (k.pbytes (-4)).length ≤ curveSize c)
    (hop : op = .sign → 0 < (k.pbytes (-4)).length)
    (halg : k.alg = (if c = 1 then -7 else if c = 2 then -35 else -36))
    (hdt : k.paramIsBstr (-4) false = true) :
    k.validate op = none := by
  subst hcrv
  have hk : k.crv ≠ 0 ∧ k.crv ≠ 4 ∧ k.crv ≠ 5 ∧ k.crv ≠ 6 ∧ k.crv ≠ 7 := by omega
  refine (Key.validate_ec2_iff k op h2).mpr
    ⟨⟨⟨C15.paramIsBstr_of_pbytes_pos k (-2) false hx0, C15.paramIsBstr_of_pbytes_pos k (-3) true hy0, hdt⟩,
      fun _ => ⟨Nat.ne_of_gt hx0, Nat.ne_of_gt hy0⟩, fun hs => Nat.ne_of_gt (hop hs),
      ⟨hk.1, fun h0 => Nat.ne_of_gt hx0 h0.1⟩, fun _ => ⟨hx, hy, hd⟩, hk.2⟩, fun _ => ?_⟩
  rw [Key.deriveAlgorithm_ec2 k h2, halg]
  rcases hc with h | h | h <;> rw [h] <;> rfl

/-- an EC2 key that `validate` accepts for no particular operation, it accepts for verification
    once x and y are present: only the `KeyOpVerify` guard differs -/
theorem validate_verify_of_none (k : Key) (h2 : k.kty = 2) (hv : k.validate .none = none)
    (hx0 : 0 < (k.pbytes (-2)).length) (hy0 : 0 < (k.pbytes (-3)).length) :
    k.validate .verify = none := by
  have h := (Key.validate_ec2_iff k .none h2).mp hv
  exact (Key.validate_ec2_iff k .verify h2).mpr
    ⟨⟨h.1.1, fun _ => ⟨Nat.ne_of_gt hx0, Nat.ne_of_gt hy0⟩, nofun, h.1.2.2.2⟩, h.2⟩

/-- `PublicKey()` succeeds on an EC2 key of the three curves that `validate(verify)` accepts -/
theorem publicKey_of_ec2 (k : Key) (h2 : k.kty = 2) (hc : k.crv = 1 ∨ k.crv = 2 ∨ k.crv = 3)
    (hv : k.validate .verify = none) : k.publicKey = none := by
  unfold Key.publicKey Key.deriveAlgorithm
  rw [hv, if_pos h2]
  rcases hc with h | h | h <;> rw [h] <;> rfl

/-- `validate` accepts the constructor's parameter list on the three curves, for all x and y that
    fit the field — 0 included -/
theorem validate_ecParams (c : Int) (x y : Nat) (d : Option Nat) (hc : c = 1 ∨ c = 2 ∨ c = 3)
    (hx : x < 256 ^ curveSize c) (hy : y < 256 ^ curveSize c)
    (hd : ∀ dv, d = some dv → dv < 256 ^ curveSize c) :
    ({ kty := 2, alg := (if c = 1 then -7 else if c = 2 then -35 else -36),
       params := ecParams c x y d } : Key).validate .none = none := by
  have hl := ecParams_lookups c x y d
  have hs := curveSize_pos_of c hc
  refine validate_of_ec2 _ c .none rfl (crv_of_lookup _ _ hl.1) hc ?_ ?_ ?_ ?_ ?_ (fun h => by cases h) rfl ?_
  · rw [pbytes_of_lookup _ _ _ hl.2.1]; exact ec2Coordinate_length_pos _ _ hs
  · rw [pbytes_of_lookup _ _ _ hl.2.2.1]; exact ec2Coordinate_length_pos _ _ hs
  · rw [pbytes_of_lookup _ _ _ hl.2.1]; exact (ec2Coordinate_length_le_iff _ _).mpr hx
  · rw [pbytes_of_lookup _ _ _ hl.2.2.1]; exact (ec2Coordinate_length_le_iff _ _).mpr hy
  · cases d with
    | none =>
      simp [Key.pbytes, ecParams, paramBytes, GoMap.lookup_cons, GoVal.keyEq_lbl_lbl, lookup_nil, Lk.getD]
    | some dv =>
      rw [pbytes_of_lookup _ _ _ (hl.2.2.2 dv rfl)]
      exact natBytes_length_le dv _ (hd dv rfl)
  · cases d with
    | none =>
      apply C15.paramIsBstr_of_absent
      simp [ecParams, GoMap.lookup_cons, GoVal.keyEq_lbl_lbl, lookup_nil]
    | some dv => exact C15.paramIsBstr_of_bytes _ _ _ _ (hl.2.2.2 dv rfl)

/-- `NewKeyFromPublic` / `NewKeyFromPrivate` succeed for every pair of coordinates that fit the
    field — x = 0 or y = 0 included — and return the key with the parameters `ecParams` -/
theorem keyFromEC_ok (bits x y : Nat) (d : Option Nat)
    (hc : curveOfBits bits = 1 ∨ curveOfBits bits = 2 ∨ curveOfBits bits = 3)
    (hx : x < 256 ^ curveSize (curveOfBits bits)) (hy : y < 256 ^ curveSize (curveOfBits bits))
    (hd : ∀ dv, d = some dv → dv < 256 ^ curveSize (curveOfBits bits)) :
    keyFromEC bits x y d = .ok
      { kty := 2,
        alg := (if curveOfBits bits = 1 then -7 else if curveOfBits bits = 2 then -35 else -36),
        params := ecParams (curveOfBits bits) x y d } := by
  have hv := validate_ecParams (curveOfBits bits) x y d hc hx hy hd
  have hne : ¬ curveOfBits bits = 0 := by omega
  unfold keyFromEC
  dsimp only
  rw [if_neg hne]
  unfold ecParams at hv ⊢
  cases d <;> (dsimp only at hv ⊢; rw [hv])

/-- every EC2 key the constructor returns passes `validate` for verification, and `PublicKey()`
    succeeds on it — whatever the coordinates, 0 included: `ErrEC2NoPub` ("x or y missing") does
    not come out of a key made from a Go key -/
theorem keyFromEC_publicKey (bits x y : Nat) (d : Option Nat) (k : Key)
    (hk : keyFromEC bits x y d = .ok k) :
    k.validate .verify = none ∧ k.publicKey = none := by
  obtain ⟨hc, hkeq, hv⟩ := keyFromEC_inv bits x y d k hk
  obtain ⟨hcrv, _, _, _⟩ := keyFromEC_pbytes bits x y d k hk
  obtain ⟨hx0, hy0, _, _⟩ := keyFromEC_coord_nonempty bits x y d k hk
  have h2 : k.kty = 2 := by rw [hkeq]
  have hver := validate_verify_of_none k h2 hv hx0 hy0
  exact ⟨hver, publicKey_of_ec2 k h2 (hcrv ▸ hc) hver⟩

/-- P-256 with x = y = d = 1 is accepted structurally and yields ES256 both ways -/
example : ∃ k, keyFromEC 256 1 1 (some 1) = .ok k ∧ k.signer = .ok (-7) ∧ k.verifier true = .ok (-7) := by
  obtain ⟨k, hk⟩ : ∃ k, keyFromEC 256 1 1 (some 1) = .ok k :=
    ⟨_, keyFromEC_ok 256 1 1 (some 1) (by decide) (by decide) (by decide) (by intro dv h; cases h; decide)⟩
  obtain ⟨_, hkeq, hv⟩ := keyFromEC_inv _ _ _ _ _ hk
  obtain ⟨hcrv, _, _, hd⟩ := keyFromEC_pbytes _ _ _ _ _ hk
  obtain ⟨hx0, hy0, _, _⟩ := keyFromEC_coord_nonempty _ _ _ _ _ hk
  have h2 : k.kty = 2 := by rw [hkeq]
  have hops : ∀ op, k.canOp op = true := fun op => by rw [hkeq]; rfl
  have hda : k.deriveAlgorithm = some (-7) := by rw [Key.deriveAlgorithm_ec2 k h2, hcrv]; rfl
  -- `validate` for signing asks, beyond `validate` for no operation, for a non-empty d
  have h := (Key.validate_ec2_iff k .none h2).mp hv
  have hsign : k.validate .sign = none := (Key.validate_ec2_iff k .sign h2).mpr
    ⟨⟨h.1.1, nofun, fun _ => by rw [hd 1 rfl, natBytes_one]; decide, h.1.2.2.2⟩, h.2⟩
  exact ⟨k, hk,
    (Key.signer_eq_ok_iff k _).mpr ⟨hops 1, hsign, hda, Or.inr ⟨Nat.ne_of_gt hx0, Nat.ne_of_gt hy0⟩⟩,
    (Key.verifier_eq_ok_iff k _ _).mpr ⟨hops 2, (keyFromEC_publicKey _ _ _ _ _ hk).1, hda, Or.inr rfl⟩⟩

/-- the repaired defect, on the in-memory key: P-256 with x = 0 is accepted, x is held as 32 zero
    octets (not the empty string), and `PublicKey()` / `Verifier()` do not fail with
    `ErrEC2NoPub` -/
example : ∃ k, keyFromEC 256 0 1 none = .ok k ∧ k.pbytes (-2) = List.replicate 32 0 ∧
    k.publicKey = none ∧ k.verifier true = .ok (-7) := by
  obtain ⟨k, hk⟩ : ∃ k, keyFromEC 256 0 1 none = .ok k :=
    ⟨_, keyFromEC_ok 256 0 1 none (by decide) (by decide) (by decide) (by intro dv h; cases h)⟩
  obtain ⟨_, hkeq, _⟩ := keyFromEC_inv _ _ _ _ _ hk
  obtain ⟨hcrv, _⟩ := keyFromEC_pbytes _ _ _ _ _ hk
  obtain ⟨hver, hpub⟩ := keyFromEC_publicKey _ _ _ _ _ hk
  have h2 : k.kty = 2 := by rw [hkeq]
  have hda : k.deriveAlgorithm = some (-7) := by rw [Key.deriveAlgorithm_ec2 k h2, hcrv]; rfl
  exact ⟨k, hk, (keyFromEC_pbytes_cases _ _ _ _ _ hk).2.1 rfl, hpub,
    (Key.verifier_eq_ok_iff k _ _).mpr ⟨by rw [hkeq]; rfl, hver, hda, Or.inr rfl⟩⟩

/-- the in-memory x and y are not always at the curve's byte size: P-256 with x = 1 is accepted
    and its stored x is the single octet `[1]`, not 32 octets (`big.Int.Bytes()`; the library's
    own tests compare the parameter with `X.Bytes()`).  The full width is a property of the
    serialisation — `keyFromEC_fullwidth_wire`. -/
theorem keyFromEC_memory_not_fullwidth :
    ∃ k, keyFromEC 256 1 1 none = .ok k ∧ k.pbytes (-2) = [1] ∧
      (k.pbytes (-2)).length ≠ curveSize (curveOfBits 256) := by
  have hk := keyFromEC_ok 256 1 1 none (by decide) (by decide) (by decide) (by intro dv h; cases h)
  obtain ⟨_, hx, _, _⟩ := keyFromEC_pbytes 256 1 1 none _ hk
  rw [ec2Coordinate_one] at hx
  refine ⟨_, hk, hx, ?_⟩
  rw [hx]
  decide

end C14

/-! ## the hash-envelope header loop, entry by entry -/

namespace WireClosure

/-- a well-typed payload-hash-algorithm: an `Algorithm` or any Go integer -/
def algKind : GoVal → Bool
  | .alg _ => true
  | v => canInt v

/-- the verdict of `hashProtLoop` on one entry: `none` = refused, `some b` = accepted,
    `b` = "this is a well-typed payload-hash-algorithm (258)" -/
def protEntry (e : GoVal × GoVal) : Option Bool :=
  match normalizeLabel e.1 with
  | none => none
  | some (.int _ 3) => none
  | some (.int _ 258) => if algKind e.2 then some true else none
  | some (.int _ 259) => if canUint e.2 || canText e.2 then some false else none
  | some (.int _ 260) => if canText e.2 then some false else none
  | some _ => some false

theorem hashProtLoop_cons (e : GoVal × GoVal) (r : GoMap) (found : Bool) :
    hashProtLoop (e :: r) found =
      match protEntry e with
      | none => none
      | some b => hashProtLoop r (found || b) := by
  obtain ⟨l, v⟩ := e
  fun_cases protEntry (l, v)
  -- label 258: `hashProtLoop` matches on the value where `protEntry` asks `algKind`
  case case3 h | case4 h => cases v <;> simp [hashProtLoop, algKind, canInt, *] at h ⊢
  all_goals simp [hashProtLoop, *]

/-- `hashProtLoop` accepts exactly when every entry is accepted and a well-typed 258 occurs -/
theorem hashProtLoop_iff : ∀ (g : GoMap) (found : Bool),
    hashProtLoop g found = some true ↔
      (∀ e ∈ g, protEntry e ≠ none) ∧ (found = true ∨ ∃ e ∈ g, protEntry e = some true)
  | [], found => by simp [hashProtLoop]
  | e :: r, found => by
    rw [hashProtLoop_cons, List.forall_mem_cons]
    simp only [List.mem_cons, exists_eq_or_imp]
    cases he : protEntry e with
    | none => exact ⟨nofun, fun h => absurd rfl h.1.1⟩
    | some b =>
      rw [hashProtLoop_iff r (found || b), Bool.or_eq_true, Option.some.injEq, or_assoc]
      exact ⟨fun h => ⟨⟨nofun, h.1⟩, h.2⟩, fun h => ⟨h.1.2, h.2⟩⟩

end WireClosure

/-! ## C12 — hash-envelope header rules -/

namespace C12
open WireClosure

/-- the per-entry rules of the protected bucket of a hash envelope -/
def ProtEntryOK (e : GoVal × GoVal) : Prop :=
  (∀ k, normalizeLabel e.1 ≠ some (.int k 3)) ∧
  (∀ k, normalizeLabel e.1 = some (.int k 259) → (canUint e.2 = true ∨ canTstr e.2 = true)) ∧
  (∀ k, normalizeLabel e.1 = some (.int k 260) → canTstr e.2 = true)

/-- the entry carries a well-typed payload-hash-algorithm (258) -/
def Is258 (e : GoVal × GoVal) : Prop :=
  ∃ k, normalizeLabel e.1 = some (.int k 258) ∧ ((∃ a, e.2 = .alg a) ∨ canInt e.2 = true)

theorem protEntry_ok {e : GoVal × GoVal} (h : protEntry e ≠ none) : ProtEntryOK e := by
  unfold protEntry at h
  refine ⟨fun k hk => ?_, fun k hk => ?_, fun k hk => ?_⟩
  · simp only [hk] at h
    exact h rfl
  · simp only [hk] at h
    split at h
    · rename_i hc
      exact ((Bool.or_eq_true _ _).mp hc).imp id canText_canTstr
    · exact absurd rfl h
  · simp only [hk] at h
    split at h
    · rename_i hc
      exact canText_canTstr hc
    · exact absurd rfl h

theorem protEntry_258 {e : GoVal × GoVal} (h : protEntry e = some true) : Is258 e := by
  revert h
  fun_cases protEntry e
  -- the one branch with the verdict `some true`
  case case3 k hn hc =>
    refine fun _ => ⟨k, hn, ?_⟩
    unfold algKind at hc
    split at hc
    · rename_i a ha
      exact .inl ⟨a, ha⟩
    · exact .inr hc
  all_goals exact nofun

theorem hashProtLoop_rules (p : GoMap) (found : Bool) (h : hashProtLoop p found = some true) :
    (found = true ∨ ∃ e ∈ p, Is258 e) ∧ ∀ e ∈ p, ProtEntryOK e := by
  obtain ⟨hall, hex⟩ := (hashProtLoop_iff p found).mp h
  exact ⟨hex.imp id fun ⟨e, he, h258⟩ => ⟨e, he, protEntry_258 h258⟩,
    fun e he => protEntry_ok (hall e he)⟩

/-- the protected bucket of an accepted / produced envelope holds a well-typed 258, no 3, and
    well-typed 259 / 260 -/
theorem prot_rule (p : GoMap) (h : hashProtLoop p false = some true) :
    (∃ e ∈ p, ∃ k, normalizeLabel e.1 = some (.int k 258) ∧ ((∃ a, e.2 = .alg a) ∨ canInt e.2 = true)) ∧
    (∀ e ∈ p, ∀ k, normalizeLabel e.1 ≠ some (.int k 3)) ∧
    (∀ e ∈ p, ∀ k, normalizeLabel e.1 = some (.int k 259) → (canUint e.2 = true ∨ canTstr e.2 = true)) ∧
    (∀ e ∈ p, ∀ k, normalizeLabel e.1 = some (.int k 260) → canTstr e.2 = true) := by
  obtain ⟨h1, h2⟩ := hashProtLoop_rules p false h
  refine ⟨?_, fun e he => (h2 e he).1, fun e he => (h2 e he).2.1, fun e he => (h2 e he).2.2⟩
  rcases h1 with h1 | h1
  · cases h1
  · exact h1

/-- both buckets of anything `validateHashEnvelopeHeaders` accepts -/
theorem headers_rule (p u : GoMap) (h : validateHashEnvelopeHeaders p u = true) :
    hashProtLoop p false = some true ∧ hashUnprotOK u = true := by
  unfold validateHashEnvelopeHeaders at h
  split at h
  · rename_i hp; exact ⟨hp, h⟩
  · cases h

/-- whatever `SignHashEnvelope` emits passed the digest-length rule and the header rules, and
    is the Sign1 helper's output over the hash value with the governed labels set -/
theorem sign_envelope_inv (s : Signer) (h : Hdrs) (p : HashPayload) (b : Bytes)
    (hs : (signHashEnvelope s h p).1 = .ok b) :
    validateHash p.alg p.value = true ∧
    ∃ u, (match h.rawU with
          | some (b :: bs) => Unprotected.unmarshal (b :: bs)
          | _ => .ok h.u) = .ok u ∧
      validateHashEnvelopeHeaders (setHashEnvelopeProtectedHeader h.p p) u = true ∧
      (sign1Helper true { h with p := setHashEnvelopeProtectedHeader h.p p, rawP := none, u := u }
        p.value none s).1 = .ok b := by
  revert hs
  fun_cases signHashEnvelope s h p
  -- the one branch that does not return an error
  case case3 hv _ _ u hu hh =>
    exact fun hs => ⟨by simpa using hv, u, hu, by simpa using hh, hs⟩
  all_goals exact nofun

theorem sign_envelope_rules (s : Signer) (h : Hdrs) (p : HashPayload) (b : Bytes)
    (hs : (signHashEnvelope s h p).1 = .ok b) :
    validateHash p.alg p.value = true ∧
    ∃ u, validateHashEnvelopeHeaders (setHashEnvelopeProtectedHeader h.p p) u = true ∧
      (sign1Helper true { h with p := setHashEnvelopeProtectedHeader h.p p, rawP := none, u := u }
        p.value none s).1 = .ok b := by
  obtain ⟨hv, u, _, hh, hb⟩ := sign_envelope_inv s h p b hs
  exact ⟨hv, u, hh, hb⟩

/-- the emitted envelope's buckets satisfy the per-label rules -/
theorem sign_envelope_conforming (s : Signer) (h : Hdrs) (p : HashPayload) (b : Bytes)
    (hs : (signHashEnvelope s h p).1 = .ok b) :
    ∃ u, (sign1Helper true { h with p := setHashEnvelopeProtectedHeader h.p p, rawP := none, u := u }
        p.value none s).1 = .ok b ∧
      (∀ e ∈ setHashEnvelopeProtectedHeader h.p p, ProtEntryOK e) ∧
      (∀ e ∈ u, ∀ n, normalizeLabel e.1 = some (.int .i64 n) → n ≠ 3 ∧ n ≠ 258 ∧ n ≠ 259 ∧ n ≠ 260) := by
  obtain ⟨_, u, hh, hb⟩ := sign_envelope_rules s h p b hs
  obtain ⟨hp, hu⟩ := headers_rule _ _ hh
  exact ⟨u, hb, (hashProtLoop_rules _ _ hp).2, unprot_rule u hu⟩

/-! ### the governed labels after `setHashEnvelopeProtectedHeader` -/

theorem lookupLabel_of_lookup (h : GoMap) (l v : GoVal) (hl : h.lookup l = some v) :
    lookupLabel h l = some v := by
  unfold lookupLabel
  rw [hl]

theorem lookup_258 (base : GoMap) (p : HashPayload) :
    (setHashEnvelopeProtectedHeader base p).lookup (lbl 258) = some (.alg p.alg) := by
  unfold setHashEnvelopeProtectedHeader
  dsimp only
  have h1 : (base.set (lbl 258) (.alg p.alg)).lookup (lbl 258) = some (.alg p.alg) :=
    GoMap.lookup_set_lbl_same _ _ _
  have h2 : (match p.pct with
      | some v => (base.set (lbl 258) (.alg p.alg)).set (lbl 259) v
      | none => base.set (lbl 258) (.alg p.alg)).lookup (lbl 258) = some (.alg p.alg) := by
    cases p.pct with
    | none => exact h1
    | some v => dsimp only; rw [GoMap.lookup_set_lbl_other _ 259 258 _ (by decide)]; exact h1
  split
  · rw [GoMap.lookup_set_lbl_other _ 260 258 _ (by decide)]; exact h2
  · exact h2

/-- label 258 always holds the payload's hash algorithm, typed `Algorithm`, whatever the caller's
    map held (the assignment overwrites the exact key, which `lookupLabel` consults first) -/
theorem set_258_eq (base : GoMap) (p : HashPayload) :
    lookupLabel (setHashEnvelopeProtectedHeader base p) (lbl 258) = some (.alg p.alg) :=
  lookupLabel_of_lookup _ _ _ (lookup_258 base p)

theorem set_has_258 (base : GoMap) (p : HashPayload) :
    lookupLabel (setHashEnvelopeProtectedHeader base p) (lbl 258) ≠ none := by
  rw [set_258_eq]; simp

/-- 259 holds the preimage content type when one is given -/
theorem set_259_eq (base : GoMap) (p : HashPayload) (v : GoVal) (hp : p.pct = some v) :
    lookupLabel (setHashEnvelopeProtectedHeader base p) (lbl 259) = some v := by
  apply lookupLabel_of_lookup
  unfold setHashEnvelopeProtectedHeader
  simp only [hp]
  have h2 : ((base.set (lbl 258) (.alg p.alg)).set (lbl 259) v).lookup (lbl 259) = some v :=
    GoMap.lookup_set_lbl_same _ _ _
  split
  · rw [GoMap.lookup_set_lbl_other _ 260 259 _ (by decide)]; exact h2
  · exact h2

/-- 260 holds the location when it is non-empty -/
theorem set_260_eq (base : GoMap) (p : HashPayload) (hl : p.location.length > 0) :
    lookupLabel (setHashEnvelopeProtectedHeader base p) (lbl 260) = some (.str p.location) := by
  apply lookupLabel_of_lookup
  unfold setHashEnvelopeProtectedHeader
  dsimp only
  rw [if_pos hl]
  exact GoMap.lookup_set_lbl_same _ _ _

/-- the residue of "the caller's headers are not modified": the model's `Hdrs` argument is
    immutable, and the retained raw protected bytes play no part in what is signed -/
theorem sign_ignores_rawP (s : Signer) (h : Hdrs) (p : HashPayload) (r : Option Bytes) :
    signHashEnvelope s { h with rawP := r } p = signHashEnvelope s h p := rfl

end C12
