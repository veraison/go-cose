/-
  Deep/Verifies — C07, second sentence: a conforming message that an independent implementation
  of RFC 9052 signed over its wire bytes is not only accepted (Deep/Accept) but verifies:
  the library recomputes exactly the RFC Sig_structure from the bytes it retained.
  * C07: COSE_Sign1 (attached and detached payload), COSE_Signature, COSE_Sign with any number
    of signers.
  * C13: direction symmetry of header validation — whatever the decoder accepted is accepted by
    the encoder's validation as well.
-/
import CoseSpec
import CoseModel.Messages
import CoseProofs.Lemmas.Parse
import CoseProofs.Props.C03
import CoseProofs.Props.C04
import CoseProofs.Props.C07
import CoseProofs.Props.C11
import CoseProofs.Props.C13
import CoseProofs.Deep.Headers
import CoseProofs.Deep.Tbs
import CoseProofs.Deep.Reencode
import CoseProofs.Deep.Accept
import CoseProofs.Deep.SignMsg
import CoseProofs.Deep.Chain
import CoseProofs.Deep.NestedRoundTrip
open CoseModel CoseSpec

/-! ### C13 — decode ⇒ encode (unprotected bucket) -/
namespace C13

/-- an unprotected bucket accepted by the decoder passes the encoder's validation -/
theorem decoded_unprot_reencodable (u : Wire) (um : GoMap) (h : decUnprot u = .ok um) :
    validateHeaderParameters um false = true :=
  C05.unprot_accept_rules u um h

end C13

/-! ### byte-string encodings -/
namespace Verifies

/-- the bytes of a well-formed byte-string item are a byte-string encoding of its content -/
theorem isBstrEncoding_of_wf {hw : HW} {content : Bytes} (hwf : (Wire.bstr hw content).wf = true) :
    IsBstrEncoding (Wire.bstr hw content).bytes content :=
  ⟨hw, by simpa [Wire.wf] using hwf, by simp [Wire.bytes]⟩

/-- a byte-string encoding starts with a major-type-2 head -/
theorem bodyProtOK_of_enc {raw content : Bytes} (h : IsBstrEncoding raw content) :
    bodyProtOK raw = true := by
  obtain ⟨w, hf, rfl⟩ := h
  cases hr : headBytes 2 w content.length ++ content with
  | nil => cases w <;> simp [headBytes] at hr
  | cons b0 rest =>
    have := C02.first_major (by omega : 2 < 8) hf hr.symm
    simp [bodyProtOK, this]

/-- an accepted protected bucket that is a well-formed item is a byte-string encoding of its
    content -/
theorem protected_isBstrEncoding {p : Wire} {pm : GoMap} (hp : decProtected p = .ok pm)
    (hwf : p.wf = true) : ∃ content, IsBstrEncoding p.bytes content := by
  obtain ⟨hw, enc, rfl, -⟩ := C05.protected_is_bstr_of_map p pm hp
  exact ⟨enc, isBstrEncoding_of_wf hwf⟩

/-- A signer entry that retained the bytes of its protected item `p`, a byte-string encoding of
    `signContent`, verifies as soon as its signature is valid over the RFC 9052 Sig_structure of
    the two protected contents, the external data and the payload. -/
theorem signer_verifies {s : SigV} {p : Wire} {sig signContent bprot bodyContent payload : Bytes}
    (hrp : s.h.rawP = some p.bytes) (hp : decProtected p = .ok s.h.p)
    (hse : IsBstrEncoding p.bytes signContent) (hsig : s.sig = some sig) (hz : blen s.sig ≠ 0)
    (hb : IsBstrEncoding bprot bodyContent) (ext : Option Bytes) (v : Verifier)
    (hgate : ensureVerificationAlgorithm s.h.p v.alg ext = .ok ())
    (hsigned : v.verify
      (detEnc (sigStructure bodyContent signContent (ext.getD []) payload)) sig = .ok ()) :
    (Signature.verify s v bprot (some payload) ext).1 = .ok () := by
  rw [C03.verifySig_iff]
  refine ⟨rfl, hz, bodyProtOK_of_enc hb, hgate, _,
    C02.tbsSig_eq_rfc s bprot (some payload) ext bodyContent _ signContent payload hb
      hb.length_lt (C09.marshalProtected_raw hrp (C01.decProtected_modelled hp)) hse
      hse.length_lt rfl, ?_⟩
  rw [hsig]
  exact hsigned

end Verifies

/-! ### C07 — COSE_Sign1 -/
namespace C07

/-- the value a well-formed COSE_Sign1 tree decodes to, with the payload attached or supplied,
    verifies when `c` is a valid signature over the RFC 9052 Sig_structure built from the content
    of the protected byte string as sent -/
theorem decoded_sign1_verifies {u pl sg : Wire} {hwp : HW} {c content payload : Bytes}
    {pm um : GoMap} {ru : Option Bytes}
    (hwf : (Wire.arr .imm [.bstr hwp content, u, pl, sg]).wf = true)
    (hp : decProtected (.bstr hwp content) = .ok pm) (hc : c ≠ [])
    (ext : Option Bytes) (v : Verifier)
    (hgate : ensureVerificationAlgorithm pm v.alg ext = .ok ())
    (hsigned : v.verify (detEnc (sigStructure1 content (ext.getD []) payload)) c = .ok ()) :
    (Sign1.verify { h := { rawP := some (Wire.bstr hwp content).bytes, p := pm, rawU := ru, u := um },
                    payload := some payload, sig := some c } ext v).1 = .ok () := by
  have hpwf : (Wire.bstr hwp content).wf = true := by
    simp only [Wire.wf, Wire.wfList, Bool.and_eq_true] at hwf
    exact hwf.2.1
  have henc := Verifies.isBstrEncoding_of_wf hpwf
  rw [C03.verify1_iff]
  refine ⟨rfl, C09.blen_some_ne hc, hgate, _, ?_, hsigned⟩
  exact C02.tbs1_eq_rfc _ ext _ content payload
    (C09.marshalProtected_raw (p := .bstr hwp content) rfl (C01.decProtected_modelled hp))
    henc henc.length_lt rfl

/-- If the signature `c` is valid, under the verifier, over the RFC 9052 Sig_structure built from
    the protected bucket's content bytes as sent (whatever head width `hwp` the sender used for
    that byte string, however its inner map is encoded), the external data and the payload, then
    the library decodes the message and `Verify` returns nil. -/
theorem wf_sign1_verifies (tagged : Bool) {p u pl : Wire} {hw hwp hwpl : HW}
    {c content payload : Bytes} {pm um : GoMap}
    (hwf : (Wire.arr .imm [p, u, pl, .bstr hw c]).wf = true)
    (hlim : (Wire.arr .imm [p, u, pl, .bstr hw c]).inLimits false 0 = true)
    (hp : decProtected p = .ok pm) (hu : decUnprot u = .ok um) (hiv : ensureIV pm um = true)
    (hpw : p = .bstr hwp content) (hpl : pl = .bstr hwpl payload) (hc : c ≠ [])
    (ext : Option Bytes) (v : Verifier)
    (hgate : ensureVerificationAlgorithm pm v.alg ext = .ok ())
    (hsigned : v.verify (detEnc (sigStructure1 content (ext.getD []) payload)) c = .ok ()) :
    ∃ m, Sign1.unmarshal tagged
        ((if tagged then [0xd2] else []) ++ (Wire.arr .imm [p, u, pl, .bstr hw c]).bytes) = .ok m ∧
      (Sign1.verify m ext v).1 = .ok () := by
  subst hpw hpl
  exact ⟨_, wf_sign1_accepted_full tagged hwf hlim hp hu hiv (.inr ⟨_, _, rfl⟩) hc,
    decoded_sign1_verifies hwf hp hc ext v hgate hsigned⟩

/-- Detached payload (`nil` on the wire): after decoding, the verifier supplies the payload. -/
theorem wf_sign1_detached_verifies (tagged : Bool) {p u pl : Wire} {hw hwp : HW}
    {c content : Bytes} {pm um : GoMap}
    (hwf : (Wire.arr .imm [p, u, pl, .bstr hw c]).wf = true)
    (hlim : (Wire.arr .imm [p, u, pl, .bstr hw c]).inLimits false 0 = true)
    (hp : decProtected p = .ok pm) (hu : decUnprot u = .ok um) (hiv : ensureIV pm um = true)
    (hpw : p = .bstr hwp content) (hpl : pl = .prim .imm 22) (hc : c ≠ [])
    (payload : Bytes) (ext : Option Bytes) (v : Verifier)
    (hgate : ensureVerificationAlgorithm pm v.alg ext = .ok ())
    (hsigned : v.verify (detEnc (sigStructure1 content (ext.getD []) payload)) c = .ok ()) :
    ∃ m, Sign1.unmarshal tagged
        ((if tagged then [0xd2] else []) ++ (Wire.arr .imm [p, u, pl, .bstr hw c]).bytes) = .ok m ∧
      m.payload = none ∧
      (Sign1.verify { m with payload := some payload } ext v).1 = .ok () := by
  subst hpw hpl
  exact ⟨_, wf_sign1_accepted_full tagged hwf hlim hp hu hiv (.inl rfl) hc, rfl,
    decoded_sign1_verifies hwf hp hc ext v hgate hsigned⟩

/-! ### C07 — COSE_Signature (one signer of a COSE_Sign) -/

/-- A COSE_Signature `[p, u, sig]` inside a COSE_Sign whose body protected bucket arrived as
    `bprot` (ANY byte-string encoding of `bodyContent`): if the signature is valid over the
    RFC 9052 Sig_structure of (body protected content, signer protected content, external data,
    payload), the decoded signer entry verifies. -/
theorem wf_signature_verifies {p u : Wire} {hw hwp : HW} {c signContent : Bytes} {pm um : GoMap}
    (hwf : (Wire.arr .imm [p, u, .bstr hw c]).wf = true)
    (hlim : (Wire.arr .imm [p, u, .bstr hw c]).inLimits false 0 = true)
    (hp : decProtected p = .ok pm) (hu : decUnprot u = .ok um) (hiv : ensureIV pm um = true)
    (hpw : p = .bstr hwp signContent) (hc : c ≠ [])
    (bprot bodyContent payload : Bytes) (hb : IsBstrEncoding bprot bodyContent)
    (ext : Option Bytes) (v : Verifier)
    (hgate : ensureVerificationAlgorithm pm v.alg ext = .ok ())
    (hsigned : v.verify
      (detEnc (sigStructure bodyContent signContent (ext.getD []) payload)) c = .ok ()) :
    ∃ s, Signature.unmarshal (Wire.arr .imm [p, u, .bstr hw c]).bytes = .ok s ∧
      (Signature.verify s v bprot (some payload) ext).1 = .ok () := by
  subst hpw
  have hpwf : (Wire.bstr hwp signContent).wf = true := by
    simp only [Wire.wf, Wire.wfList, Bool.and_eq_true] at hwf
    simpa [Wire.wf] using hwf.2.1
  have hz : blen (some c) ≠ 0 := C09.blen_some_ne hc
  exact ⟨_, wf_signature_accepted_full hwf hlim hp hu hiv hc,
    Verifies.signer_verifies (p := .bstr hwp signContent) rfl hp (Verifies.isBstrEncoding_of_wf hpwf)
      rfl hz hb ext v hgate hsigned⟩

/-! ### C07 — COSE_Sign, any number of signers -/

/-- A decoded COSE_Sign with attached payload verifies under verifiers `vs` as soon as, for every
    signer `i`, the algorithm gate passes and `vs[i]` accepts the signer's signature over the
    RFC 9052 Sig_structure built from the contentS of the retained protected byte strings (body
    and signer), the external data and the payload. -/
theorem wf_sign_verifies (b : Bytes) (m : SignMsg) (hd : Sign.unmarshal b = .ok m)
    (payload : Bytes) (hpl : m.payload = some payload)
    (rawBody bodyContent : Bytes) (hrb : m.h.rawP = some rawBody)
    (hbc : IsBstrEncoding rawBody bodyContent)
    (ext : Option Bytes) (vs : List Verifier) (hlen : vs.length = m.sigs.length)
    (hall : ∀ i (h1 : i < m.sigs.length) (h2 : i < vs.length),
      ensureVerificationAlgorithm m.sigs[i].h.p vs[i].alg ext = .ok () ∧
      ∃ rawSign signContent sig, m.sigs[i].h.rawP = some rawSign ∧
        IsBstrEncoding rawSign signContent ∧ m.sigs[i].sig = some sig ∧
        vs[i].verify (detEnc (sigStructure bodyContent signContent (ext.getD []) payload)) sig
          = .ok ()) :
    (Sign.verify m ext vs).1 = .ok () := by
  obtain ⟨hw, hws, p, u, pl, sgs, -, -, -, -, -, -, hh, -, hs⟩ := C05.sign_accept_envelope b m hd
  obtain ⟨hpd, -, -, hrp, -⟩ := C09.decHeaders_ok hh
  obtain ⟨hsl, hidx⟩ := C05.decSigList_ok sgs m.sigs hs
  cases hrp.symm.trans hrb
  rw [C11.signmsg_verify_iff, hpl]
  refine ⟨rfl, (C11.decoded_no_empty_signature b m hd).1, hlen.symm, _,
    C09.marshalProtected_raw hrp (C01.decProtected_modelled hpd), fun i h1 h2 => ?_⟩
  obtain ⟨hgate, rawSign, signContent, sig, hrs, hse, hsig, hsigned⟩ := hall i h1 h2
  obtain ⟨pi, ui, sgi, -, hpi, -, -, hrpi, -, -, hz⟩ := hidx i (hsl ▸ h1) h1
  cases hrpi.symm.trans hrs
  exact Verifies.signer_verifies hrpi hpi hse hsig hz hbc ext _ hgate hsigned

/-- the hypotheses of `wf_sign_verifies` are satisfiable for every accepted COSE_Sign: the body
    and every signer retained protected bytes that ARE a byte-string encoding of some content
    (and every signer has a non-empty signature) -/
theorem decoded_sign_protected_bstr (b : Bytes) (m : SignMsg) (hd : Sign.unmarshal b = .ok m) :
    (∃ rawBody bodyContent, m.h.rawP = some rawBody ∧ IsBstrEncoding rawBody bodyContent) ∧
    ∀ i (h1 : i < m.sigs.length), ∃ rawSign signContent sig,
      m.sigs[i].h.rawP = some rawSign ∧ IsBstrEncoding rawSign signContent ∧
      m.sigs[i].sig = some sig ∧ sig ≠ [] := by
  obtain ⟨hw, hws, p, u, pl, sgs, -, -, hwf, -, -, -, hh, -, hs⟩ :=
    C05.sign_accept_envelope b m hd
  obtain ⟨hpd, -, -, hrp, -⟩ := C09.decHeaders_ok hh
  obtain ⟨hsl, hidx⟩ := C05.decSigList_ok sgs m.sigs hs
  simp only [Wire.wf, Wire.wfList, Bool.and_eq_true] at hwf
  constructor
  · obtain ⟨content, hc⟩ := Verifies.protected_isBstrEncoding hpd hwf.2.1
    exact ⟨_, content, hrp, hc⟩
  · intro i h1
    have h1' : i < sgs.length := hsl ▸ h1
    obtain ⟨pi, ui, sgi, hx, hpi, -, -, hrpi, -, hsg, hz⟩ := hidx i h1' h1
    have hxwf := (RoundTrip.wfList_iff sgs).mp hwf.2.2.2.2.1.2 _ (List.getElem_mem h1')
    rw [hx] at hxwf
    simp only [Wire.wf, Wire.wfList, Bool.and_eq_true] at hxwf
    obtain ⟨content, hc⟩ := Verifies.protected_isBstrEncoding hpi hxwf.2.1
    obtain ⟨hw', c, -, hcne, hsome⟩ := Accept.wfsig_of_dec hsg hz
    exact ⟨_, content, c, hrpi, hc, hsome, hcne⟩

end C07

/-! ### C13 — decode ⇒ encode (protected bucket) -/
namespace C13

theorem decodeAny_keyNormal {w : Wire} {v : GoVal} (h : decodeAny w = .ok v) : KeyNormal v :=
  (C05.decodeAny_generic h).2

/-- every key of a generically decoded map is in normal form -/
theorem decodePairs_keys_normal (kvs : List (Wire × Wire)) (acc out : GoMap)
    (h : decodePairs kvs acc = .ok out) (hacc : ∀ e ∈ acc, KeyNormal e.1) :
    ∀ e ∈ out, KeyNormal e.1 := by
  obtain ⟨t, rfl, ht, -⟩ := RoundTrip.decodePairs_inv kvs acc out h
  intro e he
  rcases List.mem_append.mp he with he | he
  · exact hacc e (List.mem_reverse.mp he)
  · obtain ⟨kv, -, hkv, -⟩ := RoundTrip.Pointwise.mem_right ht e he
    exact decodeAny_keyNormal hkv

/-- decoded maps have only in-range `int64` / text keys, so the alg retyping of the protected
    decoder works entry by entry -/
theorem castAlg_eq_map {m0 : GoMap} (hkn : ∀ e ∈ m0, KeyNormal e.1)
    (hv : validateHeaderParameters m0 true = true) : castAlg m0 = m0.map RoundTrip.castEntry :=
  have hok := validate_labels m0 true hv
  RoundTrip.castAlg_eq_map hok fun e he => (hkn e he).resolve_left (hok.1 e he)

/-- … and keeps the bucket valid: under label 1 an `Algorithm` passes the check -/
theorem castAlg_valid {m0 : GoMap} (hkn : ∀ e ∈ m0, KeyNormal e.1)
    (hv : validateHeaderParameters m0 true = true) :
    validateHeaderParameters (castAlg m0) true = true := by
  rw [castAlg_eq_map hkn hv]
  refine RoundTrip.validate_map _ (fun e _ => by rw [RoundTrip.castEntry_fst]) (fun e he l hl hc => ?_) hv
  unfold RoundTrip.castEntry
  split
  · rename_i hk
    rw [GoVal.eq_of_keyEq hk, RoundTrip.normalizeLabel_lbl1] at hl
    cases hl
    obtain ⟨k, v⟩ := e
    cases v with
    | int kd a =>
      show checkParam m0 true (lbl 1) (if kd.signed then .alg a else .int kd a) = true
      split
      · simp [checkParam, lbl]
      · exact hc
    | _ => exact hc
  · exact hc

/-- every key of a decoded protected map is an in-range `int64` or a text string -/
theorem decoded_keys_normal (enc : Bytes) (m : GoMap) (h : decProtectedContent enc = .ok m) :
    ∀ e ∈ m, (∃ v, e.1 = GoVal.int .i64 v ∧ wrap64 v = v) ∨ ∃ b, e.1 = GoVal.str b := by
  rcases decProtectedContent_ok h with ⟨-, rfl⟩ | ⟨hw, kvs, m0, -, hd, hv, rfl⟩
  · intro e he; cases he
  · have hkn := decodePairs_keys_normal kvs [] m0 hd (by intro e he; cases he)
    rw [castAlg_eq_map hkn hv]
    intro e he
    obtain ⟨e0, he0, rfl⟩ := List.mem_map.mp he
    have hself : normalizeLabel e0.1 = some e0.1 :=
      (hkn e0 he0).resolve_left ((validate_labels m0 true hv).1 e0 he0)
    rw [RoundTrip.castEntry_fst]
    cases hk : e0.1 with
    | int k v =>
      rw [hk] at hself
      have hself' := normalizeLabel_int_eq_some hself
      simp only [GoVal.int.injEq] at hself'
      exact .inl ⟨v, by rw [hself'.1], hself'.2.symm⟩
    | str b => exact .inr ⟨b, rfl⟩
    | _ => rw [hk] at hself; simp [normalizeLabel] at hself

/-- direction symmetry, decode ⇒ encode: a protected header set accepted by the decoder is
    accepted by the encoder's validation too -/
theorem decoded_reencodable (enc : Bytes) (m : GoMap) (h : decProtectedContent enc = .ok m) :
    validateHeaderParameters m true = true := by
  rcases decProtectedContent_ok h with ⟨-, rfl⟩ | ⟨hw, kvs, m0, -, hd, hv, rfl⟩
  · rfl
  · exact castAlg_valid
      (decodePairs_keys_normal kvs [] m0 hd (by intro e he; cases he)) hv

end C13

/-! ### the hypotheses are satisfiable -/
namespace VerifiesExamples
open C01 (exU exV7 ex_decP ex_decU)

/-- the protected bucket `{1: -7}` sent with a NON-shortest (one-byte) length head -/
def exPw : Wire := .bstr .w1 [0xa1, 0x01, 0x26]

theorem ex_decPw : decProtected exPw = .ok [(lbl 1, .alg (-7))] := ex_decP

/-- a COSE_Sign1 whose protected bucket uses a non-preferred head: decoded, and verified against
    the RFC Sig_structure over the CONTENT `a1 01 26` -/
example : ∃ m, Sign1.unmarshal true
      ([0xd2] ++ (Wire.arr .imm [exPw, exU, .bstr .imm [1, 2, 3], .bstr .w2 [7]]).bytes) = .ok m ∧
    (Sign1.verify m none exV7).1 = .ok () :=
  C07.wf_sign1_verifies true (hwp := .w1) (hwpl := .imm)
    (by simp [Wire.wf, Wire.wfList, Wire.wfPairs, HW.fits, exPw, exU])
    (by simp [Wire.inLimits, Wire.inLimitsList, Wire.inLimitsPairs, exPw, exU, maxNested, maxElems])
    ex_decPw ex_decU (by decide) rfl rfl (by decide) none exV7 (by rfl) (by simp [exV7])

/-- `wf_sign1_verifies` with a detached payload -/
example : ∃ m, Sign1.unmarshal false
      (Wire.arr .imm [exPw, exU, .prim .imm 22, .bstr .imm [7]]).bytes = .ok m ∧
    m.payload = none ∧ (Sign1.verify { m with payload := some [1, 2, 3] } none exV7).1 = .ok () := by
  have := C07.wf_sign1_detached_verifies false (hw := .imm) (hwp := .w1) (c := [7])
    (p := exPw) (u := exU) (pl := .prim .imm 22)
    (by simp [Wire.wf, Wire.wfList, Wire.wfPairs, HW.fits, exPw, exU])
    (by simp [Wire.inLimits, Wire.inLimitsList, Wire.inLimitsPairs, exPw, exU, maxNested, maxElems])
    ex_decPw ex_decU (by decide) rfl rfl (by decide) [1, 2, 3] none exV7 (by rfl) (by simp [exV7])
  simpa using this

/-- a signer entry with a non-shortest protected head inside a COSE_Sign whose body protected
    bucket is the 9-byte spelling of the empty byte string -/
example : ∃ s, Signature.unmarshal (Wire.arr .imm [exPw, exU, .bstr .imm [7]]).bytes = .ok s ∧
    (Signature.verify s exV7 [0x5b, 0, 0, 0, 0, 0, 0, 0, 0] (some [1, 2, 3]) none).1 = .ok () :=
  C07.wf_signature_verifies (hwp := .w1)
    (by simp [Wire.wf, Wire.wfList, Wire.wfPairs, HW.fits, exPw, exU])
    (by simp [Wire.inLimits, Wire.inLimitsList, Wire.inLimitsPairs, exPw, exU, maxNested, maxElems])
    ex_decPw ex_decU (by decide) rfl (by decide) _ [] [1, 2, 3] ⟨.w8, by decide, rfl⟩ none exV7
    (by rfl) (by simp [exV7])

end VerifiesExamples
