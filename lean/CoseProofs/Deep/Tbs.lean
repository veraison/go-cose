/-
  Deep/Tbs — C02, C10: the ToBeSigned bytes the model builds are the deterministic encodings of the
  RFC 9052 Sig_structure / RFC 9338 Countersign_structure over the content of the protected byte
  strings, whatever head width these were received with (`detBstr_spec`, `tbs1_eq_rfc`,
  `tbsSig_eq_rfc`, `ctbs_eq_rfc_*`); the encoding is uniquely readable (`detEnc_append_inj`), so a
  structure binds each of its fields, and structures of different kinds or contexts never encode
  alike.  `Deep/Tamper` turns this into statements about verification.
-/
import CoseSpec
import CoseModel.Messages
import CoseProofs.Lemmas.Parse
import CoseProofs.Props.C01
import CoseProofs.Props.C08
open CoseModel CoseSpec

namespace CoseSpec

theorem IsBstrEncoding.length_lt {raw c : Bytes} (h : IsBstrEncoding raw c) :
    c.length < 18446744073709551616 := by
  obtain ⟨w, hf, -⟩ := h
  cases w <;> simp only [HW.fits, decide_eq_true_eq] at hf <;> omega

end CoseSpec

namespace C02

theorem encHead_eq_detHead (m n : Nat) : encHead m n = detHead m n := rfl

theorem encBstr_eq_detEnc (b : Bytes) : encBstr b = detEnc (.bstr b) := rfl

theorem encTstr_eq_detEnc (b : Bytes) : encTstr b = detEnc (.tstr b) := rfl

theorem parseTop_bstr (w : HW) (c : Bytes) (hf : w.fits c.length = true) :
    parseTop false (headBytes 2 w c.length ++ c) = some (.bstr w c) :=
  parseTop_complete (t := false) (w := .bstr w c) (by rw [Wire.wf]; exact hf) (by rw [Wire.inLimits])

/-- where the input is already the shortest encoding, every branch answers it -/
theorem detBstr_of_shortest {b0 : UInt8} {rest : Bytes} {w : HW} {s : Bytes}
    (hm : b0.toNat / 32 = 2) (hp : parseTop false (b0 :: rest) = some (.bstr w s))
    (he : encBstr s = b0 :: rest) : detBstr (b0 :: rest) = .ok (encBstr s) := by
  simp only [detBstr, hm, hp, he, ne_eq, not_true_eq_false, reduceIte, ite_self]

theorem shortest_imm {n : Nat} (h : n < 24) : HW.shortest n = .imm := by
  unfold HW.shortest; rw [if_pos h]
theorem shortest_w1 {n : Nat} (h1 : 24 ≤ n) (h2 : n < 256) : HW.shortest n = .w1 := by
  unfold HW.shortest; rw [if_neg (by omega), if_pos h2]
theorem shortest_w2 {n : Nat} (h1 : 256 ≤ n) (h2 : n < 65536) : HW.shortest n = .w2 := by
  unfold HW.shortest; rw [if_neg (by omega), if_neg (by omega), if_pos h2]
theorem shortest_w4 {n : Nat} (h1 : 65536 ≤ n) (h2 : n < 4294967296) : HW.shortest n = .w4 := by
  unfold HW.shortest; rw [if_neg (by omega), if_neg (by omega), if_neg (by omega), if_pos h2]
theorem shortest_w8 {n : Nat} (h1 : 4294967296 ≤ n) : HW.shortest n = .w8 := by
  unfold HW.shortest; rw [if_neg (by omega), if_neg (by omega), if_neg (by omega), if_neg (by omega)]

theorem detBstr_spec (raw content : Bytes) (h : IsBstrEncoding raw content)
    (hlen : content.length < 18446744073709551616) :
    detBstr raw = .ok (detEnc (.bstr content)) := by
  obtain ⟨w, hf, rfl⟩ := h
  have hp := parseTop_bstr w content hf
  rw [← encBstr_eq_detEnc]
  by_cases hs : HW.shortest content.length = w
  · obtain ⟨b0, tl, hb, hmaj⟩ := headBytes_major (m := 2) (by decide) hf
    rw [hb, List.cons_append] at hp ⊢
    exact detBstr_of_shortest hmaj hp (by rw [← List.cons_append, ← hb, ← hs]; rfl)
  · cases w with
    | imm => exact absurd (shortest_imm (of_decide_eq_true hf)) hs
    | w1 =>
      have hn : content.length < 24 :=
        Nat.lt_of_not_le fun hc => hs (shortest_w1 hc (of_decide_eq_true hf))
      have h1 : ¬ content.length % 256 ≥ 24 := by omega
      simp only [headBytes, List.cons_append, List.nil_append] at hp ⊢
      simp only [detBstr, hp, UInt8.toNat_ofNat', Nat.reducePow, Nat.reduceMul, Nat.reduceAdd,
        Nat.reduceMod, Nat.reduceDiv, ne_eq, not_true_eq_false, Nat.reduceLT, h1, decide_false,
        Bool.false_eq_true, reduceIte]
    | w2 =>
      have hn : content.length < 256 :=
        Nat.lt_of_not_le fun hc => hs (shortest_w2 hc (of_decide_eq_true hf))
      have h1 : content.length / 256 % 256 = 0 := by omega
      simp only [headBytes, List.cons_append, List.nil_append] at hp ⊢
      simp only [detBstr, hp, UInt8.toNat_ofNat', Nat.reducePow, Nat.reduceMul, Nat.reduceAdd,
        Nat.reduceMod, Nat.reduceDiv, ne_eq, not_true_eq_false, Nat.reduceLT, h1, decide_false,
        Bool.false_eq_true, reduceIte]
    | w4 =>
      have hn : content.length < 65536 :=
        Nat.lt_of_not_le fun hc => hs (shortest_w4 hc (of_decide_eq_true hf))
      have h1 : content.length / 16777216 % 256 = 0 := by omega
      have h2 : content.length / 65536 % 256 % 256 = 0 := by omega
      simp only [headBytes, List.cons_append, List.nil_append] at hp ⊢
      simp only [detBstr, hp, UInt8.toNat_ofNat', Nat.reducePow, Nat.reduceMul, Nat.reduceAdd,
        Nat.reduceMod, Nat.reduceDiv, ne_eq, not_true_eq_false, Nat.reduceLT, h1, h2, decide_false,
        Bool.or_self, Bool.false_eq_true, reduceIte]
    | w8 =>
      have hn : content.length < 4294967296 :=
        Nat.lt_of_not_le fun hc => hs (shortest_w8 hc)
      have h1 : content.length / 72057594037927936 % 256 = 0 := by omega
      have h2 : content.length / 281474976710656 % 256 % 256 = 0 := by omega
      have h3 : content.length / 1099511627776 % 256 % 256 = 0 := by omega
      have h4 : content.length / 4294967296 % 256 % 256 = 0 := by omega
      simp only [headBytes, List.cons_append, List.nil_append] at hp ⊢
      simp only [detBstr, hp, UInt8.toNat_ofNat', Nat.reducePow, Nat.reduceMul, Nat.reduceAdd,
        Nat.reduceMod, Nat.reduceDiv, ne_eq, not_true_eq_false, Nat.reduceLT, h1, h2, h3, h4,
        decide_false, Bool.or_self, Bool.false_eq_true, reduceIte]

theorem shortest_fits {n : Nat} (h : n < 18446744073709551616) : (HW.shortest n).fits n = true :=
  C08.shortest_fits n h

/-! ### converse of `detBstr_spec`, idempotence -/

theorem first_major {m : Nat} {hw : HW} {n : Nat} {tl : Bytes} {b0 : UInt8} {rest : Bytes}
    (hm : m < 8) (hf : hw.fits n = true) (h : b0 :: rest = headBytes m hw n ++ tl) :
    b0.toNat / 32 = m := by
  obtain ⟨b, t, hb, hmaj⟩ := headBytes_major hm hf
  rw [hb, List.cons_append] at h
  cases h
  exact hmaj

/-- whatever `deterministicBinaryString` accepts is a definite-length byte string with some head
    width, and the result is its shortest-head encoding -/
theorem detBstr_ok_inv (raw out : Bytes) (h : detBstr raw = .ok out) :
    ∃ c, IsBstrEncoding raw c ∧ c.length < 18446744073709551616 ∧ out = detEnc (.bstr c) := by
  cases raw with
  | nil => cases h
  | cons b0 rest =>
    have h0 := h
    simp only [detBstr] at h
    split at h
    · cases h
    · rename_i hm
      split at h
      · cases h
      · rename_i w hp
        obtain ⟨hb, hwf, -⟩ := parseTop_sound hp
        obtain ⟨b, t, hbt, hmaj⟩ := Wire.bytes_major hwf
        rw [← hb] at hbt
        cases hbt
        rw [Decidable.not_not.mp hm] at hmaj
        cases w with
        | bstr hw c =>
          rw [Wire.wf] at hwf
          have hc : IsBstrEncoding (b0 :: rest) c := ⟨hw, hwf, hb⟩
          refine ⟨c, hc, hc.length_lt, ?_⟩
          rw [detBstr_spec _ _ hc hc.length_lt] at h0
          exact (Out.ok.inj h0).symm
        | _ => cases hmaj

theorem isBstrEncoding_detEnc (c : Bytes) (h : c.length < 18446744073709551616) :
    IsBstrEncoding (detEnc (.bstr c)) c :=
  ⟨HW.shortest c.length, shortest_fits h, by simp [detEnc, detHead]⟩

theorem detBstr_idem (raw out : Bytes) (h : detBstr raw = .ok out) : detBstr out = .ok out := by
  obtain ⟨c, -, hl, rfl⟩ := detBstr_ok_inv raw out h
  exact detBstr_spec _ _ (isBstrEncoding_detEnc c hl) hl

/-! ### the ToBeSigned of COSE_Sign1 and COSE_Signature -/

/-- the Sig_structure for COSE_Sign1, spelt with the model's encoder functions -/
theorem detEnc_sigStructure1 (c e p : Bytes) :
    detEnc (sigStructure1 c e p) =
      encHead 4 4 ++ (encTstr ctxSignature1 ++ (encBstr c ++ (encBstr e ++ encBstr p))) := by
  simp [sigStructure1, detEnc, detEncList, encBstr_eq_detEnc, encTstr_eq_detEnc, encHead_eq_detHead,
    ctxSignature1, utf8]

theorem detEnc_sigStructure (c s e p : Bytes) :
    detEnc (sigStructure c s e p) =
      encHead 4 5 ++ (encTstr ctxSignature ++ (encBstr c ++ (encBstr s ++ (encBstr e ++ encBstr p)))) := by
  simp [sigStructure, detEnc, detEncList, encBstr_eq_detEnc, encTstr_eq_detEnc, encHead_eq_detHead,
    ctxSignature, utf8]

theorem tbs1_eq_rfc (m : Sign1Msg) (ext : Option Bytes) (raw content : Bytes) (payload : Bytes)
    (hp : marshalProtected m.h = .ok raw) (hc : IsBstrEncoding raw content)
    (hlen : content.length < 18446744073709551616) (hpl : m.payload = some payload) :
    Sign1.toBeSigned m ext = .ok (detEnc (sigStructure1 content (ext.getD []) payload)) := by
  simp only [Sign1.toBeSigned, hp, Out.bind_ok, detBstr_spec raw content hc hlen, hpl, optBytesEnc,
    detEnc_sigStructure1, encBstr_eq_detEnc]

theorem tbsSig_eq_rfc (s : SigV) (bodyProtected : Bytes) (payload ext : Option Bytes)
    (bodyContent rawSign signContent pl : Bytes)
    (hb : IsBstrEncoding bodyProtected bodyContent)
    (hblen : bodyContent.length < 18446744073709551616)
    (hp : marshalProtected s.h = .ok rawSign) (hs : IsBstrEncoding rawSign signContent)
    (hslen : signContent.length < 18446744073709551616) (hpl : payload = some pl) :
    Signature.toBeSigned s bodyProtected payload ext =
      .ok (detEnc (sigStructure bodyContent signContent (ext.getD []) pl)) := by
  simp only [Signature.toBeSigned, hp, Out.bind_ok, detBstr_spec _ _ hb hblen,
    detBstr_spec _ _ hs hslen, hpl, optBytesEnc, detEnc_sigStructure, encBstr_eq_detEnc]

end C02

/-! ### unique readability of the deterministic encoding -/
namespace CoseSpec

def Item.major : Item → Nat
  | .tstr _ => 3
  | .bstr _ => 2
  | .arr _ => 4

/-- the argument of the head: a length -/
def Item.arg : Item → Nat
  | .tstr b | .bstr b => b.length
  | .arr xs => xs.length

/-- what follows the head -/
def Item.body : Item → Bytes
  | .tstr b | .bstr b => b
  | .arr xs => detEncList xs

theorem detEnc_eq (x : Item) : detEnc x = detHead x.major x.arg ++ x.body := by
  cases x <;> rw [detEnc] <;> rfl

theorem Item.major_lt : ∀ x : Item, x.major < 8
  | .tstr _ => (by decide : 3 < 8)
  | .bstr _ => (by decide : 2 < 8)
  | .arr _ => (by decide : 4 < 8)

mutual
/-- every length in the item can be written in a CBOR head (a Go slice always can) -/
def Item.small : Item → Prop
  | .tstr b | .bstr b => b.length < 2^64
  | .arr xs => xs.length < 2^64 ∧ Item.smallList xs
def Item.smallList : List Item → Prop
  | [] => True
  | x :: xs => x.small ∧ Item.smallList xs
end

theorem Item.small.arg_lt : ∀ {x : Item}, x.small → x.arg < 2^64
  | .tstr _, h | .bstr _, h => h
  | .arr _, h => h.1

/-- a shortest-form head determines major type, argument and what follows it: `parseHead` reads
    all three back -/
theorem detHead_append_inj {m m' n n' : Nat} {r r' : Bytes} (hm : m < 8) (hm' : m' < 8)
    (hn : n < 2^64) (hn' : n' < 2^64) (h : detHead m n ++ r = detHead m' n' ++ r') :
    m = m' ∧ n = n' ∧ r = r' := by
  have hp := congrArg parseHead h
  rw [detHead, detHead, parseHead_headBytes _ _ _ _ hm (C02.shortest_fits (by omega)),
    parseHead_headBytes _ _ _ _ hm' (C02.shortest_fits (by omega)), Option.some.injEq,
    Prod.mk.injEq, Prod.mk.injEq, Prod.mk.injEq] at hp
  exact ⟨hp.1, hp.2.2⟩

theorem detEnc_split {x y : Item} (hx : x.small) (hy : y.small) {r r' : Bytes}
    (h : detEnc x ++ r = detEnc y ++ r') :
    x.major = y.major ∧ x.arg = y.arg ∧ x.body ++ r = y.body ++ r' := by
  rw [detEnc_eq, detEnc_eq, List.append_assoc, List.append_assoc] at h
  exact detHead_append_inj x.major_lt y.major_lt hx.arg_lt hy.arg_lt h

mutual
/-- unique readability: the deterministic encoding of an item, followed by anything, determines
    the item and what follows -/
theorem detEnc_append_inj : ∀ (x y : Item), x.small → y.small → ∀ {r r' : Bytes},
    detEnc x ++ r = detEnc y ++ r' → x = y ∧ r = r'
  | .tstr _, .tstr _, hx, hy, _, _, h | .bstr _, .bstr _, hx, hy, _, _, h =>
    have ⟨_, hl, hb⟩ := detEnc_split hx hy h
    have ⟨hab, hr⟩ := List.append_inj hb hl
    ⟨congrArg _ hab, hr⟩
  | .arr xs, .arr ys, hx, hy, _, _, h =>
    have ⟨_, hl, hb⟩ := detEnc_split hx hy h
    have ⟨hxy, hr⟩ := detEncList_append_inj xs ys hx.2 hy.2 hl hb
    ⟨congrArg _ hxy, hr⟩
  -- different major types
  | .tstr _, .bstr _, hx, hy, _, _, h | .tstr _, .arr _, hx, hy, _, _, h
  | .bstr _, .tstr _, hx, hy, _, _, h | .bstr _, .arr _, hx, hy, _, _, h
  | .arr _, .tstr _, hx, hy, _, _, h | .arr _, .bstr _, hx, hy, _, _, h =>
    nomatch (detEnc_split hx hy h).1
theorem detEncList_append_inj : ∀ (xs ys : List Item), Item.smallList xs → Item.smallList ys →
    xs.length = ys.length → ∀ {r r' : Bytes}, detEncList xs ++ r = detEncList ys ++ r' →
    xs = ys ∧ r = r'
  | [], [], _, _, _, _, _, h => ⟨rfl, h⟩
  | x :: xs, y :: ys, hx, hy, hl, _, _, h => by
    rw [detEncList, detEncList, List.append_assoc, List.append_assoc] at h
    obtain ⟨rfl, h1⟩ := detEnc_append_inj x y hx.1 hy.1 h
    obtain ⟨rfl, h2⟩ := detEncList_append_inj xs ys hx.2 hy.2 (Nat.succ.inj hl) h1
    exact ⟨rfl, h2⟩
  | [], _ :: _, _, _, hl, _, _, _ | _ :: _, [], _, _, hl, _, _, _ => nomatch hl
end

theorem detEnc_inj {x y : Item} (hx : x.small) (hy : y.small) (h : detEnc x = detEnc y) : x = y :=
  (detEnc_append_inj x y hx hy (r := []) (r' := []) (congrArg (· ++ []) h)).1

theorem detEnc_arr_length {xs ys : List Item} (h : detEnc (.arr xs) = detEnc (.arr ys))
    (hx : xs.length < 2^64) (hy : ys.length < 2^64) :
    xs.length = ys.length ∧ detEncList xs = detEncList ys := by
  rw [detEnc, detEnc] at h
  exact (detHead_append_inj (by decide) (by decide) hx hy h).2

end CoseSpec

namespace C02

/-! ### the context strings as bytes

`String.toUTF8` / `ByteArray.toList` do not reduce by `decide`; go through `String.ofList`. -/

theorem byteArray_toList_loop (bs : ByteArray) (i : Nat) (r : List UInt8) :
    ByteArray.toList.loop bs i r = r.reverse ++ bs.data.toList.drop i := by
  fun_induction ByteArray.toList.loop bs i r with
  | case1 i r h ih =>
    rw [ih]
    have h' : i < bs.data.toList.length := by
      rw [Array.length_toList]; exact h
    rw [List.drop_eq_getElem_cons h']
    have hg : bs.get! i = bs.data.toList[i] := by
      cases bs with
      | mk d =>
        show d[i]! = d.toList[i]
        rw [getElem!_pos d i h, Array.getElem_toList]
    rw [hg, List.reverse_cons, List.append_assoc]
    rfl
  | case2 i r h =>
    have : bs.data.toList.length ≤ i := by
      rw [Array.length_toList]; exact Nat.le_of_not_lt h
    rw [List.drop_eq_nil_of_le this, List.append_nil]

theorem byteArray_toList (bs : ByteArray) : bs.toList = bs.data.toList := by
  rw [ByteArray.toList, byteArray_toList_loop]; rfl

theorem utf8_eq (s : String) : utf8 s = s.toList.flatMap String.utf8EncodeChar := by
  rw [← String.ofList_toList (s := s), String.toList_ofList, utf8, String.toUTF8, byteArray_toList,
    String.toByteArray_ofList, List.utf8Encode, List.toList_data_toByteArray]

theorem ctxSignature1_bytes : ctxSignature1 = [83, 105, 103, 110, 97, 116, 117, 114, 101, 49] :=
  (utf8_eq "Signature1").trans (by decide)
theorem encTstr_ctxSignature1 : encTstr ctxSignature1 = 106 :: ctxSignature1 := by
  rw [ctxSignature1_bytes]; decide

theorem ctxSignature_bytes : ctxSignature = [83, 105, 103, 110, 97, 116, 117, 114, 101] :=
  (utf8_eq "Signature").trans (by decide)
theorem encTstr_ctxSignature : encTstr ctxSignature = 105 :: ctxSignature := by
  rw [ctxSignature_bytes]; decide

theorem ctxCounterSignature_bytes : ctxCounterSignature = [67, 111, 117, 110, 116, 101, 114, 83, 105, 103, 110, 97, 116, 117, 114, 101] :=
  (utf8_eq "CounterSignature").trans (by decide)
theorem encTstr_ctxCounterSignature : encTstr ctxCounterSignature = 112 :: ctxCounterSignature := by
  rw [ctxCounterSignature_bytes]; decide

theorem ctxCounterSignature0_bytes : ctxCounterSignature0 = [67, 111, 117, 110, 116, 101, 114, 83, 105, 103, 110, 97, 116, 117, 114, 101, 48] :=
  (utf8_eq "CounterSignature0").trans (by decide)
theorem encTstr_ctxCounterSignature0 : encTstr ctxCounterSignature0 = 113 :: ctxCounterSignature0 := by
  rw [ctxCounterSignature0_bytes]; decide

theorem ctxCounterSignatureV2_bytes : ctxCounterSignatureV2 = [67, 111, 117, 110, 116, 101, 114, 83, 105, 103, 110, 97, 116, 117, 114, 101, 86, 50] :=
  (utf8_eq "CounterSignatureV2").trans (by decide)
theorem encTstr_ctxCounterSignatureV2 : encTstr ctxCounterSignatureV2 = 114 :: ctxCounterSignatureV2 := by
  rw [ctxCounterSignatureV2_bytes]; decide

theorem ctxCounterSignature0V2_bytes : ctxCounterSignature0V2 = [67, 111, 117, 110, 116, 101, 114, 83, 105, 103, 110, 97, 116, 117, 114, 101, 48, 86, 50] :=
  (utf8_eq "CounterSignature0V2").trans (by decide)
theorem encTstr_ctxCounterSignature0V2 : encTstr ctxCounterSignature0V2 = 115 :: ctxCounterSignature0V2 := by
  rw [ctxCounterSignature0V2_bytes]; decide


/-! ### binding -/

theorem ctxSignature1_small : (utf8 "Signature1").length < 2^64 := by
  show ctxSignature1.length < _
  rw [ctxSignature1_bytes]; decide

theorem ctxSignature_small : (utf8 "Signature").length < 2^64 := by
  show ctxSignature.length < _
  rw [ctxSignature_bytes]; decide

/-- a signature binds the protected bytes, the external data and the payload -/
theorem sig1_binding (c e p c' e' p' : Bytes)
    (hc : c.length < 2^64) (he : e.length < 2^64) (hp : p.length < 2^64)
    (hc' : c'.length < 2^64) (he' : e'.length < 2^64) (hp' : p'.length < 2^64)
    (h : detEnc (sigStructure1 c e p) = detEnc (sigStructure1 c' e' p')) :
    c = c' ∧ e = e' ∧ p = p' := by
  cases detEnc_inj (x := sigStructure1 c e p) (y := sigStructure1 c' e' p')
    ⟨(by decide : 4 < 2^64), ctxSignature1_small, hc, he, hp, trivial⟩
    ⟨(by decide : 4 < 2^64), ctxSignature1_small, hc', he', hp', trivial⟩ h
  exact ⟨rfl, rfl, rfl⟩

theorem sig_binding (c s e p c' s' e' p' : Bytes)
    (hc : c.length < 2^64) (hs : s.length < 2^64) (he : e.length < 2^64) (hp : p.length < 2^64)
    (hc' : c'.length < 2^64) (hs' : s'.length < 2^64) (he' : e'.length < 2^64)
    (hp' : p'.length < 2^64)
    (h : detEnc (sigStructure c s e p) = detEnc (sigStructure c' s' e' p')) :
    c = c' ∧ s = s' ∧ e = e' ∧ p = p' := by
  cases detEnc_inj (x := sigStructure c s e p) (y := sigStructure c' s' e' p')
    ⟨(by decide : 5 < 2^64), ctxSignature_small, hc, hs, he, hp, trivial⟩
    ⟨(by decide : 5 < 2^64), ctxSignature_small, hc', hs', he', hp', trivial⟩ h
  exact ⟨rfl, rfl, rfl, rfl⟩

theorem encHead_4_4 : encHead 4 4 = [0x84] := by decide
theorem encHead_4_5 : encHead 4 5 = [0x85] := by decide
theorem encHead_4_6 : encHead 4 6 = [0x86] := by decide

/-- a Sign1 ToBeSigned is never a Sign-signer ToBeSigned (array of 4 vs array of 5) -/
theorem kinds_separated (c e p c2 s2 e2 p2 : Bytes) :
    detEnc (sigStructure1 c e p) ≠ detEnc (sigStructure c2 s2 e2 p2) := fun h =>
  absurd (detEnc_arr_length h (by decide : 4 < 2^64) (by decide : 5 < 2^64)).1 (by decide : 4 ≠ 5)

end C02

namespace C10
open C02

theorem detEnc_countersign_none (ctx : String) (c s e p : Bytes) :
    detEnc (countersignStructure ctx c s e p none) =
      encHead 4 5 ++ (encTstr (utf8 ctx) ++ (encBstr c ++ (encBstr s ++ (encBstr e ++ encBstr p)))) := by
  simp [countersignStructure, detEnc, detEncList, encBstr_eq_detEnc, encTstr_eq_detEnc,
    encHead_eq_detHead]

theorem detEnc_countersign_some (ctx : String) (c s e p sig : Bytes) :
    detEnc (countersignStructure ctx c s e p (some sig)) =
      encHead 4 6 ++ ((encTstr (utf8 ctx) ++ (encBstr c ++ (encBstr s ++ (encBstr e ++ encBstr p))))
        ++ (encHead 4 1 ++ encBstr sig)) := by
  simp [countersignStructure, detEnc, detEncList, encBstr_eq_detEnc, encTstr_eq_detEnc,
    encHead_eq_detHead]

theorem ctbs_eq_rfc_sign1 (abbr : Bool) (m : Sign1Msg) (signProtected : Bytes) (ext : Option Bytes)
    (rawBody bodyContent signContent payload sig : Bytes)
    (hm : marshalProtected m.h = .ok rawBody)
    (hb : IsBstrEncoding rawBody bodyContent)
    (hs : IsBstrEncoding signProtected signContent)
    (hblen : bodyContent.length < 18446744073709551616)
    (hslen : signContent.length < 18446744073709551616)
    (hpl : m.payload = some payload) (hsig : m.sig = some sig) (hne : sig ≠ []) :
    countersignToBeSigned abbr (.sign1 m) signProtected ext =
      .ok (detEnc (countersignStructure (if abbr then "CounterSignature0V2" else "CounterSignatureV2")
        bodyContent signContent (ext.getD []) payload (some sig))) := by
  have h0 := C01.blen_some_ne hne
  cases abbr <;>
  simp [countersignToBeSigned, hm, hpl, hsig, h0, detBstr_spec _ _ hb hblen,
    detBstr_spec _ _ hs hslen, optBytesEnc, detEnc_countersign_some, encBstr_eq_detEnc,
    ctxCounterSignature0V2, ctxCounterSignatureV2, utf8]

theorem ctbs_eq_rfc_signature (abbr : Bool) (s : SigV) (signProtected : Bytes) (ext : Option Bytes)
    (rawBody bodyContent signContent sig : Bytes)
    (hm : marshalProtected s.h = .ok rawBody)
    (hb : IsBstrEncoding rawBody bodyContent)
    (hs : IsBstrEncoding signProtected signContent)
    (hblen : bodyContent.length < 18446744073709551616)
    (hslen : signContent.length < 18446744073709551616)
    (hsig : s.sig = some sig) (hne : sig ≠ []) :
    countersignToBeSigned abbr (.signature s) signProtected ext =
      .ok (detEnc (countersignStructure (if abbr then "CounterSignature0" else "CounterSignature")
        bodyContent signContent (ext.getD []) sig none)) := by
  have h0 := C01.blen_some_ne hne
  cases abbr <;>
  simp [countersignToBeSigned, hm, hsig, h0, detBstr_spec _ _ hb hblen,
    detBstr_spec _ _ hs hslen, optBytesEnc, detEnc_countersign_none, encBstr_eq_detEnc,
    ctxCounterSignature0, ctxCounterSignature, utf8]

theorem ctbs_eq_rfc_countersignature (abbr : Bool) (s : SigV) (signProtected : Bytes)
    (ext : Option Bytes) (rawBody bodyContent signContent sig : Bytes)
    (hm : marshalProtected s.h = .ok rawBody)
    (hb : IsBstrEncoding rawBody bodyContent)
    (hs : IsBstrEncoding signProtected signContent)
    (hblen : bodyContent.length < 18446744073709551616)
    (hslen : signContent.length < 18446744073709551616)
    (hsig : s.sig = some sig) (hne : sig ≠ []) :
    countersignToBeSigned abbr (.countersignature s) signProtected ext =
      .ok (detEnc (countersignStructure (if abbr then "CounterSignature0" else "CounterSignature")
        bodyContent signContent (ext.getD []) sig none)) := by
  have h0 := C01.blen_some_ne hne
  cases abbr <;>
  simp [countersignToBeSigned, hm, hsig, h0, detBstr_spec _ _ hb hblen,
    detBstr_spec _ _ hs hslen, optBytesEnc, detEnc_countersign_none, encBstr_eq_detEnc,
    ctxCounterSignature0, ctxCounterSignature, utf8]

theorem ctbs_eq_rfc_sign (abbr : Bool) (m : SignMsg) (signProtected : Bytes) (ext : Option Bytes)
    (rawBody bodyContent signContent payload : Bytes)
    (hm : marshalProtected m.h = .ok rawBody)
    (hb : IsBstrEncoding rawBody bodyContent)
    (hs : IsBstrEncoding signProtected signContent)
    (hblen : bodyContent.length < 18446744073709551616)
    (hslen : signContent.length < 18446744073709551616)
    (hpl : m.payload = some payload) (hsigs : m.sigs ≠ [])
    (hall : m.sigs.any (fun s => blen s.sig = 0) = false) :
    countersignToBeSigned abbr (.sign m) signProtected ext =
      .ok (detEnc (countersignStructure (if abbr then "CounterSignature0" else "CounterSignature")
        bodyContent signContent (ext.getD []) payload none)) := by
  cases abbr <;>
  simp [countersignToBeSigned, hm, hpl, hsigs, hall, detBstr_spec _ _ hb hblen,
    detBstr_spec _ _ hs hslen, optBytesEnc, detEnc_countersign_none, encBstr_eq_detEnc,
    ctxCounterSignature0, ctxCounterSignature, utf8]

/-! ### separation -/

/-- the context string `countersignToBeSigned` picks -/
def ctxOf (other : Option Bytes) (abbr : Bool) : Bytes :=
  match other, abbr with
  | none, true => ctxCounterSignature0
  | none, false => ctxCounterSignature
  | some _, true => ctxCounterSignature0V2
  | some _, false => ctxCounterSignatureV2

/-- the bytes `countersignToBeSigned` assembles from the processed fields -/
def ctbsBytes (abbr : Bool) (other : Option Bytes) (bp sp ext : Bytes) (payload : Option Bytes) :
    Bytes :=
  match other with
  | none =>
    encHead 4 5 ++ (encTstr (ctxOf other abbr) ++ (bp ++ (sp ++ (encBstr ext ++ optBytesEnc payload))))
  | some sigEnc =>
    encHead 4 6 ++ ((encTstr (ctxOf other abbr) ++ (bp ++ (sp ++ (encBstr ext ++ optBytesEnc payload))))
      ++ (encHead 4 1 ++ sigEnc))

/-- if `countersignToBeSigned` succeeds for one value of `abbreviated`, then it succeeds for both,
    and the two results differ only in the context string -/
theorem ctbs_ok_shape {abbr : Bool} {parent : Parent} {sp : Bytes} {ext : Option Bytes} {t : Bytes}
    (h : countersignToBeSigned abbr parent sp ext = .ok t) :
    ∃ (other payload : Option Bytes) (bp sp' : Bytes),
      ∀ abbr', countersignToBeSigned abbr' parent sp ext =
        .ok (ctbsBytes abbr' other bp sp' (ext.getD []) payload) := by
  simp only [countersignToBeSigned] at h ⊢
  split at h
  · rename_i bodyProtected payload other heq
    cases hb : detBstr bodyProtected <;> simp only [hb, Out.bind_ok, Out.bind_err, Out.bind_panic,
      Out.bind_unmodelled, reduceCtorEq] at h
    rename_i bp
    cases hs : detBstr sp <;> simp only [hs, Out.bind_ok, Out.bind_err, Out.bind_panic,
      Out.bind_unmodelled, reduceCtorEq] at h
    rename_i sp'
    refine ⟨other, payload, bp, sp', fun abbr' => ?_⟩
    cases other <;> cases abbr' <;> rfl
  all_goals simp at h

/-- a full-form Countersign_structure never equals an abbreviated-form one, whatever the parents,
    protected buckets and external data on the two sides (the context strings differ, or the
    array lengths do) -/
theorem ctbsBytes_full_ne_abbrev_any (o o' : Option Bytes) (bp sp ext bp' sp' ext' : Bytes)
    (pl pl' : Option Bytes) :
    ctbsBytes false o bp sp ext pl ≠ ctbsBytes true o' bp' sp' ext' pl' := by
  intro h
  cases o <;> cases o' <;>
    simp only [ctbsBytes, ctxOf, encHead_4_5, encHead_4_6, encTstr_ctxCounterSignature,
      encTstr_ctxCounterSignature0, encTstr_ctxCounterSignatureV2, encTstr_ctxCounterSignature0V2,
      List.cons_append, List.nil_append] at h
  -- same array length: the heads of the context strings differ; else the array heads do
  · exact absurd (List.cons.inj (List.cons.inj h).2).1 (by decide)
  · exact absurd (List.cons.inj h).1 (by decide)
  · exact absurd (List.cons.inj h).1 (by decide)
  · exact absurd (List.cons.inj (List.cons.inj h).2).1 (by decide)

theorem ctbs_full_ne_abbrev_any (parent parent' : Parent) (sp sp' : Bytes) (ext ext' : Option Bytes)
    (t t' : Bytes) (h : countersignToBeSigned false parent sp ext = .ok t)
    (h' : countersignToBeSigned true parent' sp' ext' = .ok t') : t ≠ t' := by
  obtain ⟨o, pl, bp, s1, hall⟩ := ctbs_ok_shape h
  obtain ⟨o', pl', bp', s1', hall'⟩ := ctbs_ok_shape h'
  rw [hall false] at h
  rw [hall' true] at h'
  rw [← Out.ok.inj h, ← Out.ok.inj h']
  exact ctbsBytes_full_ne_abbrev_any _ _ _ _ _ _ _ _ _ _

/-- for the same parent and arguments the full and the abbreviated ToBeSigned differ -/
theorem ctbs_full_ne_abbrev (parent : Parent) (sp : Bytes) (ext : Option Bytes) (t t' : Bytes)
    (h : countersignToBeSigned false parent sp ext = .ok t)
    (h' : countersignToBeSigned true parent sp ext = .ok t') : t ≠ t' :=
  ctbs_full_ne_abbrev_any parent parent sp sp ext ext t t' h h'

theorem ctbsBytes_ne_sig1 (abbr : Bool) (other : Option Bytes) (bp sp ext : Bytes)
    (payload : Option Bytes) (c e p : Bytes) :
    ctbsBytes abbr other bp sp ext payload ≠ detEnc (sigStructure1 c e p) := by
  intro h
  cases other <;>
    simp only [ctbsBytes, detEnc_sigStructure1, encHead_4_4, encHead_4_5, encHead_4_6,
      List.cons_append, List.nil_append] at h <;>
    exact absurd (List.cons.inj h).1 (by decide)

theorem ctbsBytes_ne_sig (abbr : Bool) (other : Option Bytes) (bp sp ext : Bytes)
    (payload : Option Bytes) (c s e p : Bytes) :
    ctbsBytes abbr other bp sp ext payload ≠ detEnc (sigStructure c s e p) := by
  intro h
  cases other with
  | some o =>
    simp only [ctbsBytes, detEnc_sigStructure, encHead_4_5, encHead_4_6,
      List.cons_append, List.nil_append] at h
    exact absurd (List.cons.inj h).1 (by decide)
  | none =>
    cases abbr <;>
      simp only [ctbsBytes, ctxOf, detEnc_sigStructure, encHead_4_5, encTstr_ctxCounterSignature,
        encTstr_ctxCounterSignature0, encTstr_ctxSignature, List.cons_append, List.nil_append] at h <;>
      exact absurd (List.cons.inj (List.cons.inj h).2).1 (by decide)

/-- a countersignature ToBeSigned is never a COSE_Sign1 ToBeSigned nor a COSE_Sign signer's -/
theorem ctbs_ne_message_tbs (abbr : Bool) (parent : Parent) (sp : Bytes) (ext : Option Bytes)
    (t : Bytes) (h : countersignToBeSigned abbr parent sp ext = .ok t) :
    (∀ c e p, t ≠ detEnc (sigStructure1 c e p)) ∧
    (∀ c s e p, t ≠ detEnc (sigStructure c s e p)) := by
  obtain ⟨other, payload, bp, sp', hall⟩ := ctbs_ok_shape h
  rw [hall abbr] at h
  rw [← Out.ok.inj h]
  exact ⟨fun c e p => ctbsBytes_ne_sig1 _ _ _ _ _ _ c e p, fun c s e p => ctbsBytes_ne_sig _ _ _ _ _ _ c s e p⟩

/-! ### the same at the level of the RFC structures -/

/-- a Countersign_structure determines every one of its fields: the context, the parent's protected
    bytes, the countersigner's protected bytes, the external data, the payload position and
    `other_fields` -/
theorem countersign_binding (ctx ctx' : String) (c s e p c' s' e' p' : Bytes) (o o' : Option Bytes)
    (hx : (utf8 ctx).length < 2^64) (hx' : (utf8 ctx').length < 2^64)
    (hc : c.length < 2^64) (hs : s.length < 2^64) (he : e.length < 2^64) (hp : p.length < 2^64)
    (hc' : c'.length < 2^64) (hs' : s'.length < 2^64) (he' : e'.length < 2^64)
    (hp' : p'.length < 2^64)
    (ho : ∀ x, o = some x → x.length < 2^64) (ho' : ∀ x, o' = some x → x.length < 2^64)
    (h : detEnc (countersignStructure ctx c s e p o) = detEnc (countersignStructure ctx' c' s' e' p' o')) :
    utf8 ctx = utf8 ctx' ∧ c = c' ∧ s = s' ∧ e = e' ∧ p = p' ∧ o = o' := by
  cases o with
  | none =>
    cases o' with
    | some x' =>
      exact absurd (detEnc_arr_length h (by decide : 5 < 2^64) (by decide : 6 < 2^64)).1
        (by decide : 5 ≠ 6)
    | none =>
      have hi := detEnc_inj (x := countersignStructure ctx c s e p none)
        (y := countersignStructure ctx' c' s' e' p' none)
        ⟨(by decide : 5 < 2^64), hx, hc, hs, he, hp, trivial⟩
        ⟨(by decide : 5 < 2^64), hx', hc', hs', he', hp', trivial⟩ h
      simpa only [countersignStructure, Item.arr.injEq, List.cons.injEq, Item.tstr.injEq,
        Item.bstr.injEq, and_true] using hi
  | some x =>
    cases o' with
    | none =>
      exact absurd (detEnc_arr_length h (by decide : 6 < 2^64) (by decide : 5 < 2^64)).1
        (by decide : 6 ≠ 5)
    | some x' =>
      have hi := detEnc_inj (x := countersignStructure ctx c s e p (some x))
        (y := countersignStructure ctx' c' s' e' p' (some x'))
        ⟨(by decide : 6 < 2^64), hx, hc, hs, he, hp, ⟨(by decide : 1 < 2^64), ho x rfl, trivial⟩,
          trivial⟩
        ⟨(by decide : 6 < 2^64), hx', hc', hs', he', hp',
          ⟨(by decide : 1 < 2^64), ho' x' rfl, trivial⟩, trivial⟩ h
      simpa only [countersignStructure, Item.arr.injEq, List.cons.injEq, Item.tstr.injEq,
        Item.bstr.injEq, and_true, Option.some.injEq] using hi

/-- no Countersign_structure encodes as a COSE_Sign1 Sig_structure, whatever the context string -/
theorem countersign_ne_sig1 (ctx : String) (c s e p : Bytes) (o : Option Bytes) (c1 e1 p1 : Bytes) :
    detEnc (countersignStructure ctx c s e p o) ≠ detEnc (sigStructure1 c1 e1 p1) := by
  intro h
  cases o with
  | none =>
    exact absurd (detEnc_arr_length h (by decide : 5 < 2^64) (by decide : 4 < 2^64)).1
      (by decide : 5 ≠ 4)
  | some x =>
    exact absurd (detEnc_arr_length h (by decide : 6 < 2^64) (by decide : 4 < 2^64)).1
      (by decide : 6 ≠ 4)

/-- a Countersign_structure whose context is not "Signature" never encodes as a COSE_Sign
    Sig_structure -/
theorem countersign_ne_sig (ctx : String) (c s e p : Bytes) (o : Option Bytes) (c2 s2 e2 p2 : Bytes)
    (hx : (utf8 ctx).length < 2^64) (hne : utf8 ctx ≠ utf8 "Signature") :
    detEnc (countersignStructure ctx c s e p o) ≠ detEnc (sigStructure c2 s2 e2 p2) := by
  intro h
  cases o with
  | some x =>
    exact absurd (detEnc_arr_length h (by decide : 6 < 2^64) (by decide : 5 < 2^64)).1
      (by decide : 6 ≠ 5)
  | none =>
    have h0 := (detEnc_arr_length h (by decide : 5 < 2^64) (by decide : 5 < 2^64)).2
    exact hne (Item.tstr.inj (detEnc_append_inj (.tstr _) (.tstr _) hx ctxSignature_small h0).1)

/-- the four context strings of RFC 9338 are pairwise distinct and distinct from "Signature" /
    "Signature1" (as UTF-8 bytes) -/
theorem contexts_distinct :
    [ctxSignature1, ctxSignature, ctxCounterSignature, ctxCounterSignature0, ctxCounterSignatureV2,
      ctxCounterSignature0V2].Pairwise (· ≠ ·) := by
  rw [ctxSignature1_bytes, ctxSignature_bytes, ctxCounterSignature_bytes, ctxCounterSignature0_bytes,
    ctxCounterSignatureV2_bytes, ctxCounterSignature0V2_bytes]
  decide

end C10

/-! ### the hypotheses are satisfiable -/
namespace TbsExamples

-- a protected bucket `{}` wrapped with a non-shortest (one-byte) length
example : IsBstrEncoding [0x58, 0x01, 0xa0] [0xa0] := ⟨.w1, by decide, rfl⟩
example : IsBstrEncoding [0x41, 0xa0] [0xa0] := ⟨.imm, by decide, rfl⟩
example : IsBstrEncoding [0x5b, 0, 0, 0, 0, 0, 0, 0, 0] [] := ⟨.w8, by decide, rfl⟩
example : IsBstrEncoding [0x40] [] := ⟨.imm, by decide, rfl⟩

-- evaluation of the model without `detBstr_spec`; only the parser's answer comes from a lemma
example : detBstr [0x58, 0x01, 0xa0] = .ok [0x41, 0xa0] := by
  have hp : parseTop false [0x58, 0x01, 0xa0] = some (.bstr .w1 [0xa0]) :=
    C02.parseTop_bstr .w1 [0xa0] (by decide)
  unfold detBstr
  rw [hp]
  decide
example : detBstr [0x41, 0xa0] = .ok [0x41, 0xa0] := by
  have hp : parseTop false [0x41, 0xa0] = some (.bstr .imm [0xa0]) :=
    C02.parseTop_bstr .imm [0xa0] (by decide)
  unfold detBstr
  rw [hp]
  decide
example : detBstr [0x5b, 0, 0, 0, 0, 0, 0, 0, 0] = .ok [0x40] := by
  have hp : parseTop false [0x5b, 0, 0, 0, 0, 0, 0, 0, 0] = some (.bstr .w8 []) :=
    C02.parseTop_bstr .w8 [] (by decide)
  unfold detBstr
  rw [hp]
  decide
-- and through the theorem
example : detBstr [0x5a, 0, 0, 0, 1, 0xa0] = .ok [0x41, 0xa0] :=
  (C02.detBstr_spec _ [0xa0] ⟨.w4, by decide, rfl⟩ (by decide)).trans (by decide)
example : detBstr [0x59, 0x00, 0x01, 0xa0] = .ok (detEnc (.bstr [0xa0])) :=
  C02.detBstr_spec _ _ ⟨.w2, by decide, rfl⟩ (by decide)

/-- a decoded message that retained a non-minimal protected bucket -/
def m1 : Sign1Msg :=
  { h := { rawP := some [0x58, 0x01, 0xa0] }, payload := some [1, 2, 3], sig := some [9] }

theorem m1_protected : marshalProtected m1.h = .ok [0x58, 0x01, 0xa0] := by
  simp [marshalProtected, m1, GoVal.modelledPairs, encodeBucket]

example : Sign1.toBeSigned m1 none = .ok (detEnc (sigStructure1 [0xa0] [] [1, 2, 3])) :=
  C02.tbs1_eq_rfc m1 none [0x58, 0x01, 0xa0] [0xa0] [1, 2, 3] m1_protected ⟨.w1, by decide, rfl⟩
    (by decide) rfl

example : Signature.toBeSigned { h := { rawP := some [0x58, 0x01, 0xa0] } } [0x40] (some [7]) (some [8]) =
    .ok (detEnc (sigStructure [] [0xa0] [8] [7])) :=
  C02.tbsSig_eq_rfc _ _ _ _ [] [0x58, 0x01, 0xa0] [0xa0] [7] ⟨.imm, by decide, rfl⟩ (by decide)
    (by simp [marshalProtected, GoVal.modelledPairs, encodeBucket])
    ⟨.w1, by decide, rfl⟩ (by decide) rfl

example : countersignToBeSigned true (.sign1 m1) [0x40] none =
    .ok (detEnc (countersignStructure "CounterSignature0V2" [0xa0] [] [] [1, 2, 3] (some [9]))) :=
  C10.ctbs_eq_rfc_sign1 true m1 [0x40] none [0x58, 0x01, 0xa0] [0xa0] [] [1, 2, 3] [9] m1_protected
    ⟨.w1, by decide, rfl⟩ ⟨.imm, by decide, rfl⟩ (by decide) (by decide) rfl rfl (by decide)

example : countersignToBeSigned false (.signature { h := { rawP := some [0x40] }, sig := some [9] })
      [0x41, 0xa0] (some [5]) =
    .ok (detEnc (countersignStructure "CounterSignature" [] [0xa0] [5] [9] none)) :=
  C10.ctbs_eq_rfc_signature false _ _ _ [0x40] [] [0xa0] [9]
    (by simp [marshalProtected, GoVal.modelledPairs, encodeBucket])
    ⟨.imm, by decide, rfl⟩ ⟨.imm, by decide, rfl⟩ (by decide) (by decide) rfl (by decide)

end TbsExamples
