/-
  CoseProofs.Deep.CsigRoundTrip — the encode → decode round trip of header buckets whose
  unprotected labels 7 (COSE_Countersignature, RFC 8152) and 11 (RFC 9338) carry countersignature
  values: a `*Countersignature` (`GoVal.csig`) or a `[]*Countersignature` (`GoVal.csigs`), to any
  nesting depth the decoder admits (a countersignature has header buckets of its own, whose
  unprotected one may again carry countersignatures).

  Region.  `CsigOK d v`, by recursion over the value: a constructed countersignature (no retained
  raw buckets) with a non-empty signature shorter than 2^64, `d + 2 ≤ maxNested`, a protected map
  `ProtOK` (a validated `NestedMap` with `UintOK`, at most `maxElems` entries, encoding shorter
  than 2^64), an unprotected map that is validated, has at most `maxElems` entries, passes
  `ensureIV` and is an `HMap (d + 2)`; or a non-empty list of at most `maxElems` single
  countersignatures that are `CsigOK (d + 1)`, with `d + 1 ≤ maxNested`.  `HMap d u`: every label
  flat, every value either `RTVal d` with `UintOK` or stored under label 7 / 11 and `CsigOK d`.
  Every `NestedMapAt d` is an `HMap d`, and there `umapWire` / `cnormEntry` are `mapWireN` /
  `normEntryN` (`umapWire_of_nested`).

  Wire item `cwire v`: a countersignature is the 3-array `[bstr protected, map unprotected,
  bstr signature]`, a list the array of those, anything else `wireN v`.  Normal form `cnorm v`:
  what the decoder's countersignature branch returns — both raw buckets retained as emitted, the
  protected map sorted and retyped (`decEntryN`), the unprotected map sorted and entry-wise normal
  (`cnormEntry`).

  The value theorem `cok_of_csigOK` and the bucket lemma `ubucket_ok` feed each other through the
  induction principle `cs_ind`: a bucket needs per entry `EOK` (what section `Bucket` of
  `Deep/RoundTrip` asks of a value, with the decoder branch chosen by the decoded label), which
  for an `RTVal` entry is `vok_of_rtVal` and for a countersignature entry the induction
  hypothesis.  A list of countersignature items is never mistaken for one countersignature
  (`decSigFields_list_err`).

  Hypotheses that remain, and why:
  * `rawP = rawU = none`: constructed countersignatures; with retained raw bytes the encoder emits
    them verbatim, which is `csig_reencode_fixpoint` for decoded values.
  * validated buckets and `ensureIV` inside `CsigOK`: what the encoder checks; without them
    `MarshalCBOR` fails and nothing reaches the wire.
  * the depth and size clauses: the decoder's `MaxNestedLevels` 32 and `MaxArrayElements` 131072.
    The encoder (`UnprotectedHeader.MarshalCBOR`) applies them to each freshly encoded unprotected
    bucket taken on its own, not at the depth the bucket ends up at.  A countersignature adds two
    levels (its array and its unprotected map).
  * countersignature values only under labels 7 / 11:
    `unprotected_bucket_roundtrip_csig_needs_label` — `{99: cs2}` is validated and encoded, and
    decodes to a generic array.
  * `UintOK` on the other values, `KeyDistinct` inside `RTVal` maps: as in `Deep/NestedBuckets`.
  * signature and protected encoding shorter than 2^64 bytes: a CBOR head cannot say more.
  Not needed at the value level: `l ≠ []` for lists (`80` decodes to an empty list); it is in
  `CsigOK` because header validation (`isCsigValue`) demands it.
-/
import CoseProofs.Deep.NestedBuckets
import CoseProofs.Deep.Accept
open CoseModel CoseSpec RoundTrip NestedBuckets

namespace CsigRT

/-! ### the region -/

/-- a countersignature struct or a list of them -/
def isCs : GoVal → Bool
  | .csig .. => true
  | .csigs _ => true
  | _ => false

/-- a non-nil `*Countersignature` -/
def isCsig1 : GoVal → Bool
  | .csig .. => true
  | _ => false

/-- the protected bucket of a constructed countersignature: flat labels, nested values, validated,
    and its encoding shorter than 2^64 bytes (true of every Go slice) -/
def ProtOK (p : GoMap) : Prop :=
  NestedMap p ∧ (∀ e ∈ p, UintOK e.2) ∧ validateHeaderParameters p true = true ∧
    p.length ≤ maxElems ∧
    ∀ b, encodeBucket encCfg true none p = some b → b.length < 18446744073709551616

mutual
/-- `CsigOK d v`: the countersignature value `v`, met at nesting depth `d`, is inside the region
    the round trip is proved for. -/
def CsigOK : Nat → GoVal → Prop
  | d, .csig rp p ru u sg =>
      rp = none ∧ ru = none ∧
      (∃ s, sg = some s ∧ s ≠ [] ∧ s.length < 18446744073709551616) ∧
      d + 2 ≤ maxNested ∧ ProtOK p ∧
      validateHeaderParameters u false = true ∧ u.length ≤ maxElems ∧ ensureIV p u = true ∧
      HPairs (d + 2) u
  | d, .csigs cs =>
      cs ≠ [] ∧ cs.length ≤ maxElems ∧ d + 1 ≤ maxNested ∧ CsigElems (d + 1) cs
  | _, _ => False
def CsigElems : Nat → List GoVal → Prop
  | _, [] => True
  | d, x :: xs => isCsig1 x = true ∧ CsigOK d x ∧ CsigElems d xs
/-- the entries of an unprotected bucket whose values are met at depth `d` -/
def HPairs : Nat → List (GoVal × GoVal) → Prop
  | _, [] => True
  | d, (k, v) :: r =>
      FlatLabel k ∧ ((RTVal d v ∧ UintOK v) ∨ (isCsigLabel k = true ∧ CsigOK d v)) ∧ HPairs d r
end

/-- an unprotected header map whose values, met at depth `d`, are scalars / nested values, except
    that labels 7 and 11 may carry `CsigOK` countersignature values -/
def HMap (d : Nat) (u : GoMap) : Prop :=
  ∀ e ∈ u, FlatLabel e.1 ∧ ((RTVal d e.2 ∧ UintOK e.2) ∨ (isCsigLabel e.1 = true ∧ CsigOK d e.2))

theorem hPairs_iff (d : Nat) (u : GoMap) : HPairs d u ↔ HMap d u := by
  unfold HMap
  induction u with
  | nil => simp [HPairs]
  | cons e r ih =>
    obtain ⟨k, v⟩ := e
    simp only [HPairs, ih, List.forall_mem_cons, and_assoc]

theorem csigElems_iff (d : Nat) (l : List GoVal) :
    CsigElems d l ↔ ∀ x ∈ l, isCsig1 x = true ∧ CsigOK d x := by
  induction l with
  | nil => simp [CsigElems]
  | cons e r ih => simp only [CsigElems, ih, List.forall_mem_cons, and_assoc]

theorem CsigOK.isCs {d : Nat} {v : GoVal} (h : CsigOK d v) : isCs v = true := by
  cases v <;> simp only [CsigOK] at h <;> rfl

theorem isCs_rtVal {d : Nat} {v : GoVal} (h : RTVal d v) : isCs v = false := by
  cases v <;> (try simp only [RTVal, FlatVal] at h) <;> rfl

/-! ### induction principle -/

mutual
theorem cs_ind {P : GoVal → Prop}
    (hcsig : ∀ rp p ru (u : GoMap) sg, (∀ e ∈ u, P e.2) → P (.csig rp p ru u sg))
    (hcsigs : ∀ cs, (∀ x ∈ cs, P x) → P (.csigs cs))
    (hother : ∀ v, isCs v = false → P v) : ∀ v, P v
  | .csig rp p ru u sg => hcsig rp p ru u sg (cs_indPairs hcsig hcsigs hother u)
  | .csigs cs => hcsigs cs (cs_indList hcsig hcsigs hother cs)
  | .arr _ => hother _ rfl
  | .map _ => hother _ rfl
  | .nil => hother _ rfl
  | .int _ _ => hother _ rfl
  | .alg _ => hother _ rfl
  | .crv _ => hother _ rfl
  | .str _ => hother _ rfl
  | .bytes _ => hother _ rfl
  | .bytesNil => hother _ rfl
  | .bool _ => hother _ rfl
  | .simple _ => hother _ rfl
  | .float _ => hother _ rfl
  | .csigNil => hother _ rfl
  | .csigsNil => hother _ rfl
  | .opaque => hother _ rfl
theorem cs_indList {P : GoVal → Prop}
    (hcsig : ∀ rp p ru (u : GoMap) sg, (∀ e ∈ u, P e.2) → P (.csig rp p ru u sg))
    (hcsigs : ∀ cs, (∀ x ∈ cs, P x) → P (.csigs cs))
    (hother : ∀ v, isCs v = false → P v) : ∀ (xs : List GoVal), ∀ x ∈ xs, P x
  | [] => fun _ h => nomatch h
  | y :: ys => List.forall_mem_cons.mpr
      ⟨cs_ind hcsig hcsigs hother y, cs_indList hcsig hcsigs hother ys⟩
theorem cs_indPairs {P : GoVal → Prop}
    (hcsig : ∀ rp p ru (u : GoMap) sg, (∀ e ∈ u, P e.2) → P (.csig rp p ru u sg))
    (hcsigs : ∀ cs, (∀ x ∈ cs, P x) → P (.csigs cs))
    (hother : ∀ v, isCs v = false → P v) : ∀ (kvs : List (GoVal × GoVal)), ∀ e ∈ kvs, P e.2
  | [] => fun _ h => nomatch h
  | (_, v) :: r => List.forall_mem_cons.mpr
      ⟨cs_ind hcsig hcsigs hother v, cs_indPairs hcsig hcsigs hother r⟩
end

/-! ### the wire item and the decoded normal form -/

/-- content of the protected byte string -/
def protContent (p : GoMap) : Bytes := if p.isEmpty then [] else (mapWireN p).bytes

/-- the protected bucket as the encoder emits it: a byte string with a shortest head -/
def protWire (p : GoMap) : Wire := .bstr (HW.shortest (protContent p).length) (protContent p)

/-- the signature field -/
def sigWire (sg : Option Bytes) : Wire := .bstr (HW.shortest (sg.getD []).length) (sg.getD [])

mutual
/-- the item the encoder emits for a header value: a countersignature is the 3-array
    `[bstr protected, map unprotected, bstr signature]`, a list of them an array of those;
    everything else as in `wireN` -/
def cwire : GoVal → Wire
  | .csig _ p _ u sg =>
      .arr .imm [protWire p, .map (HW.shortest u.length) (sortWire (cwirePairs u)), sigWire sg]
  | .csigs cs => .arr (HW.shortest cs.length) (cwireList cs)
  | v => wireN v
def cwireList : List GoVal → List Wire
  | [] => []
  | x :: xs => cwire x :: cwireList xs
def cwirePairs : List (GoVal × GoVal) → List (Wire × Wire)
  | [] => []
  | (k, v) :: r => (valWire k, cwire v) :: cwirePairs r
end

def centryWire (e : GoVal × GoVal) : Wire × Wire := (valWire e.1, cwire e.2)

/-- the map item the encoder emits for an unprotected bucket -/
def umapWire (u : GoMap) : Wire := .map (HW.shortest u.length) ((sortEntries u).map centryWire)

mutual
/-- what the unprotected-bucket decoder returns for the encoding: a decoded countersignature
    retains the raw bytes of both buckets, its typed maps are the sorted retyped normal forms -/
def cnorm : GoVal → GoVal
  | .csig _ p _ u sg =>
      .csig (some (protWire p).bytes) ((sortEntries p).map decEntryN)
        (some (Wire.map (HW.shortest u.length) (sortWire (cwirePairs u))).bytes)
        (sortEntries (cnormPairs u)) sg
  | .csigs cs => .csigs (cnormList cs)
  | v => normValN v
def cnormList : List GoVal → List GoVal
  | [] => []
  | x :: xs => cnorm x :: cnormList xs
def cnormPairs : List (GoVal × GoVal) → List (GoVal × GoVal)
  | [] => []
  | (k, v) :: r => (normVal k, cnorm v) :: cnormPairs r
end

def cnormEntry (e : GoVal × GoVal) : GoVal × GoVal := (normVal e.1, cnorm e.2)

/-- the unprotected bucket with countersignature values is section `Bucket` of `Deep/RoundTrip`
    at `cwire` / `cnorm`, by unfolding (`ubucket_ok` takes its lemmas at that instance) -/
theorem bucketBy_csig : entryWireBy cwire = centryWire ∧ normEntryBy cnorm = cnormEntry ∧
    mapWireBy cwire = umapWire :=
  ⟨rfl, rfl, rfl⟩

theorem cwireList_eq (xs : List GoVal) : cwireList xs = xs.map cwire := by
  induction xs with
  | nil => rfl
  | cons x r ih => simp only [cwireList, ih, List.map_cons]

theorem cwirePairs_eq (g : GoMap) : cwirePairs g = g.map centryWire := by
  induction g with
  | nil => rfl
  | cons e r ih => obtain ⟨k, v⟩ := e; simp only [cwirePairs, ih, List.map_cons, centryWire]

theorem cnormList_eq (xs : List GoVal) : cnormList xs = xs.map cnorm := by
  induction xs with
  | nil => rfl
  | cons x r ih => simp only [cnormList, ih, List.map_cons]

theorem cnormPairs_eq (g : GoMap) : cnormPairs g = g.map cnormEntry := by
  induction g with
  | nil => rfl
  | cons e r ih => obtain ⟨k, v⟩ := e; simp only [cnormPairs, ih, List.map_cons, cnormEntry]

theorem sortWire_cmap (g : GoMap) :
    sortWire (g.map centryWire) = (sortEntries g).map centryWire :=
  mergeSort_map_sortEntries (β := Wire × Wire) (fun a b => bytesLe a.1.bytes b.1.bytes) centryWire
    (fun _ _ => rfl) g

theorem sortEntries_cmap (g : GoMap) :
    sortEntries (g.map cnormEntry) = (sortEntries g).map cnormEntry :=
  mergeSort_map_sortEntries _ cnormEntry
    (fun a b => by simp only [cnormEntry, valWire_of_normVal]) g

theorem cwire_csig (rp ru sg : Option Bytes) (p u : GoMap) :
    cwire (.csig rp p ru u sg) = .arr .imm [protWire p, umapWire u, sigWire sg] := by
  simp only [cwire, cwirePairs_eq, sortWire_cmap, umapWire]

theorem cwire_csigs (cs : List GoVal) :
    cwire (.csigs cs) = .arr (HW.shortest cs.length) (cs.map cwire) := by
  simp only [cwire, cwireList_eq]

theorem cwire_other {v : GoVal} (h : isCs v = false) : cwire v = wireN v := by
  cases v <;> simp only [isCs, reduceCtorEq] at h <;> simp only [cwire]

theorem cnorm_csig (rp ru sg : Option Bytes) (p u : GoMap) :
    cnorm (.csig rp p ru u sg) =
      .csig (some (protWire p).bytes) ((sortEntries p).map decEntryN)
        (some (umapWire u).bytes) ((sortEntries u).map cnormEntry) sg := by
  simp only [cnorm, cwirePairs_eq, sortWire_cmap, cnormPairs_eq, sortEntries_cmap, umapWire]

theorem cnorm_csigs (cs : List GoVal) : cnorm (.csigs cs) = .csigs (cs.map cnorm) := by
  simp only [cnorm, cnormList_eq]

theorem cnorm_other {v : GoVal} (h : isCs v = false) : cnorm v = normValN v := by
  cases v <;> simp only [isCs, reduceCtorEq] at h <;> simp only [cnorm]

/-! ### the protected bucket of a countersignature -/

theorem prot_ok {p : GoMap} (h : ProtOK p) :
    encodeBucket encCfg true none p = some (protWire p).bytes ∧ (protWire p).wf = true ∧
      decProtected (protWire p) = .ok ((sortEntries p).map decEntryN) := by
  obtain ⟨hf, hu, hv, hlen, hsz⟩ := h
  have hok := C13.validate_labels p true hv
  cases p with
  | nil =>
    have hw : protWire [] = .bstr .imm [] := by
      simp [protWire, protContent, HW.shortest]
    rw [hw]
    refine ⟨?_, rfl, ?_⟩
    · simp only [encodeBucket, if_true]; rfl
    · simp [decProtected, decProtectedContent, sortEntries]
  | cons e es =>
    have hne : (e :: es) ≠ [] := by simp
    have henc := encodeBucket_N (d := 0) hf true hv hlen (by unfold maxNested; omega) hne
    simp only [if_true] at henc
    have hpc : protContent (e :: es) = (mapWireN (e :: es)).bytes := by simp [protContent]
    have hb : encBstr (mapWireN (e :: es)).bytes = (protWire (e :: es)).bytes := by
      simp only [protWire, hpc, Wire.bytes, encBstr, encHead]
    have hsz' := hsz _ henc
    rw [hb] at henc hsz'
    have hcl : (protContent (e :: es)).length < 18446744073709551616 := by
      simp only [protWire, Wire.bytes, List.length_append] at hsz'
      omega
    have hvn := validate_sorted_normEntryN (d := 1) true hf hu hv
    refine ⟨henc, ?_, ?_⟩
    · simp only [protWire, Wire.wf]
      exact C02.shortest_fits hcl
    · simp only [protWire, decProtected, hpc]
      rw [decProtectedContent_mapWireN hf hok hlen, if_pos hvn]

theorem protWire_leaf (p : GoMap) (t : Bool) (d : Nat) :
    (protWire p).inLimits t d = true ∧ (protWire p).hasTag = false := ⟨rfl, rfl⟩

theorem sigWire_bytes (s : Bytes) : (sigWire (some s)).bytes = encBstr s := by
  simp only [sigWire, Option.getD_some, Wire.bytes, encBstr, encHead]

/-! ### labels of an unprotected bucket with countersignature values -/

theorem labelsOK_cnormEntry {g : GoMap} (hf : ∀ e ∈ g, FlatLabel e.1) (hok : LabelsOK g) :
    LabelsOK (g.map cnormEntry) :=
  labelsOK_map cnormEntry (fun e he => normalizeLabel_normVal (hf e he)) hok

theorem isCsigLabel_normVal {k : GoVal} (hk : FlatLabel k) :
    isCsigLabel (normVal k) = isCsigLabel k := by
  unfold isCsigLabel
  rw [normalizeLabel_normVal hk]

/-! ### header validation is transported across the decoder's retyping -/

theorem isCsig1_cnorm {x : GoVal} (h : isCsig1 x = true) : isCsig1 (cnorm x) = true := by
  cases x <;> simp only [isCsig1, Bool.false_eq_true] at h
  rw [cnorm_csig]; rfl

theorem isCsigValue_eq (v : GoVal) :
    isCsigValue v = match v with
      | .csig .. => true
      | .csigs cs => !cs.isEmpty && cs.all isCsig1
      | _ => false := by
  cases v <;> simp only [isCsigValue]
  congr 2

theorem isCsigValue_cnorm (v : GoVal) (h : isCsigValue v = true) :
    isCsigValue (cnorm v) = true := by
  rw [isCsigValue_eq] at h
  cases v <;> simp only [Bool.false_eq_true] at h
  case csig rp p ru u sg => rw [cnorm_csig]; rfl
  case csigs cs =>
    rw [cnorm_csigs, isCsigValue_eq]
    simp only [Bool.and_eq_true, Bool.not_eq_true', List.isEmpty_eq_false_iff, List.all_eq_true,
      ne_eq, List.map_eq_nil_iff, List.mem_map, forall_exists_index, and_imp,
      forall_apply_eq_imp_iff₂] at h ⊢
    exact ⟨h.1, fun x hx => isCsig1_cnorm (h.2 x hx)⟩

theorem checkParam_cnorm_cs (g : GoMap) (prot : Bool) (l : GoVal) {v : GoVal}
    (hcs : isCs v = true) (h : checkParam g prot l v = true) :
    checkParam g prot l (cnorm v) = true := by
  -- a countersignature value fails every test but `isCsigValue`, before and after decoding
  cases v <;> simp only [isCs, Bool.false_eq_true] at hcs
  case csig rp p ru u sg =>
    exact checkParam_mono (v := .csig rp p ru u sg) (v' := cnorm (.csig rp p ru u sg)) g prot l
      (fun h => h) (fun h => h) (fun h => h) (fun h => h) (isCsigValue_cnorm _) h
  case csigs cs =>
    exact checkParam_mono (v := .csigs cs) (v' := cnorm (.csigs cs)) g prot l
      (fun h => h) (fun h => h) (fun h => h) (fun h => h) (isCsigValue_cnorm _) h

theorem HMap.label {d : Nat} {g : GoMap} (hf : HMap d g) : ∀ e ∈ g, FlatLabel e.1 :=
  fun e he => (hf e he).1

theorem checkParam_cnorm {d : Nat} {g : GoMap} (hf : HMap d g) {e : GoVal × GoVal} (he : e ∈ g)
    (l : GoVal) (h : checkParam g false l e.2 = true) : checkParam g false l (cnorm e.2) = true := by
  rcases (hf e he).2 with ⟨hrt, hu⟩ | ⟨-, hc⟩
  · rw [cnorm_other (isCs_rtVal hrt)]
    exact checkParam_normValN g false l hrt hu h
  · exact checkParam_cnorm_cs g false l hc.isCs h

theorem ensureIV_cdecoded {p u : GoMap} (hfp : NestedMap p) (hfu : ∀ e ∈ u, FlatLabel e.1)
    (h : ensureIV p u = true) :
    ensureIV ((sortEntries p).map decEntryN) ((sortEntries u).map cnormEntry) = true :=
  WireClosure.ensureIV_decoded
    (WireClosure.hasLabel_sorted_map decEntryN
      (fun e he => normalizeLabel_decEntryBy normValN (hfp e he).1))
    (WireClosure.hasLabel_sorted_map cnormEntry (fun e he => normalizeLabel_normVal (hfu e he))) h

/-! ### one unprotected bucket, given what is known of its entries -/

/-- what the round trip establishes for one countersignature value met at depth `d` -/
structure COK (d : Nat) (v : GoVal) : Prop extends ItemOK cwire encCfg d v where
  dec : decCsigValue (cwire v) = .ok (cnorm v)
  single : isCsig1 v = true → ∃ ys, cwire v = .arr .imm ys ∧ decSigFields ys = .ok (cnorm v)

/-- … and for one entry of an unprotected bucket: the decoder chooses the countersignature
    branch by the (decoded) label -/
structure EOK (d : Nat) (e : GoVal × GoVal) : Prop extends ItemOK cwire encCfg d e.2 where
  label : FlatLabel e.1
  dec : (if isCsigLabel (normVal e.1) then decCsigValue (cwire e.2) else decodeAny (cwire e.2))
    = .ok (cnorm e.2)

theorem eok_of {d : Nat} {e : GoVal × GoVal}
    (hf : FlatLabel e.1 ∧
      ((RTVal d e.2 ∧ UintOK e.2) ∨ (isCsigLabel e.1 = true ∧ CsigOK d e.2)))
    (hcok : CsigOK d e.2 → COK d e.2)
    (hnc : RTVal d e.2 → isCsigLabel (normVal e.1) = false) : EOK d e := by
  obtain ⟨hl, hrt | hc⟩ := hf
  · have hn := isCs_rtVal hrt.1
    have h := vok_of_rtVal encCfg e.2 d hrt.1
    have hw := cwire_other hn
    refine ⟨.of_eq hw h.toItemOK, hl, ?_⟩
    rw [hw, cnorm_other hn, hnc hrt.1]
    simpa using h.dec
  · have h := hcok hc.2
    refine ⟨h.toItemOK, hl, ?_⟩
    rw [isCsigLabel_normVal hl, hc.1]
    simpa using h.dec

theorem umapWire_nil_bytes : (umapWire []).bytes = [0xa0] := mapWireBy_nil_bytes cwire

/-- the unprotected bucket whose map item sits at depth `d` (values met at depth `d + 1`) -/
theorem ubucket_ok (d : Nat) (u : GoMap) (hent : ∀ e ∈ u, EOK (d + 1) e)
    (hv : validateHeaderParameters u false = true)
    (hvn : validateHeaderParameters ((sortEntries u).map cnormEntry) false = true)
    (hlen : u.length ≤ maxElems) (hd : d + 1 ≤ maxNested) :
    encodeBucket encCfg false none u = some (umapWire u).bytes ∧ (umapWire u).wf = true ∧
      (∀ t, (umapWire u).inLimits t d = true) ∧ (umapWire u).hasTag = false ∧
      decUnprot (umapWire u) = .ok ((sortEntries u).map cnormEntry) :=
  unprotBucket_by cwire cnorm (fun e he => (hent e he).label) (fun e he => (hent e he).toItemOK)
    (fun e he => (hent e he).dec) hv hvn hlen hd

/-- the entries of a validated `HMap`, given the induction hypothesis for its countersignature
    values -/
theorem hmap_entries {d : Nat} {u : GoMap} (hm : HMap d u)
    (hv : validateHeaderParameters u false = true)
    (ih : ∀ e ∈ u, CsigOK d e.2 → COK d e.2) : ∀ e ∈ u, EOK d e := by
  intro e he
  obtain ⟨l, h1, h2⟩ := ((C13.validate_iff _ _).mp hv).2 e he
  apply eok_of (hm e he) (ih e he)
  intro hrt
  exact isCsigLabel_false_of_check (isCsigValue_rtVal hrt)
    (by rw [normalizeLabel_normVal (hm e he).1]; exact h1) h2

theorem validate_sorted_cnorm {d : Nat} {u : GoMap} (hm : HMap d u)
    (hv : validateHeaderParameters u false = true) :
    validateHeaderParameters ((sortEntries u).map cnormEntry) false = true :=
  validate_sorted_normEntryBy cnorm false hm.label (fun _ he l => checkParam_cnorm hm he l) hv

/-! ### lists of countersignatures -/

theorem decCsigList_C : ∀ xs : List GoVal,
    (∀ x ∈ xs, ∃ ys, cwire x = .arr .imm ys ∧ decSigFields ys = .ok (cnorm x)) →
    decCsigList (xs.map cwire) = .ok (xs.map cnorm)
  | [], _ => by simp only [List.map_nil, decCsigList_nil]
  | x :: xs, h => by
    obtain ⟨ys, h1, h2⟩ := h x (List.mem_cons_self ..)
    have ih := decCsigList_C xs (fun y hy => h y (List.mem_cons_of_mem _ hy))
    rw [List.map_cons, decCsigList_cons, h1, ih]
    simp only [csigOne, h2, Out.comb, List.map_cons]

/-- a list of countersignature items is never mistaken for one countersignature: the third field
    of a COSE_Signature must be a byte string -/
theorem decSigFields_list_err (cs : List GoVal) (h : ∀ x ∈ cs, isCsig1 x = true) :
    decSigFields (cs.map cwire) = .err .other := by
  rcases cs with _ | ⟨a, _ | ⟨b, _ | ⟨c, _ | ⟨e, r⟩⟩⟩⟩
  · simp [decSigFields]
  · simp [decSigFields]
  · simp [decSigFields]
  · have hc := h c (by simp)
    cases c <;> simp only [isCsig1, Bool.false_eq_true] at hc
    simp only [List.map_cons, List.map_nil, cwire_csig, decSigFields, decByteString]
  · simp [decSigFields]

theorem decCsigValue_list {w : HW} {xs : List Wire} {l : List GoVal}
    (h1 : decSigFields xs = .err .other) (h2 : decCsigList xs = .ok l) :
    decCsigValue (.arr w xs) = .ok (.csigs l) := by
  unfold decCsigValue
  by_cases hw : w = .imm <;> simp [hw, h1, h2]

theorem decCsigValue_single {xs : List Wire} {c : GoVal} (h : decSigFields xs = .ok c) :
    decCsigValue (.arr .imm xs) = .ok c := by
  unfold decCsigValue
  simp [h]

/-! ### the value level: every `CsigOK` value makes the round trip -/

theorem cok_csig {d : Nat} {p u : GoMap} {s : Bytes} (hsne : s ≠ [])
    (hsl : s.length < 18446744073709551616) (hd : d + 2 ≤ maxNested) (hp : ProtOK p)
    (hv : validateHeaderParameters u false = true) (hlen : u.length ≤ maxElems)
    (hiv : ensureIV p u = true) (hm : HMap (d + 2) u)
    (ih : ∀ e ∈ u, CsigOK (d + 2) e.2 → COK (d + 2) e.2) :
    COK d (.csig none p none u (some s)) := by
  obtain ⟨hpe, hpwf, hpd⟩ := prot_ok hp
  have hvn := validate_sorted_cnorm hm hv
  obtain ⟨hue, huwf, hulim, hutag, hud⟩ :=
    ubucket_ok (d + 1) u (hmap_entries hm hv ih) hv hvn hlen hd
  have hiv' := ensureIV_cdecoded hp.1 (fun e he => (hm e he).1) hiv
  have hsgfit : (HW.shortest s.length).fits s.length = true := C02.shortest_fits hsl
  have hz : blen (some s) ≠ 0 := C01.blen_some_ne hsne
  have hdsf : decSigFields [protWire p, umapWire u, sigWire (some s)]
      = .ok (cnorm (.csig none p none u (some s))) := by
    rw [cnorm_csig]
    exact C09.decSigFields_of (sg := sigWire (some s)) rfl hz hpd hud hiv'
  have hw := cwire_csig none none (some s) p u
  refine ⟨⟨?_, ?_, ?_, ?_⟩, hw ▸ decCsigValue_single hdsf, fun _ => ⟨_, hw, hdsf⟩⟩
  all_goals rw [hw]
  · cases s with
    | nil => exact absurd rfl hsne
    | cons x xs =>
      have hiv2 : encCfg.ensureIV p u = true := hiv
      simp only [encodeAny, hiv2, Bool.not_true, Bool.false_eq_true, if_false, hpe, hue,
        Accept.arr3_bytes, sigWire_bytes]
  · have h3 : HW.fits .imm 3 = true := by decide
    simp only [protWire, Wire.wf] at hpwf
    simp [Wire.wf, Wire.wfList, h3, protWire, sigWire, hpwf, huwf, hsgfit]
  · intro t
    have hd1 : d + 1 ≤ maxNested := by omega
    simp [Wire.inLimits, Wire.inLimitsList, hd1, maxElems, hulim t, protWire, sigWire]
  · simp [Wire.hasTag, Wire.hasTagList, hutag, protWire, sigWire]

theorem cok_csigs {d : Nat} {cs : List GoVal} (hlen : cs.length ≤ maxElems)
    (hd : d + 1 ≤ maxNested) (hel : ∀ x ∈ cs, isCsig1 x = true ∧ COK (d + 1) x) :
    COK d (.csigs cs) := by
  have hw := cwire_csigs cs
  refine ⟨.of_arr cwire hw (fun b hb => by simp only [encodeAny, hb])
    (fun x hx => (hel x hx).2.toItemOK) hlen hd, ?_, fun h => by simp [isCsig1] at h⟩
  · rw [hw, cnorm_csigs]
    exact decCsigValue_list (decSigFields_list_err cs (fun x hx => (hel x hx).1))
      (decCsigList_C cs (fun x hx => (hel x hx).2.single (hel x hx).1))

theorem cok_of_csigOK : ∀ (v : GoVal) (d : Nat), CsigOK d v → COK d v := by
  intro v
  induction v using cs_ind with
  | hcsig rp p ru u sg ih =>
    intro d h
    simp only [CsigOK, hPairs_iff] at h
    obtain ⟨rfl, rfl, ⟨s, rfl, hsne, hsl⟩, hd, hp, hv, hlen, hiv, hm⟩ := h
    exact cok_csig hsne hsl hd hp hv hlen hiv hm (fun e he => ih e he (d + 2))
  | hcsigs cs ih =>
    intro d h
    simp only [CsigOK, csigElems_iff] at h
    obtain ⟨hne, hlen, hd, hel⟩ := h
    exact cok_csigs hlen hd (fun x hx => ⟨(hel x hx).1, ih x hx (d + 1) (hel x hx).2⟩)
  | hother v hn =>
    intro d h
    rw [h.isCs] at hn
    cases hn

/-! ### the decoded form re-encodes verbatim -/

theorem headBytes_cons (m : Nat) (w : HW) (n : Nat) : ∃ b bs, headBytes m w n = b :: bs := by
  cases w <;> exact ⟨_, _, rfl⟩

theorem protWire_bytes_cons (p : GoMap) : ∃ b bs, (protWire p).bytes = b :: bs := by
  obtain ⟨b, bs, h⟩ := headBytes_cons 2 (HW.shortest (protContent p).length) (protContent p).length
  exact ⟨b, bs ++ protContent p, by simp only [protWire, Wire.bytes, h, List.cons_append]⟩

theorem umapWire_bytes_cons (u : GoMap) : ∃ b bs, (umapWire u).bytes = b :: bs := by
  obtain ⟨b, bs, h⟩ := headBytes_cons 5 (HW.shortest u.length)
    ((sortEntries u).map centryWire).length
  exact ⟨b, bs ++ Wire.bytesPairs ((sortEntries u).map centryWire),
    by simp only [umapWire, Wire.bytes, h, List.cons_append]⟩

/-- the decoded form re-encodes to the very same bytes (the retained raw buckets are emitted
    verbatim) -/
theorem reencode_cnorm : ∀ (v : GoVal) (d : Nat), CsigOK d v →
    encodeAny encCfg (cnorm v) = some (cwire v).bytes := by
  intro v
  induction v using cs_ind with
  | hcsig rp p ru u sg ih =>
    intro d h
    simp only [CsigOK, hPairs_iff] at h
    obtain ⟨-, -, ⟨s, rfl, hsne, -⟩, -, hp, -, -, hiv, hm⟩ := h
    have hiv' : encCfg.ensureIV ((sortEntries p).map decEntryN) ((sortEntries u).map cnormEntry)
        = true := ensureIV_cdecoded hp.1 (fun e he => (hm e he).1) hiv
    obtain ⟨b1, bs1, h1⟩ := protWire_bytes_cons p
    obtain ⟨b2, bs2, h2⟩ := umapWire_bytes_cons u
    rw [cnorm_csig, cwire_csig, Accept.arr3_bytes, sigWire_bytes, h1, h2]
    cases s with
    | nil => exact absurd rfl hsne
    | cons x xs =>
      simp only [encodeAny, hiv', Bool.not_true, Bool.false_eq_true, if_false, encodeBucket]
  | hcsigs cs ih =>
    intro d h
    simp only [CsigOK, csigElems_iff] at h
    obtain ⟨-, -, -, hel⟩ := h
    rw [cnorm_csigs, cwire_csigs]
    simp only [encodeAny,
      encodeList_map encCfg cnorm cwire cs (fun x hx => ih x hx (d + 1) (hel x hx).2),
      Wire.bytes, List.length_map, encHead]
  | hother v hn =>
    intro d h
    rw [h.isCs] at hn
    cases hn

/-! ### relation to the flat / nested data model -/

theorem HMap.of_nested {d : Nat} {h : GoMap} (hf : NestedMapAt d h) (hu : ∀ e ∈ h, UintOK e.2) :
    HMap d h :=
  fun e he => ⟨(hf e he).1, .inl ⟨(hf e he).2, hu e he⟩⟩

theorem HMap.of_flat (d : Nat) {h : GoMap} (hf : FlatMap h) (hu : ∀ e ∈ h, UintOK e.2) :
    HMap d h :=
  HMap.of_nested (nestedMapAt_of_flat d hf) hu

theorem centryWire_of_rt {d : Nat} {e : GoVal × GoVal} (h : RTVal d e.2) :
    centryWire e = entryWireN e := by
  simp only [centryWire, entryWireN, cwire_other (isCs_rtVal h)]

theorem cnormEntry_of_rt {d : Nat} {e : GoVal × GoVal} (h : RTVal d e.2) :
    cnormEntry e = normEntryN e := by
  simp only [cnormEntry, normEntryN, cnorm_other (isCs_rtVal h)]

/-- on a bucket without countersignature values the item and the normal form are the ones of
    `Deep/NestedBuckets.lean` -/
theorem umapWire_of_nested {d : Nat} {h : GoMap} (hf : NestedMapAt d h) :
    umapWire h = mapWireN h ∧ (sortEntries h).map cnormEntry = (sortEntries h).map normEntryN := by
  have hs := NestedMapAt.sorted hf
  constructor
  · simp only [umapWire, mapWireN]
    congr 1
    exact List.map_congr_left (fun e he => centryWire_of_rt (hs e he).2)
  · exact List.map_congr_left (fun e he => cnormEntry_of_rt (hs e he).2)

end CsigRT

/-! ## the value, the bucket, the message -/

namespace C08
open CsigRT

/-- countersignature values: for `CsigOK d v` the encoder emits one item `w = cwire v` — the
    3-array `[bstr protected, map unprotected, bstr signature]`, resp. an array of those — well
    formed, within the parser's limits at depth `d`, tag-free, and the countersignature branch of
    the unprotected-bucket decoder (`unmarshalAsCountersignature`) returns the normal form
    `cnorm v`. -/
theorem csig_value_roundtrip (d : Nat) (v : GoVal) (hv : CsigOK d v) :
    ∃ w : Wire, encodeAny encCfg v = some w.bytes ∧ w = cwire v ∧ w.wf = true ∧
      (∀ t, w.inLimits t d = true) ∧ w.hasTag = false ∧ decCsigValue w = .ok (cnorm v) := by
  have h := cok_of_csigOK v d hv
  exact ⟨cwire v, h.enc, rfl, h.wf, h.lim, h.noTag, h.dec⟩

/-- `csig_value_roundtrip` spelt out for one countersignature: the item is
    `[bstr P, map U, bstr sig]` where `P`, `U` are exactly the bytes `MarshalProtected` /
    `MarshalUnprotected` emit for its buckets; the decoded value is a `Countersignature` whose
    retained raw bytes are `P` and `U`, whose protected map is the sorted, retyped (`decEntryN`:
    labels `int64`, `alg` as `Algorithm`) form of `p`, whose unprotected map is the sorted
    entry-wise normal form of `u` (countersignatures inside it again in decoded form), and whose
    signature is `sig`. -/
theorem csig_value_roundtrip_single (d : Nat) (p u : GoMap) (sig : Bytes)
    (hv : CsigOK d (.csig none p none u (some sig))) :
    ∃ (P U : Bytes) (wp wu : Wire),
      encodeBucket encCfg true none p = some P ∧ encodeBucket encCfg false none u = some U ∧
      P = wp.bytes ∧ U = wu.bytes ∧ wp = protWire p ∧ wu = umapWire u ∧
      encodeAny encCfg (.csig none p none u (some sig))
        = some (Wire.arr .imm [wp, wu, .bstr (HW.shortest sig.length) sig]).bytes ∧
      (Wire.arr .imm [wp, wu, .bstr (HW.shortest sig.length) sig]).bytes
        = 0x83 :: (P ++ (U ++ encBstr sig)) ∧
      decProtected wp = .ok ((sortEntries p).map decEntryN) ∧
      decUnprot wu = .ok ((sortEntries u).map cnormEntry) ∧
      decCsigValue (.arr .imm [wp, wu, .bstr (HW.shortest sig.length) sig])
        = .ok (.csig (some P) ((sortEntries p).map decEntryN)
                 (some U) ((sortEntries u).map cnormEntry) (some sig)) := by
  obtain ⟨⟨h1, -, -, -⟩, h5, -⟩ := cok_of_csigOK _ d hv
  simp only [CsigOK, hPairs_iff] at hv
  obtain ⟨-, -, -, hd, hp, hvu, hlen, -, hm⟩ := hv
  obtain ⟨hpe, -, hpd⟩ := prot_ok hp
  obtain ⟨hue, -, -, -, hud⟩ := ubucket_ok (d + 1) u
    (hmap_entries hm hvu (fun e _ => cok_of_csigOK e.2 (d + 2))) hvu
    (validate_sorted_cnorm hm hvu) hlen hd
  rw [cwire_csig] at h1 h5
  rw [cnorm_csig] at h5
  refine ⟨_, _, protWire p, umapWire u, hpe, hue, rfl, rfl, rfl, rfl, h1, ?_, hpd, hud, h5⟩
  rw [Accept.arr3_bytes]
  rfl

/-- `csig_value_roundtrip` at top level: the bytes of a `CsigOK 0` value parse (in either decode
    mode) to the item -/
theorem csig_value_roundtrip_top (v : GoVal) (hv : CsigOK 0 v) :
    ∃ w : Wire, encodeAny encCfg v = some w.bytes ∧ (∀ t, parseTop t w.bytes = some w) ∧
      decCsigValue w = .ok (cnorm v) := by
  obtain ⟨w, h1, -, h2, h3, -, h5⟩ := csig_value_roundtrip 0 v hv
  exact ⟨w, h1, fun t => parseTop_complete h2 (h3 t), h5⟩

/-- a validated bucket of the region is encoded (`he` below is not an extra assumption) -/
theorem bucket_encodes_csig (h : GoMap) (hf : HMap 1 h)
    (hv : validateHeaderParameters h false = true) (hlen : h.length ≤ maxElems) :
    encodeBucket encCfg false none h = some (umapWire h).bytes :=
  (ubucket_ok 0 h (hmap_entries hf hv (fun e _ => cok_of_csigOK e.2 1)) hv
    (validate_sorted_cnorm hf hv) hlen (by unfold maxNested; omega)).1

/-- the unprotected bucket with countersignatures (`unprotected_bucket_roundtrip` for a map whose
    entries are flat / nested except that labels 7 and 11 may carry `CsigOK` values):
    `MarshalUnprotected` emits the map item `umapWire h`, which parses in either mode, is
    tag-free, and `UnprotectedHeader.UnmarshalCBOR` accepts it and returns the entry-wise normal
    form (labels normalised, scalar values as the generic decoder types them, countersignatures
    in decoded form `cnorm`), in wire order. -/
theorem unprotected_bucket_roundtrip_csig (h : GoMap) (hf : HMap 1 h)
    (hv : validateHeaderParameters h false = true) (hlen : h.length ≤ maxElems) (b : Bytes)
    (he : encodeBucket encCfg false none h = some b) :
    ∃ (w : Wire) (m : GoMap), b = w.bytes ∧ w = umapWire h ∧ (∀ t, parseTop t b = some w) ∧
      w.hasTag = false ∧ decUnprot w = .ok m ∧
      m = (sortEntries h).map cnormEntry ∧ m.Perm (h.map cnormEntry) := by
  have hent := hmap_entries hf hv (fun e _ => cok_of_csigOK e.2 1)
  exact unprotected_bucket_roundtrip_by cwire cnorm h hf.label (fun e he => (hent e he).toItemOK)
    (fun e he => (hent e he).dec) hv (validate_sorted_cnorm hf hv) hlen b he

/-- `unprotected_bucket_roundtrip_csig` for the caller-facing decoder
    `UnprotectedHeader.UnmarshalCBOR(data)` -/
theorem unprotected_unmarshal_roundtrip_csig (h : GoMap) (hf : HMap 1 h)
    (hv : validateHeaderParameters h false = true) (hlen : h.length ≤ maxElems) (b : Bytes)
    (he : encodeBucket encCfg false none h = some b) :
    Unprotected.unmarshal b = .ok ((sortEntries h).map cnormEntry) := by
  obtain ⟨w, m, hb, hw, hpt, htag, hdec, hm, -⟩ :=
    unprotected_bucket_roundtrip_csig h hf hv hlen b he
  subst hm
  have hb5 : ∃ b0 rest, b = b0 :: rest ∧ b0.toNat / 32 = 5 := by
    rw [hb, hw]
    exact mapWireBy_bytes_cons cwire hlen
  obtain ⟨b0, rest, hbc, hb0⟩ := hb5
  have hpt' := hpt true
  rw [hbc] at hpt'
  rw [hbc]
  simp only [Unprotected.unmarshal, hb0, ne_eq, not_true_eq_false, if_false, hpt', htag,
    Bool.false_eq_true, hdec]

/-- the decoded normal form of a `CsigOK` value re-encodes to the very same bytes: a decoded
    countersignature retains the raw bytes of both buckets and `MarshalCBOR` emits them verbatim
    (encode → decode → encode is the identity on the wire) -/
theorem csig_reencode_fixpoint (d : Nat) (v : GoVal) (hv : CsigOK d v) :
    encodeAny encCfg (cnorm v) = encodeAny encCfg v := by
  rw [reencode_cnorm v d hv, (cok_of_csigOK v d hv).enc]

end C08

/-! ## COSE_Sign1 across the wire, countersignatures in the unprotected bucket -/

namespace CsigRT
open WireClosure

/-- the unprotected bucket whose map item `umapWire u` is met at depth `d`, so that its values,
    countersignatures included, are met at depth `d + 1` -/
theorem unprotWireC {d : Nat} {u : GoMap} (hf : HMap (d + 1) u) (hlen : u.length ≤ maxElems)
    (hd : d + 1 ≤ maxNested) : UnprotWire d u ((sortEntries u).map cnormEntry) :=
  unprotWire_by cwire cnorm hf.label
    (fun hv e he =>
      have h := hmap_entries hf hv (fun e _ => cok_of_csigOK e.2 (d + 1)) e he
      ⟨h.toItemOK, h.dec⟩)
    (validate_sorted_cnorm hf) hlen hd

end CsigRT

namespace C01
open WireClosure CsigRT

/-- COSE_Sign1 end to end (tagged or untagged), countersignatures in the unprotected bucket:
    `sign1_wire_flat` / `sign1_wire_nested` for a message whose unprotected bucket carries, under
    labels 7 and / or 11, `CsigOK` countersignature values (single or list, nested to any depth
    the decoder admits): a message the library signed and encoded is decoded by the library, the
    decoded message verifies under the matching verifier with the same external data, carries the
    signed payload and the signer's signature, and its unprotected map is the entry-wise normal
    form — every countersignature in decoded form (`cnorm`). -/
theorem sign1_wire_csig (tagged : Bool) (m : Sign1Msg) (ext : Option Bytes) (s : Signer)
    (v : Verifier) (b : Bytes) (hm : Matches s v)
    (hrp : m.h.rawP = none) (hru : m.h.rawU = none)
    (hfp : NestedMap m.h.p) (hfu : HMap 2 m.h.u) (hup : ∀ e ∈ m.h.p, UintOK e.2)
    (hlp : m.h.p.length < maxElems) (hlu : m.h.u.length ≤ maxElems)
    (hpl : blen m.payload < 18446744073709551616) (halg : int64Range s.alg)
    (hsl : ∀ t sg, s.sign t = .ok sg → sg.length < 18446744073709551616)
    (hok : (Sign1.sign m ext s).out = .ok ())
    (henc : Sign1.marshal tagged (Sign1.sign m ext s).state = .ok b) :
    ∃ m2, Sign1.unmarshal tagged b = .ok m2 ∧ (Sign1.verify m2 ext v).1 = .ok () ∧
      m2.payload = m.payload ∧ m2.sig = (Sign1.sign m ext s).state.sig ∧
      m2.h.p = (sortEntries (Sign1.sign m ext s).state.h.p).map decEntryN ∧
      m2.h.u = (sortEntries m.h.u).map cnormEntry := by
  obtain ⟨m2, h1, h2, h3, h4, h5, h6, -⟩ :=
    sign1_wire _ tagged m ext s v b hm hrp hru (gatedN hfp hup hlp)
      (unprotWireC hfu hlu (by decide)) hpl halg hsl hok henc
  exact ⟨m2, h1, h2, h3, h4, h5, h6⟩

/-- `sign1_wire_csig`, detached payload -/
theorem sign1_wire_detached_csig (tagged : Bool) (m : Sign1Msg) (ext : Option Bytes)
    (s : Signer) (v : Verifier) (b : Bytes) (hm : Matches s v)
    (hrp : m.h.rawP = none) (hru : m.h.rawU = none)
    (hfp : NestedMap m.h.p) (hfu : HMap 2 m.h.u) (hup : ∀ e ∈ m.h.p, UintOK e.2)
    (hlp : m.h.p.length < maxElems) (hlu : m.h.u.length ≤ maxElems)
    (halg : int64Range s.alg)
    (hsl : ∀ t sg, s.sign t = .ok sg → sg.length < 18446744073709551616)
    (hok : (Sign1.sign m ext s).out = .ok ())
    (henc : Sign1.marshal tagged { (Sign1.sign m ext s).state with payload := none } = .ok b) :
    ∃ m2, Sign1.unmarshal tagged b = .ok m2 ∧
      (Sign1.verify { m2 with payload := m.payload } ext v).1 = .ok () ∧ m2.payload = none ∧
      m2.sig = (Sign1.sign m ext s).state.sig ∧
      m2.h.u = (sortEntries m.h.u).map cnormEntry := by
  obtain ⟨m2, hdec, hpay, hs2, hver, -, hu2, -⟩ :=
    sign1_wire_with _ tagged m ext s v none b hm hrp hru (gatedN hfp hup hlp)
      (unprotWireC hfu hlu (by decide)) (by simp [blen]) halg hsl hok henc
  exact ⟨m2, hdec, hver, hpay, hs2, hu2⟩

end C01

/-! ## non-vacuity -/

-- the examples `exS7`, `exV7`, `exSV7`, `ex_det1`, `exP`, `exU` are those of Deep/Chain.lean,
-- `exF_*` those of Deep/WireClosure.lean (all in namespace `C01`)
namespace CsigExamples
open CsigRT

def cs1 : GoVal := .csig none [(lbl 1, .alg (-7))] none [(lbl 4, .bytes [0x32])] (some [1, 2])
def cs2 : GoVal := .csig none [(lbl 1, .alg (-8))] none [] (some [3])
def exU1 : GoMap := [(lbl 4, .bytes [0x31, 0x31]), (lbl 11, .csigs [cs1, cs2])]
def exU2 : GoMap := [(lbl 7, cs1)]

theorem exP7_enc :
    encodeBucket encCfg true none [(lbl 1, .alg (-7))] = some [0x43, 0xa1, 0x01, 0x26] :=
  (WireClosure.marshalProtected_ok_inv C01.exF_mpP).2

theorem exP8_enc :
    encodeBucket encCfg true none [(lbl 1, .alg (-8))] = some [0x43, 0xa1, 0x01, 0x27] := by
  simp [encodeBucket, encCfg, validateHeaderParameters, validateLoop, normalizeLabel, wrap64,
    checkParam, lbl, encodePairs, encodeAny, encInt, encHead, encBstr, HW.shortest, headBytes,
    sortPairs, concatPairs]

theorem exU4_enc :
    encodeBucket encCfg false none [(lbl 4, .bytes [0x32])] = some [0xa1, 0x04, 0x41, 0x32] := by
  simp [encodeBucket, encCfg, validateHeaderParameters, validateLoop, normalizeLabel, wrap64,
    checkParam, lbl, canBstr, encodePairs, encodeAny, encInt, encHead, encBstr, HW.shortest, headBytes,
    sortPairs, concatPairs, wellformedNoTags, parseTop, fuelFor, parseItem, parsePairs, parseHead,
    maxNested, maxElems]

theorem protOK_alg (a : Int) (P : Bytes) (ha : int64Range a)
    (he : encodeBucket encCfg true none [(lbl 1, .alg a)] = some P)
    (hl : P.length < 18446744073709551616) : ProtOK [(lbl 1, .alg a)] := by
  refine ⟨?_, ?_, ?_, by simp [maxElems], ?_⟩
  · intro e he
    simp only [List.mem_singleton] at he
    subst he
    exact ⟨by simp [lbl, FlatLabel, int64Range], by simpa [RTVal, FlatVal] using ha⟩
  · intro e he
    simp only [List.mem_singleton] at he
    subst he
    simp [UintOK]
  · simp [validateHeaderParameters, validateLoop, normalizeLabel, wrap64, checkParam, lbl]
  · intro b hb
    rw [he] at hb
    cases hb
    exact hl

theorem cs1_ok (d : Nat) (hd : d + 2 ≤ maxNested) : CsigOK d cs1 := by
  simp only [cs1, CsigOK, hPairs_iff]
  refine ⟨trivial, trivial, ⟨_, rfl, by simp, by simp⟩, hd,
    protOK_alg _ _ (by simp [int64Range]) exP7_enc (by simp), ?_, by simp [maxElems], ?_, ?_⟩
  · decide
  · decide
  · intro e he
    simp only [List.mem_singleton] at he
    subst he
    exact ⟨by simp [lbl, FlatLabel, int64Range], .inl ⟨by simp [RTVal, FlatVal], by simp [UintOK]⟩⟩

theorem cs2_ok (d : Nat) (hd : d + 2 ≤ maxNested) : CsigOK d cs2 := by
  simp only [cs2, CsigOK, hPairs_iff]
  refine ⟨trivial, trivial, ⟨_, rfl, by simp, by simp⟩, hd,
    protOK_alg _ _ (by simp [int64Range]) exP8_enc (by simp), ?_, by simp [maxElems], ?_, ?_⟩
  · rfl
  · decide
  · intro e he
    cases he

theorem exU1_hmap (d : Nat) (hd : d + 3 ≤ maxNested) : HMap d exU1 := by
  intro e he
  simp only [exU1, List.mem_cons, List.not_mem_nil, or_false] at he
  rcases he with rfl | rfl
  · exact ⟨by simp [lbl, FlatLabel, int64Range], .inl ⟨by simp [RTVal, FlatVal], by simp [UintOK]⟩⟩
  · refine ⟨by simp [lbl, FlatLabel, int64Range],
      .inr ⟨rfl, ?_⟩⟩
    simp only [CsigOK, csigElems_iff]
    refine ⟨by simp, by simp [maxElems], by omega, ?_⟩
    intro x hx
    simp only [List.mem_cons, List.not_mem_nil, or_false] at hx
    rcases hx with rfl | rfl
    · exact ⟨rfl, cs1_ok (d + 1) (by omega)⟩
    · exact ⟨rfl, cs2_ok (d + 1) (by omega)⟩

theorem exU2_hmap (d : Nat) (hd : d + 2 ≤ maxNested) : HMap d exU2 := by
  intro e he
  simp only [exU2, List.mem_singleton] at he
  subst he
  exact ⟨by simp [lbl, FlatLabel, int64Range],
    .inr ⟨rfl, cs1_ok d hd⟩⟩

theorem exU1_valid : validateHeaderParameters exU1 false = true := by decide

theorem exU2_valid : validateHeaderParameters exU2 false = true := by decide

def cs1Bytes : Bytes := [0x83, 0x43, 0xa1, 0x01, 0x26, 0xa1, 0x04, 0x41, 0x32, 0x42, 0x01, 0x02]
def cs2Bytes : Bytes := [0x83, 0x43, 0xa1, 0x01, 0x27, 0xa0, 0x41, 0x03]

theorem cs1_enc : encodeAny encCfg cs1 = some cs1Bytes := by
  have hiv : encCfg.ensureIV [(lbl 1, .alg (-7))] [(lbl 4, .bytes [0x32])] = true := by decide
  simp only [cs1, encodeAny, hiv, exP7_enc, exU4_enc]
  simp [cs1Bytes, encBstr, encHead, HW.shortest, headBytes]

theorem cs2_enc : encodeAny encCfg cs2 = some cs2Bytes := by
  have hiv : encCfg.ensureIV [(lbl 1, .alg (-8))] [] = true := by decide
  simp only [cs2, encodeAny, hiv, exP8_enc, encodeBucket]
  simp [cs2Bytes, encBstr, encHead, HW.shortest, headBytes]

def exU1Bytes : Bytes := [0xa2, 0x04, 0x42, 0x31, 0x31, 0x0b, 0x82] ++ cs1Bytes ++ cs2Bytes
def exU2Bytes : Bytes := [0xa1, 0x07] ++ cs1Bytes

theorem exU1_enc : encodeBucket encCfg false none exU1 = some exU1Bytes := by
  have hv : encCfg.validate exU1 false = true := exU1_valid
  have hs : ∀ v1 v2 : Bytes, sortPairs [([4], v1), ([11], v2)] = [([4], v1), ([11], v2)] :=
    fun _ _ => List.mergeSort_of_pairwise (by simp; decide)
  simp only [exU1, lbl] at hv
  simp [exU1, encodeBucket, hv, encodePairs, encodeAny, encodeList, cs1_enc, cs2_enc, lbl, encInt,
    encBstr, encHead, HW.shortest, headBytes, hs, concatPairs, exU1Bytes, cs1Bytes, cs2Bytes,
    wellformedNoTags, parseTop, fuelFor, parseItem, parseItems, parsePairs, parseHead, maxNested,
    maxElems]

theorem exU2_enc : encodeBucket encCfg false none exU2 = some exU2Bytes := by
  have hv : encCfg.validate exU2 false = true := exU2_valid
  simp only [exU2, lbl] at hv
  simp [exU2, encodeBucket, hv, encodePairs, encodeAny, cs1_enc, lbl, encInt,
    encHead, HW.shortest, headBytes, sortPairs, concatPairs, exU2Bytes, cs1Bytes,
    wellformedNoTags, parseTop, fuelFor, parseItem, parseItems, parsePairs, parseHead, maxNested,
    maxElems]

theorem protWire_bytes_of {p : GoMap} {P : Bytes} (hp : ProtOK p)
    (he : encodeBucket encCfg true none p = some P) : (protWire p).bytes = P := by
  have := (prot_ok hp).1
  rw [he] at this
  exact (Option.some.inj this).symm

theorem umapWire_bytes_of (d : Nat) {u : GoMap} {U : Bytes} (hm : HMap (d + 1) u)
    (hv : validateHeaderParameters u false = true) (hlen : u.length ≤ maxElems)
    (hd : d + 1 ≤ maxNested) (he : encodeBucket encCfg false none u = some U) :
    (umapWire u).bytes = U := by
  have := (ubucket_ok d u (hmap_entries hm hv (fun e _ => cok_of_csigOK e.2 (d + 1))) hv
    (validate_sorted_cnorm hm hv) hlen hd).1
  rw [he] at this
  exact (Option.some.inj this).symm

def cs1N : GoVal :=
  .csig (some [0x43, 0xa1, 0x01, 0x26]) [(lbl 1, .alg (-7))]
    (some [0xa1, 0x04, 0x41, 0x32]) [(lbl 4, .bytes [0x32])] (some [1, 2])
def cs2N : GoVal :=
  .csig (some [0x43, 0xa1, 0x01, 0x27]) [(lbl 1, .alg (-8))] (some [0xa0]) [] (some [3])

theorem sortEntries_one (e : GoVal × GoVal) : sortEntries [e] = [e] := by simp [sortEntries]

theorem normVal_lbl (n : Int) : normVal (lbl n) = lbl n := rfl

theorem cnorm_bytes (b : Bytes) : cnorm (.bytes b) = .bytes b := rfl

theorem decEntryN_alg (a : Int) : decEntryN (lbl 1, .alg a) = (lbl 1, .alg a) := rfl

theorem cs1_norm : cnorm cs1 = cs1N := by
  have hok := cs1_ok 0 (by simp [maxNested])
  simp only [cs1, CsigOK, hPairs_iff] at hok
  obtain ⟨-, -, -, -, hp, hv, hlen, -, hm⟩ := hok
  rw [cs1, cnorm_csig, protWire_bytes_of hp exP7_enc,
    umapWire_bytes_of 1 hm hv hlen (by simp [maxNested]) exU4_enc, sortEntries_one,
    sortEntries_one]
  simp [cs1N, decEntryN_alg, cnormEntry, cnorm_bytes, normVal_lbl]

theorem cs2_norm : cnorm cs2 = cs2N := by
  have hok := cs2_ok 0 (by simp [maxNested])
  simp only [cs2, CsigOK, hPairs_iff] at hok
  obtain ⟨-, -, -, -, hp, -⟩ := hok
  rw [cs2, cnorm_csig, protWire_bytes_of hp exP8_enc, umapWire_nil_bytes, sortEntries_one]
  simp [cs2N, decEntryN_alg, sortEntries]

theorem exU1_sorted : sortEntries exU1 = exU1 :=
  sortEntries_of_sorted (by simp [exU1, EntryLe]; decide)

theorem exU1_norm : (sortEntries exU1).map cnormEntry
    = [(lbl 4, .bytes [0x31, 0x31]), (lbl 11, .csigs [cs1N, cs2N])] := by
  rw [exU1_sorted]
  simp [exU1, cnormEntry, cnorm_csigs, cs1_norm, cs2_norm, cnorm_bytes, normVal_lbl]

theorem exU2_norm : (sortEntries exU2).map cnormEntry = [(lbl 7, cs1N)] := by
  rw [exU2, sortEntries_one]
  simp [cnormEntry, cs1_norm, normVal_lbl]

/-- the emitted bytes, spelt out -/
example : exU1Bytes =
    [0xa2, 0x04, 0x42, 0x31, 0x31, 0x0b, 0x82,
     0x83, 0x43, 0xa1, 0x01, 0x26, 0xa1, 0x04, 0x41, 0x32, 0x42, 0x01, 0x02,
     0x83, 0x43, 0xa1, 0x01, 0x27, 0xa0, 0x41, 0x03] := rfl

example : exU2Bytes =
    [0xa1, 0x07, 0x83, 0x43, 0xa1, 0x01, 0x26, 0xa1, 0x04, 0x41, 0x32, 0x42, 0x01, 0x02] := rfl

/-- non-vacuity of `C08.unprotected_bucket_roundtrip_csig`, `{4: h'3131', 11: [cs1, cs2]}` -/
example : encodeBucket encCfg false none exU1 = some exU1Bytes ∧
    (∃ w, exU1Bytes = w.bytes ∧ (∀ t, parseTop t exU1Bytes = some w) ∧ w.hasTag = false ∧
      decUnprot w = .ok [(lbl 4, .bytes [0x31, 0x31]), (lbl 11, .csigs [cs1N, cs2N])]) ∧
    Unprotected.unmarshal exU1Bytes
      = .ok [(lbl 4, .bytes [0x31, 0x31]), (lbl 11, .csigs [cs1N, cs2N])] := by
  have hm := exU1_hmap 1 (by simp [maxNested])
  have hl : exU1.length ≤ maxElems := by simp [exU1, maxElems]
  refine ⟨exU1_enc, ?_, ?_⟩
  · obtain ⟨w, m, hb, -, hpt, htag, hdec, hmm, -⟩ :=
      C08.unprotected_bucket_roundtrip_csig exU1 hm exU1_valid hl _ exU1_enc
    rw [hmm, exU1_norm] at hdec
    exact ⟨w, hb, hpt, htag, hdec⟩
  · rw [C08.unprotected_unmarshal_roundtrip_csig exU1 hm exU1_valid hl _ exU1_enc, exU1_norm]

/-- … and `{7: cs1}` -/
example : encodeBucket encCfg false none exU2 = some exU2Bytes ∧
    (∃ w, exU2Bytes = w.bytes ∧ (∀ t, parseTop t exU2Bytes = some w) ∧ w.hasTag = false ∧
      decUnprot w = .ok [(lbl 7, cs1N)]) ∧
    Unprotected.unmarshal exU2Bytes = .ok [(lbl 7, cs1N)] := by
  have hm := exU2_hmap 1 (by simp [maxNested])
  have hl : exU2.length ≤ maxElems := by simp [exU2, maxElems]
  refine ⟨exU2_enc, ?_, ?_⟩
  · obtain ⟨w, m, hb, -, hpt, htag, hdec, hmm, -⟩ :=
      C08.unprotected_bucket_roundtrip_csig exU2 hm exU2_valid hl _ exU2_enc
    rw [hmm, exU2_norm] at hdec
    exact ⟨w, hb, hpt, htag, hdec⟩
  · rw [C08.unprotected_unmarshal_roundtrip_csig exU2 hm exU2_valid hl _ exU2_enc, exU2_norm]

/-- the value level: `cs1` alone -/
example : encodeAny encCfg cs1 = some cs1Bytes ∧
    ∃ w, cs1Bytes = w.bytes ∧ (∀ t, parseTop t cs1Bytes = some w) ∧ decCsigValue w = .ok cs1N := by
  obtain ⟨w, h1, h2, h3⟩ := C08.csig_value_roundtrip_top cs1 (cs1_ok 0 (by simp [maxNested]))
  rw [cs1_enc] at h1
  have hb := Option.some.inj h1
  rw [cs1_norm] at h3
  exact ⟨cs1_enc, w, hb, fun t => by rw [hb]; exact h2 t, h3⟩

/-! ### depth 2: a countersignature on a countersignature -/

/-- `Countersignature{protected {1: ES256}, unprotected {7: cs1}, signature h'09'}` -/
def cs3 : GoVal := .csig none [(lbl 1, .alg (-7))] none exU2 (some [9])

theorem cs3_ok (d : Nat) (hd : d + 4 ≤ maxNested) : CsigOK d cs3 := by
  simp only [cs3, CsigOK, hPairs_iff]
  refine ⟨trivial, trivial, ⟨_, rfl, by simp, by simp⟩, by omega,
    protOK_alg _ _ (by simp [int64Range]) exP7_enc (by simp), exU2_valid,
    by simp [exU2, maxElems], by decide, exU2_hmap (d + 2) (by omega)⟩

def cs3N : GoVal :=
  .csig (some [0x43, 0xa1, 0x01, 0x26]) [(lbl 1, .alg (-7))] (some exU2Bytes) [(lbl 7, cs1N)]
    (some [9])

theorem cs3_norm : cnorm cs3 = cs3N := by
  have hok := cs3_ok 0 (by simp [maxNested])
  simp only [cs3, CsigOK, hPairs_iff] at hok
  obtain ⟨-, -, -, -, hp, hv, hlen, -, hm⟩ := hok
  rw [cs3, cnorm_csig, protWire_bytes_of hp exP7_enc,
    umapWire_bytes_of 1 hm hv hlen (by simp [maxNested]) exU2_enc, sortEntries_one, exU2_norm]
  simp [cs3N, decEntryN_alg]

/-- the nested countersignature makes the round trip, and what comes back is spelt out: the inner
    countersignature is again in decoded form, with its own raw buckets retained -/
example : ∃ w, encodeAny encCfg cs3 = some w.bytes ∧
    w.bytes = 0x83 :: ([0x43, 0xa1, 0x01, 0x26] ++ (exU2Bytes ++ [0x41, 0x09])) ∧
    (∀ t, parseTop t w.bytes = some w) ∧ decCsigValue w = .ok cs3N ∧
    encodeAny encCfg cs3N = some w.bytes := by
  have hok := cs3_ok 0 (by simp [maxNested])
  obtain ⟨P, U, wp, wu, hP, hU, -, -, -, -, henc, hb, -, -, -⟩ :=
    C08.csig_value_roundtrip_single 0 _ _ _ hok
  obtain ⟨w, h1, h2, h3⟩ := C08.csig_value_roundtrip_top cs3 hok
  have hre := C08.csig_reencode_fixpoint 0 cs3 hok
  rw [cs3_norm] at h3 hre
  rw [exP7_enc] at hP
  rw [exU2_enc] at hU
  cases hP
  cases hU
  refine ⟨w, h1, ?_, h2, h3, hre.trans h1⟩
  have : some w.bytes = some (0x83 :: ([0x43, 0xa1, 0x01, 0x26] ++ (exU2Bytes ++ encBstr [9]))) := by
    rw [← h1, ← hb]; exact henc
  exact Option.some.inj this

/-! ### why the label clause is needed -/

/-- why `isCsigLabel e.1` is part of the region: a `*Countersignature` stored under any other label
    (here 99) is validated and encoded all the same, but the decoder only enters its
    countersignature branch for labels 7 and 11 — the value comes back as a generic array -/
theorem unprotected_bucket_roundtrip_csig_needs_label :
    validateHeaderParameters [(lbl 99, cs2)] false = true ∧
    encodeBucket encCfg false none [(lbl 99, cs2)]
      = some [0xa1, 0x18, 0x63, 0x83, 0x43, 0xa1, 0x01, 0x27, 0xa0, 0x41, 0x03] ∧
    Unprotected.unmarshal [0xa1, 0x18, 0x63, 0x83, 0x43, 0xa1, 0x01, 0x27, 0xa0, 0x41, 0x03]
      = .ok [(lbl 99, .arr [.bytes [0xa1, 0x01, 0x27], .map [], .bytes [3]])] := by
  refine ⟨validate_lbl99 _ _, ?_, ?_⟩
  · rw [encodeBucket_lbl99, cs2_enc]
    simp [cs2Bytes, wellformedNoTags, parseTop, fuelFor, parseItem, parseItems, parsePairs,
      parseHead, maxNested, maxElems]
  · have hp : parseTop true [0xa1, 0x18, 0x63, 0x83, 0x43, 0xa1, 0x01, 0x27, 0xa0, 0x41, 0x03]
        = some (.map .imm [(.uint .w1 99,
          .arr .imm [.bstr .imm [0xa1, 0x01, 0x27], .map .imm [], .bstr .imm [3]])]) := by
      simp [parseTop, parseItem, parsePairs, parseItems, fuelFor, parseHead, maxNested, maxElems]
    have hu : headerLabelsUntagged (Wire.map .imm [(.uint .w1 99,
        .arr .imm [.bstr .imm [0xa1, 0x01, 0x27], .map .imm [], .bstr .imm [3]])]).bytes = true := by
      decide
    unfold Unprotected.unmarshal
    simp only [hp]
    unfold decUnprot
    simp only [hu]
    rfl

end CsigExamples

namespace C01
open CsigRT CsigExamples

/-- COSE_Sign1 with protected `{1: ES256}`, unprotected `{4: h'3131', 11: [cs1, cs2]}` -/
def exCsm : Sign1Msg :=
  { h := { p := [(lbl 1, .alg (-7))], u := exU1 }, payload := some [1, 2, 3] }

theorem exCsm_mpP : marshalProtected exCsm.h = .ok [0x43, 0xa1, 0x01, 0x26] := exF_mpP

theorem exCsm_mpU : marshalUnprotected exCsm.h = .ok exU1Bytes := by
  have hm : GoVal.modelledPairs exU1 = true := by
    simp [exU1, cs1, cs2, GoVal.modelledPairs, GoVal.modelled, GoVal.modelledList, lbl]
  simp [marshalUnprotected, exCsm, hm, exU1_enc]

theorem exCsm_sign : (Sign1.sign exCsm none exS7).out = .ok () ∧
    (Sign1.sign exCsm none exS7).state =
      { h := exCsm.h, payload := some [1, 2, 3], sig := some [7] } :=
  sign1_sign_of (p' := exCsm.h.p) rfl rfl rfl exCsm_mpP ex_det2 (fun _ => rfl) (by decide)

theorem exCsm_marshal : Sign1.marshal true (Sign1.sign exCsm none exS7).state
    = .ok (0xd2 :: 0x84 :: ([0x43, 0xa1, 0x01, 0x26] ++ (exU1Bytes ++ [0x43, 1, 2, 3, 0x41, 7]))) := by
  rw [exCsm_sign.2]
  exact WireClosure.sign1_marshal_of
    (m := { h := exCsm.h, payload := some [1, 2, 3], sig := some [7] }) (by decide) (by decide)
    exCsm_mpP exCsm_mpU

/-- non-vacuity of `sign1_wire_csig` -/
example : ∃ m2,
    Sign1.unmarshal true
      (0xd2 :: 0x84 :: ([0x43, 0xa1, 0x01, 0x26] ++ (exU1Bytes ++ [0x43, 1, 2, 3, 0x41, 7])))
      = .ok m2 ∧
    (Sign1.verify m2 none exV7).1 = .ok () ∧ m2.payload = some [1, 2, 3] ∧ m2.sig = some [7] ∧
    m2.h.u = [(lbl 4, .bytes [0x31, 0x31]), (lbl 11, .csigs [cs1N, cs2N])] := by
  obtain ⟨m2, hdec, hver, hpay, hsig, -, hu2⟩ :=
    sign1_wire_csig true exCsm none exS7 exV7 _ exSV7 rfl rfl
      (by
        intro e he
        simp only [exCsm, List.mem_singleton] at he
        subst he
        simp [lbl, FlatLabel, RTVal, FlatVal, int64Range])
      (exU1_hmap 2 (by simp [maxNested]))
      (by
        intro e he
        simp only [exCsm, List.mem_singleton] at he
        subst he
        simp [UintOK])
      (by simp [exCsm, maxElems]) (by simp [exCsm, exU1, maxElems]) (by simp [exCsm, blen])
      exS7_go.1 exS7_go.2 exCsm_sign.1 exCsm_marshal
  refine ⟨m2, hdec, hver, hpay, by rw [hsig, exCsm_sign.2], ?_⟩
  rw [hu2]
  exact exU1_norm

end C01
