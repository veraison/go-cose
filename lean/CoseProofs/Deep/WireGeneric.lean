/-
  Deep/WireGeneric — "sign → marshal → unmarshal → verify succeeds, and the decoded headers are the
  normal form", proved once for every data model of header maps.  The file has two halves,
  namespace `WireClosure` (COSE_Sign1, hash envelope) and namespace `SignWireClosure`
  (COSE_Signature, countersignature, COSE_Sign); `Deep/WireClosure` and `Deep/SignWireClosure`
  continue the two namespaces with the instances for scalar header values.

  The message-level argument never looks inside a header map.  All it uses of the protected
  bucket `p` is `ProtWire p p'` (what the encoder emits, and `deterministicBinaryString` accepted
  when the message was signed, is one well-formed byte-string item which
  `ProtectedHeader.UnmarshalCBOR` reads back as `p'`, with `Algorithm()` and the IV labels
  preserved), and of the unprotected bucket `u` whose map item is met at nesting depth `d` it uses
  `UnprotWire d u u'`.  `Deep/WireClosure` (scalar values), `Deep/NestedBuckets` (arrays and maps)
  and `Deep/CsigRoundTrip` (countersignature values) construct the two facts for their data
  models; the theorems here turn them into the wire round trip of COSE_Sign1 and the hash
  envelope (namespace `WireClosure`), of a COSE_Signature entry, a stand-alone countersignature
  and COSE_Sign with any number of signer slots (namespace `SignWireClosure`).
  The decoded maps appear as functions `decP decU : GoMap → GoMap` of the encoded ones, because a
  COSE_Sign has one pair of buckets per signer slot.
-/
import CoseModel.Messages
import CoseModel.HashEnvelope
import CoseProofs.Deep.Chain
import CoseProofs.Deep.RoundTrip
import CoseProofs.Deep.Accept
import CoseProofs.Deep.Verifies
import CoseProofs.Deep.SignMsg
import CoseProofs.Deep.Keys
open CoseModel CoseSpec RoundTrip

namespace WireClosure

/-! ### inversion of the encoder -/

theorem marshalProtected_ok_inv {h : Hdrs} {P : Bytes} (hP : marshalProtected h = .ok P) :
    GoVal.modelledPairs h.p = true ∧ encodeBucket encCfg true h.rawP h.p = some P := by
  unfold marshalProtected at hP
  split at hP
  next => cases hP
  next hm =>
    split at hP
    next b hb =>
      cases hP
      exact ⟨by simpa using hm, hb⟩
    next => cases hP

theorem marshalUnprotected_ok_inv {h : Hdrs} {U : Bytes} (hU : marshalUnprotected h = .ok U) :
    GoVal.modelledPairs h.u = true ∧ encodeBucket encCfg false h.rawU h.u = some U := by
  unfold marshalUnprotected at hU
  split at hU
  next => cases hU
  next hm =>
    split at hU
    next b hb =>
      cases hU
      exact ⟨by simpa using hm, hb⟩
    next => cases hU

/-- the encoder validates every bucket it encodes from the map -/
theorem validate_of_encodeBucket {g : GoMap} {prot : Bool} {b : Bytes}
    (he : encodeBucket encCfg prot none g = some b) : validateHeaderParameters g prot = true := by
  cases g with
  | nil => rfl
  | cons e es =>
    simp only [encodeBucket] at he
    split at he
    next => cases he
    next hv => simpa [encCfg] using hv

theorem hdrs_marshal_iv {h : Hdrs} {x : Bytes × Bytes} (he : h.marshal = .ok x) :
    ensureIV h.p h.u = true := by
  unfold Hdrs.marshal at he
  simpa using (Out.guard_eq_ok.mp he).1

theorem ensureIV_of_marshal {tagged : Bool} {m : Sign1Msg} {b : Bytes}
    (he : Sign1.marshal tagged m = .ok b) : ensureIV m.h.p m.h.u = true := by
  obtain ⟨c, hc, -⟩ := Out.bind_eq_ok.mp he
  unfold Sign1.content at hc
  obtain ⟨x, hh, -⟩ := Out.bind_eq_ok.mp (Out.guard_eq_ok.mp hc).2
  exact hdrs_marshal_iv hh

/-- the converse of `C01.sign1_marshal_ok_inv`: what `Sign1Message.MarshalCBOR` emits for a message
    that holds a signature and whose header layer is encoded -/
theorem sign1_marshal_of {tagged : Bool} {m : Sign1Msg} {P U : Bytes} (hz : blen m.sig ≠ 0)
    (hiv : ensureIV m.h.p m.h.u = true) (hP : marshalProtected m.h = .ok P)
    (hU : marshalUnprotected m.h = .ok U) :
    Sign1.marshal tagged m = .ok (C09.pre tagged ++
      0x84 :: (P ++ (U ++ (optBytesEnc m.payload ++ encBstr (m.sig.getD []))))) := by
  cases tagged <;>
    simp [Sign1.marshal, Sign1.content, Hdrs.marshal, hz, hiv, hP, hU, bind, Out.bind, C09.pre]

/-! ### a header bucket across the wire -/

/-- the protected bucket `p` comes back from the wire as `p'` -/
structure ProtWire (p p' : GoMap) : Prop where
  /-- what `MarshalProtected` emits (and `detBstr` accepted when the message was signed) is one
      well-formed byte-string item which `ProtectedHeader.UnmarshalCBOR` reads back as `p'`;
      `Algorithm()` of `p'` is the integer stored under label 1 of `p` -/
  item : ∀ {P P' : Bytes}, encodeBucket encCfg true none p = some P → detBstr P = .ok P' →
    ∃ (hw : HW) (content : Bytes), P = (Wire.bstr hw content).bytes ∧
      (Wire.bstr hw content).wf = true ∧ decProtected (.bstr hw content) = .ok p' ∧
      algorithmOf p' = algSpec p
  hasLabel : ∀ k : Int, hasLabel p' (lbl k) = hasLabel p (lbl k)

/-- the unprotected bucket `u`, its map item met at nesting depth `d`, comes back from the wire
    as `u'` -/
structure UnprotWire (d : Nat) (u u' : GoMap) : Prop where
  /-- what `MarshalUnprotected` emits is one well-formed map item, within the parser's limits at
      depth `d` (hence at any smaller depth: `Wire.inLimits_anti`), which
      `UnprotectedHeader.UnmarshalCBOR` reads back as `u'` -/
  item : ∀ {U : Bytes}, encodeBucket encCfg false none u = some U →
    ∃ uw : Wire, U = uw.bytes ∧ uw.wf = true ∧ uw.inLimits false d = true ∧
      decUnprot uw = .ok u'
  hasLabel : ∀ k : Int, hasLabel u' (lbl k) = hasLabel u (lbl k)

/-- how the bucket round trips give `ProtWire.item`: the emitted bytes are a byte string with the
    shortest head whose content the decoder accepts; that the content is shorter than 2^64 (so
    the item is well formed) is read off `detBstr` having accepted the bytes -/
theorem protItem_of_roundtrip {P P' content : Bytes} {hw : HW} {p' : GoMap}
    (hb : P = headBytes 2 hw content.length ++ content) (hhw : hw = HW.shortest content.length)
    (hdc : decProtectedContent content = .ok p') (hd : detBstr P = .ok P') :
    ∃ (hw : HW) (content : Bytes), P = (Wire.bstr hw content).bytes ∧
      (Wire.bstr hw content).wf = true ∧ decProtected (.bstr hw content) = .ok p' := by
  obtain ⟨c, ⟨w, hfc, hPeq⟩, -, -⟩ := C02.detBstr_ok_inv P P' hd
  have hPenc : P = encBstr content := by rw [hb, hhw]; rfl
  have hcc : c = content := C01.bstr_eq_encBstr hfc (hPeq.symm.trans hPenc)
  subst hcc
  have hfit : hw.fits c.length = true := by
    rw [hhw]; exact C02.shortest_fits (HW.fits_lt hfc)
  exact ⟨hw, c, hb, by simpa [Wire.wf] using hfit, hdc⟩

/-- `hasLabel` at an integer label on a decoded bucket (any entry-wise map that keeps the
    normalised labels, entries in sorted order) -/
theorem hasLabel_sorted_map {g : GoMap} (f : GoVal × GoVal → GoVal × GoVal)
    (hfn : ∀ e ∈ g, normalizeLabel (f e).1 = normalizeLabel e.1) (k : Int) :
    hasLabel ((sortEntries g).map f) (lbl k) = hasLabel g (lbl k) := by
  have hn : normalizeLabel (lbl k) = some (.int .i64 (wrap64 k)) := rfl
  rw [Bool.eq_iff_iff, C13.hasLabel_iff_mem _ _ _ hn, C13.hasLabel_iff_mem _ _ _ hn]
  constructor
  · rintro ⟨e', he', hne⟩
    obtain ⟨e, he, rfl⟩ := List.mem_map.mp he'
    have heg : e ∈ g := (sortEntries_perm g).mem_iff.mp he
    exact ⟨e, heg, by rw [← hfn e heg]; exact hne⟩
  · rintro ⟨e, he, hne⟩
    exact ⟨f e, List.mem_map_of_mem ((sortEntries_perm g).mem_iff.mpr he),
      by rw [hfn e he]; exact hne⟩

/-- `ProtWire` from what is known of the encoding of each value (`Bucket` section of
    `Deep/RoundTrip`) -/
theorem protWire_by (wv : GoVal → Wire) (nv : GoVal → GoVal) {p : GoMap}
    (hl : ∀ e ∈ p, FlatLabel e.1) (hent : ∀ e ∈ p, ItemOK wv encCfg 1 e.2)
    (hdec : ∀ e ∈ p, decodeAny (wv e.2) = .ok (nv e.2))
    (hvn : validateHeaderParameters p true = true →
      validateHeaderParameters ((sortEntries p).map (normEntryBy nv)) true = true)
    (halg : LabelsOK p → algorithmOf ((sortEntries p).map (decEntryBy nv)) = algSpec p)
    (hlen : p.length ≤ maxElems) : ProtWire p ((sortEntries p).map (decEntryBy nv)) where
  item he hd := by
    have hv := validate_of_encodeBucket he
    obtain ⟨hw, content, m, hb, hhw, -, hdc, rfl, -, ha⟩ :=
      protected_bucket_roundtrip_by wv nv p hl hent hdec hv (hvn hv)
        (halg (C13.validate_labels p true hv)) hlen _ he
    obtain ⟨hw, c, h1, h2, h3⟩ := protItem_of_roundtrip hb hhw hdc hd
    exact ⟨hw, c, h1, h2, h3, ha⟩
  hasLabel := hasLabel_sorted_map _ (fun e he => normalizeLabel_decEntryBy nv (hl e he))

/-- `UnprotWire` likewise; the map item is met at depth `d`, its values at depth `d + 1`.  What is
    known of the entries may depend on the bucket having been validated, which the encoder did. -/
theorem unprotWire_by (wv : GoVal → Wire) (nv : GoVal → GoVal) {d : Nat} {u : GoMap}
    (hl : ∀ e ∈ u, FlatLabel e.1)
    (hent : validateHeaderParameters u false = true → ∀ e ∈ u, ItemOK wv encCfg (d + 1) e.2 ∧
      (if isCsigLabel (normVal e.1) then decCsigValue (wv e.2) else decodeAny (wv e.2))
        = .ok (nv e.2))
    (hvn : validateHeaderParameters u false = true →
      validateHeaderParameters ((sortEntries u).map (normEntryBy nv)) false = true)
    (hlen : u.length ≤ maxElems) (hd : d + 1 ≤ maxNested) :
    UnprotWire d u ((sortEntries u).map (normEntryBy nv)) where
  item he := by
    have hv := validate_of_encodeBucket he
    obtain ⟨hue, hwf, hlim, -, hdec⟩ := unprotBucket_by wv nv hl (fun e h => (hent hv e h).1)
      (fun e h => (hent hv e h).2) hv (hvn hv) hlen hd
    rw [hue] at he
    cases he
    exact ⟨_, rfl, hwf, hlim false, hdec⟩
  hasLabel := hasLabel_sorted_map _ (fun e he => normalizeLabel_normVal (hl e he))

/-- the IV / Partial IV cross check survives the round trip -/
theorem ensureIV_decoded {p p' u u' : GoMap}
    (hp : ∀ k : Int, hasLabel p' (lbl k) = hasLabel p (lbl k))
    (hu : ∀ k : Int, hasLabel u' (lbl k) = hasLabel u (lbl k))
    (h : ensureIV p u = true) : ensureIV p' u' = true := by
  unfold ensureIV at h ⊢
  rw [hp, hp, hu, hu]
  exact h

/-- one header layer (COSE_Sign1, body of a COSE_Sign, one signer entry, a countersignature)
    with no retained raw bytes: the two byte strings the encoder emits are two wire items the
    bucket decoders accept, the IV cross check passes on the decoded maps, and a layer decoded
    from these items re-emits the protected bytes verbatim -/
theorem layer_items {d : Nat} {p p' u u' : GoMap} (hp : ProtWire p p') (hu : UnprotWire d u u')
    {P P' U : Bytes} (hP : marshalProtected { p := p, u := u } = .ok P)
    (hd : detBstr P = .ok P') (hU : marshalUnprotected { p := p, u := u } = .ok U)
    (hiv : ensureIV p u = true) :
    ∃ (hw : HW) (content : Bytes) (uw : Wire), P = (Wire.bstr hw content).bytes ∧ U = uw.bytes ∧
      (Wire.bstr hw content).wf = true ∧ uw.wf = true ∧ uw.inLimits false d = true ∧
      decProtected (.bstr hw content) = .ok p' ∧ decUnprot uw = .ok u' ∧
      ensureIV p' u' = true ∧ algorithmOf p' = algSpec p ∧
      marshalProtected (Hdrs.mk (some (Wire.bstr hw content).bytes) p' (some uw.bytes) u')
        = .ok P := by
  obtain ⟨hw, content, hPb, hpwf, hdp, halg⟩ := hp.item (marshalProtected_ok_inv hP).2 hd
  obtain ⟨uw, hUb, huwf, hulim, hdu⟩ := hu.item (marshalUnprotected_ok_inv hU).2
  exact ⟨hw, content, uw, hPb, hUb, hpwf, huwf, hulim, hdp, hdu,
    ensureIV_decoded hp.hasLabel hu.hasLabel hiv, halg,
    (C09.marshalProtected_raw (p := .bstr hw content) rfl
      (C01.decProtected_modelled hdp)).trans (by rw [hPb])⟩

/-! ### the signing gate -/

theorem length_set_le (h : GoMap) (k v : GoVal) : (h.set k v).length ≤ h.length + 1 := by
  unfold GoMap.set
  split <;> simp

theorem forall_mem_set {L V : GoVal → Prop} {h : GoMap} {k v : GoVal}
    (hh : ∀ e ∈ h, L e.1 ∧ V e.2) (hk : L k) (hv : V v) : ∀ e ∈ h.set k v, L e.1 ∧ V e.2 := by
  unfold GoMap.set
  split
  · intro e he
    obtain ⟨e0, he0, rfl⟩ := List.mem_map.mp he
    split
    · exact ⟨(hh e0 he0).1, hv⟩
    · exact hh e0 he0
  · intro e he
    rcases List.mem_append.mp he with he | he
    · exact hh e he
    · simp only [List.mem_singleton] at he; subst he; exact ⟨hk, hv⟩

theorem uintOK_set {h : GoMap} {k v : GoVal} (hu : ∀ e ∈ h, UintOK e.2) (hv : UintOK v) :
    ∀ e ∈ h.set k v, UintOK e.2 :=
  fun e he => (forall_mem_set (L := fun _ => True) (fun e he => ⟨trivial, hu e he⟩) trivial hv
    e he).2

/-- the signing gate (no raw protected bytes retained) hands on the caller's protected map or that
    map with `int64(1): Algorithm` set: a class of maps closed under that assignment is closed
    under the gate -/
theorem sign_gate_keeps {C : GoMap → Prop} {p p1 : GoMap} {alg : Int} {ext : Option Bytes}
    (hg : ensureSigningAlgorithm none p alg ext = .ok p1) (hC : C p)
    (hset : C (p.set (lbl 1) (.alg alg))) : C p1 := by
  rcases C04.sign_gate_cases none p p1 alg ext hg with ⟨-, rfl⟩ | ⟨-, -, rfl⟩ | ⟨-, -, -, rfl⟩
  · exact hC
  · exact hC
  · exact hset

theorem sign_gate_length {p p1 : GoMap} {alg : Int} {ext : Option Bytes}
    (hg : ensureSigningAlgorithm none p alg ext = .ok p1) : p1.length ≤ p.length + 1 :=
  sign_gate_keeps (C := fun g => g.length ≤ p.length + 1) hg (Nat.le_succ _) (length_set_le _ _ _)

/-- what `Algorithm()` finds in a map `pd` that stems from the caller's protected map `p`: the
    signer's algorithm — unless `p` named none and external data is supplied: then go-cose signs
    without inserting one, and `pd` names none either -/
def AlgCases (p pd : GoMap) (alg : Int) (ext : Option Bytes) : Prop :=
  algorithmOf pd = .found alg ∨
    (algorithmOf p = .notFound ∧ (ext.getD []).length > 0 ∧ algorithmOf pd = .notFound)

theorem sign_gate_alg {p p1 : GoMap} {alg : Int} {ext : Option Bytes}
    (hg : ensureSigningAlgorithm none p alg ext = .ok p1) : AlgCases p p1 alg ext := by
  rcases C04.sign_gate_cases none p p1 alg ext hg with ⟨hfd, rfl⟩ | ⟨hn, he, rfl⟩ | ⟨hn, _, _, rfl⟩
  · exact .inl hfd
  · exact .inr ⟨hn, he, hn⟩
  · exact .inl (C01.algorithmOf_set p alg hn)

/-- `Algorithm()` on a decoded protected map `pd` is `algSpec` of the map `p1` that was encoded,
    which is what `Algorithm()` finds in the map the signing gate produced -/
theorem algorithmOf_decoded {p p1 pd : GoMap} {alg : Int} {ext : Option Bytes}
    (hg : ensureSigningAlgorithm none p alg ext = .ok p1) (hd : algorithmOf pd = algSpec p1) :
    algorithmOf pd = algorithmOf p1 := by
  have hgv := C01.gate_after_sign _ _ _ _ _ hg
  have hne : algorithmOf p1 ≠ .failed .invalidAlg := by
    intro hc
    simp [ensureVerificationAlgorithm, hc] at hgv
  rw [hd, algSpec_eq_algorithmOf p1 hne]

/-- so the verification gate passes on the decoded map -/
theorem gate_decoded {p p1 pd : GoMap} {alg valg : Int} {ext : Option Bytes}
    (hg : ensureSigningAlgorithm none p alg ext = .ok p1) (hd : algorithmOf pd = algSpec p1)
    (hv : valg = alg) : ensureVerificationAlgorithm pd valg ext = .ok () := by
  have hgv := C01.gate_after_sign _ _ _ _ _ hg
  unfold ensureVerificationAlgorithm at hgv ⊢
  rw [algorithmOf_decoded hg hd, hv]
  exact hgv

theorem AlgCases.of_gate {p p1 pd : GoMap} {alg : Int} {ext : Option Bytes}
    (hg : ensureSigningAlgorithm none p alg ext = .ok p1) (hd : algorithmOf pd = algSpec p1) :
    AlgCases p pd alg ext := by
  unfold AlgCases
  rw [algorithmOf_decoded hg hd]
  exact sign_gate_alg hg

/-- C04 across the wire: with no external data, or an algorithm already named by the caller's
    protected map, the decoded map names the signer's algorithm -/
theorem AlgCases.found {p pd : GoMap} {alg : Int} {ext : Option Bytes} (h : AlgCases p pd alg ext)
    (hnx : (ext.getD []).length = 0 ∨ algorithmOf p ≠ .notFound) : algorithmOf pd = .found alg := by
  rcases h with h | ⟨hn, hx, -⟩
  · exact h
  · rcases hnx with h0 | h0
    · omega
    · exact absurd hn h0

/-- whatever the signing gate makes of `p`, for an algorithm identifier in Go's `int64` range,
    comes back from the wire as `decP` of it -/
def GatedProtWire (decP : GoMap → GoMap) (p : GoMap) : Prop :=
  ∀ {alg : Int} {ext : Option Bytes} {p1 : GoMap}, int64Range alg →
    ensureSigningAlgorithm none p alg ext = .ok p1 → ProtWire p1 (decP p1)

/-! ### COSE_Sign1 across the wire -/

/-- a message with no retained raw header bytes, payload field `o` and signature `sig`,
    whose protected bytes `P` the signing step accepted (`detBstr`), is emitted as bytes that
    `Sign1.unmarshal` accepts; the decoded message carries payload `o`, signature `sig`, the
    decoded buckets, re-emits exactly `P` as its protected bytes, and `Algorithm()` on its
    protected map gives `algSpec p`. -/
theorem sign1_decodes (tagged : Bool) {p p' u u' : GoMap} (o : Option Bytes) (sig b P P' : Bytes)
    (hp : ProtWire p p') (hu : UnprotWire 1 u u')
    (ho : blen o < 18446744073709551616) (hsl : sig.length < 18446744073709551616)
    (hP : marshalProtected { p := p, u := u } = .ok P) (hd : detBstr P = .ok P')
    (henc : Sign1.marshal tagged { h := { p := p, u := u }, payload := o, sig := some sig }
      = .ok b) :
    ∃ m2, Sign1.unmarshal tagged b = .ok m2 ∧ m2.payload = o ∧ m2.sig = some sig ∧
      marshalProtected m2.h = .ok P ∧ m2.h.p = p' ∧ m2.h.u = u' ∧
      algorithmOf m2.h.p = algSpec p := by
  have hiv := ensureIV_of_marshal henc
  obtain ⟨P0, U, hz, hP0, hU, hb⟩ := C01.sign1_marshal_ok_inv henc
  cases hP.symm.trans hP0
  have hsne : sig ≠ [] := fun hc => hz (by rw [hc]; rfl)
  obtain ⟨hw, content, uw, hPb, hUb, hpwf, huwf, hulim, hdp, hdu, hiv', halg, hP2⟩ :=
    layer_items hp hu hP hd hU hiv
  have hplwf := C01.shortItem_wf_of_lt o ho
  have hsgfit : (HW.shortest sig.length).fits sig.length = true := C02.shortest_fits hsl
  have hwf : (Wire.arr .imm [.bstr hw content, uw, C09.shortItem o,
      .bstr (HW.shortest sig.length) sig]).wf = true := by
    have h4 : HW.fits .imm 4 = true := by decide
    simp only [Wire.wf] at hpwf
    simp [Wire.wf, Wire.wfList, h4, hpwf, huwf, hplwf, hsgfit]
  have hlim : (Wire.arr .imm [.bstr hw content, uw, C09.shortItem o,
      .bstr (HW.shortest sig.length) sig]).inLimits false 0 = true := by
    simp [Wire.inLimits, Wire.inLimitsList, maxNested, maxElems, hulim,
      C09.shortItem_inLimits]
  have hpl : WFPayload (C09.shortItem o) := by
    cases o with
    | none => exact .inl rfl
    | some x => exact .inr ⟨_, _, rfl⟩
  have hacc := C07.wf_sign1_accepted_full tagged hwf hlim hdp hdu hiv' hpl hsne
  have hbytes : b = (if tagged then [0xd2] else []) ++ (Wire.arr .imm [.bstr hw content, uw,
      C09.shortItem o, .bstr (HW.shortest sig.length) sig]).bytes := by
    rw [hb, hPb, hUb]
    have := C09.marshal_tree_bytes (.bstr hw content) uw o (some sig) hz
    simp only [Option.getD_some] at this ⊢
    rw [this]
    rfl
  rw [← hbytes] at hacc
  refine ⟨_, hacc, ?_, rfl, hP2, rfl, rfl, halg⟩
  cases o <;> rfl

/-- common part of the attached and the detached flow: `o` is the payload field that is emitted.
    The decoded message re-emits the protected bytes verbatim, so `ToBeSigned` is the one that was
    signed; `Algorithm()` of the decoded protected map is that of the encoded one, so the gate
    passes. -/
theorem sign1_wire_with (decP : GoMap → GoMap) {u' : GoMap} (tagged : Bool) (m : Sign1Msg)
    (ext : Option Bytes) (s : Signer) (v : Verifier) (o : Option Bytes) (b : Bytes)
    (hm : C01.Matches s v) (hrp : m.h.rawP = none) (hru : m.h.rawU = none)
    (hp : GatedProtWire decP m.h.p) (hu : UnprotWire 1 m.h.u u')
    (ho : blen o < 18446744073709551616) (halg : int64Range s.alg)
    (hsl : ∀ t sg, s.sign t = .ok sg → sg.length < 18446744073709551616)
    (hok : (Sign1.sign m ext s).out = .ok ())
    (henc : Sign1.marshal tagged { (Sign1.sign m ext s).state with payload := o } = .ok b) :
    ∃ m2, Sign1.unmarshal tagged b = .ok m2 ∧ m2.payload = o ∧
      m2.sig = (Sign1.sign m ext s).state.sig ∧
      (Sign1.verify { m2 with payload := m.payload } ext v).1 = .ok () ∧
      m2.h.p = decP (Sign1.sign m ext s).state.h.p ∧ m2.h.u = u' ∧
      AlgCases m.h.p m2.h.p s.alg ext := by
  obtain ⟨p1, tbs, sig, hpn, hgate, ht, hsg, hst⟩ := C01.sign1_sign_ok_inv m ext s hok
  obtain ⟨⟨rp, p, ru, u⟩, pay, sg0⟩ := m
  simp only at hrp hru hp hu hpn hgate ht hst
  subst hrp hru
  rw [hst] at henc ⊢
  obtain ⟨P, P', hP, hd, rfl⟩ := C01.toBeSigned1_ok_inv ht
  obtain ⟨m2, hdec, hpay, hs2, hP2, hp2, hu2, ha2⟩ :=
    sign1_decodes tagged o sig b P P' (hp halg hgate) hu ho (hsl _ _ hsg) hP hd henc
  exact ⟨m2, hdec, hpay, hs2,
    C01.verify_of_same_tbs { m2 with payload := pay } ext s v P P' sig pay hm hP2 hd rfl hpn
      hs2 hsg (gate_decoded hgate ha2 hm.alg),
    hp2, hu2, AlgCases.of_gate hgate ha2⟩

theorem sign1_wire (decP : GoMap → GoMap) {u' : GoMap} (tagged : Bool) (m : Sign1Msg)
    (ext : Option Bytes) (s : Signer) (v : Verifier) (b : Bytes)
    (hm : C01.Matches s v) (hrp : m.h.rawP = none) (hru : m.h.rawU = none)
    (hp : GatedProtWire decP m.h.p) (hu : UnprotWire 1 m.h.u u')
    (hpl : blen m.payload < 18446744073709551616) (halg : int64Range s.alg)
    (hsl : ∀ t sg, s.sign t = .ok sg → sg.length < 18446744073709551616)
    (hok : (Sign1.sign m ext s).out = .ok ())
    (henc : Sign1.marshal tagged (Sign1.sign m ext s).state = .ok b) :
    ∃ m2, Sign1.unmarshal tagged b = .ok m2 ∧ (Sign1.verify m2 ext v).1 = .ok () ∧
      m2.payload = m.payload ∧ m2.sig = (Sign1.sign m ext s).state.sig ∧
      m2.h.p = decP (Sign1.sign m ext s).state.h.p ∧ m2.h.u = u' ∧
      AlgCases m.h.p m2.h.p s.alg ext := by
  obtain ⟨_, _, _, -, -, -, -, hst⟩ := C01.sign1_sign_ok_inv m ext s hok
  have henc' : Sign1.marshal tagged { (Sign1.sign m ext s).state with payload := m.payload }
      = .ok b := by
    rw [hst] at henc ⊢
    exact henc
  obtain ⟨m2, hdec, hpay, hs2, hver, hp2, hu2, hcase⟩ :=
    sign1_wire_with decP tagged m ext s v m.payload b hm hrp hru hp hu hpl halg hsl hok henc'
  refine ⟨m2, hdec, ?_, hpay, hs2, hp2, hu2, hcase⟩
  rw [← hpay] at hver
  exact hver

/-! ### hash-envelope header rules, entry by entry -/

def unprotEntry (e : GoVal × GoVal) : Bool :=
  match normalizeLabel e.1 with
  | none => false
  | some (.int _ 3) => false
  | some (.int _ 258) => false
  | some (.int _ 259) => false
  | some (.int _ 260) => false
  | some _ => true

theorem hashUnprotOK_cons (e : GoVal × GoVal) (r : GoMap) :
    hashUnprotOK (e :: r) = (unprotEntry e && hashUnprotOK r) := by
  obtain ⟨l, v⟩ := e
  fun_cases unprotEntry (l, v) <;> simp [hashUnprotOK, *]

theorem hashUnprotOK_iff : ∀ (g : GoMap), hashUnprotOK g = true ↔ ∀ e ∈ g, unprotEntry e = true
  | [] => by simp [hashUnprotOK]
  | e :: r => by
    rw [hashUnprotOK_cons, Bool.and_eq_true, List.forall_mem_cons, hashUnprotOK_iff r]

/-- `protEntry` only looks at the normalised label and at the kind of the value -/
theorem protEntry_congr {e e' : GoVal × GoVal} (hl : normalizeLabel e'.1 = normalizeLabel e.1)
    (h1 : algKind e.2 = true → algKind e'.2 = true)
    (h2 : canUint e.2 = true → canUint e'.2 = true) (h3 : canText e.2 = true → canText e'.2 = true)
    {b : Bool} (h : protEntry e = some b) : protEntry e' = some b := by
  have h23 : (canUint e.2 || canText e.2) = true → (canUint e'.2 || canText e'.2) = true := by
    simp only [Bool.or_eq_true]
    exact Or.imp h2 h3
  rw [protEntry, hl]
  revert h
  fun_cases protEntry e <;> intro h
  -- a refused `e` contradicts `h`; an accepted one puts `e'` in the same branch, its test holding
  -- by `h1`, `h23`, `h3`
  all_goals simp only [*, if_true, reduceCtorEq] at h ⊢

theorem protEntry_lbl1 (v : GoVal) : protEntry (lbl 1, v) = some false := by
  simp [protEntry, lbl, normalizeLabel, wrap64]

/-- retyping the `alg` entry does not change the verdict: label 1 is not governed by the
    hash-envelope rules -/
theorem protEntry_castEntry {e : GoVal × GoVal} {b : Bool} (h : protEntry e = some b) :
    protEntry (castEntry e) = some b := by
  unfold castEntry
  split
  next hk =>
    have hk1 : e.1 = lbl 1 := GoVal.eq_of_keyEq hk
    have he : e = (lbl 1, e.2) := by rw [← hk1]
    rw [he, protEntry_lbl1] at h
    rw [hk1, protEntry_lbl1]
    exact h
  next => exact h

theorem unprotEntry_congr {e e' : GoVal × GoVal} (hl : normalizeLabel e'.1 = normalizeLabel e.1) :
    unprotEntry e' = unprotEntry e := by
  unfold unprotEntry
  rw [hl]

/-! ### the protected map `SignHashEnvelope` builds -/

/-- it arises from the caller's map by at most three assignments: a class of maps closed under
    them contains it -/
theorem hashProt_keeps {C : GoMap → Prop} {base : GoMap} {p : HashPayload} (hC : C base)
    (h258 : ∀ g, C g → C (g.set (lbl 258) (.alg p.alg)))
    (h259 : ∀ g x, p.pct = some x → C g → C (g.set (lbl 259) x))
    (h260 : ∀ g, C g → C (g.set (lbl 260) (.str p.location))) :
    C (setHashEnvelopeProtectedHeader base p) := by
  have c1 := h258 base hC
  unfold setHashEnvelopeProtectedHeader
  dsimp only
  cases hp : p.pct with
  | none =>
    dsimp only
    split
    · exact h260 _ c1
    · exact c1
  | some x =>
    have c2 := h259 _ x hp c1
    dsimp only
    split
    · exact h260 _ c2
    · exact c2

theorem hashProt_uintOK {base : GoMap} {p : HashPayload} (hu : ∀ e ∈ base, UintOK e.2)
    (hpct : ∀ x, p.pct = some x → UintOK x) :
    ∀ e ∈ setHashEnvelopeProtectedHeader base p, UintOK e.2 :=
  hashProt_keeps (C := fun g => ∀ e ∈ g, UintOK e.2) hu
    (fun _ hg => uintOK_set hg (by simp [UintOK])) (fun _ x hx hg => uintOK_set hg (hpct x hx))
    (fun _ hg => uintOK_set hg (by simp [UintOK]))

theorem hashProt_length (base : GoMap) (p : HashPayload) :
    (setHashEnvelopeProtectedHeader base p).length ≤ base.length + 3 := by
  have l1 := length_set_le base (lbl 258) (.alg p.alg)
  unfold setHashEnvelopeProtectedHeader
  dsimp only
  cases p.pct with
  | none =>
    dsimp only
    split
    · have := length_set_le (base.set (lbl 258) (.alg p.alg)) (lbl 260) (.str p.location)
      omega
    · omega
  | some x =>
    have l2 := length_set_le (base.set (lbl 258) (.alg p.alg)) (lbl 259) x
    dsimp only
    split
    · have := length_set_le ((base.set (lbl 258) (.alg p.alg)).set (lbl 259) x) (lbl 260)
        (.str p.location)
      omega
    · omega

/-! ### the hash-envelope rules survive signing and the round trip -/

/-- the signing gate keeps the hash-envelope rules and the stored payload-hash-algorithm -/
theorem hashRules_after_gate {prot p' u : GoMap} {alg : Int} {a : Int}
    (hg : ensureSigningAlgorithm none prot alg none = .ok p')
    (hr : validateHashEnvelopeHeaders prot u = true)
    (hl : prot.lookup (lbl 258) = some (.alg a)) :
    validateHashEnvelopeHeaders p' u = true ∧ lookupLabel p' (lbl 258) = some (.alg a) := by
  rcases C04.sign_gate_cases none prot p' alg none hg with ⟨-, rfl⟩ | ⟨-, -, rfl⟩ | ⟨hn, -, -, rfl⟩
  · exact ⟨hr, C12.lookupLabel_of_lookup _ _ _ hl⟩
  · exact ⟨hr, C12.lookupLabel_of_lookup _ _ _ hl⟩
  · rw [C01.set_lbl1_of_notFound prot _ hn]
    refine ⟨?_, C12.lookupLabel_of_lookup _ _ _ (GoMap.lookup_append_of_some _ _ _ _ hl)⟩
    obtain ⟨hp, hu⟩ := C12.headers_rule _ _ hr
    rw [hashProtLoop_iff] at hp
    obtain ⟨hp1, hp2⟩ := hp
    have : hashProtLoop (prot ++ [(lbl 1, GoVal.alg alg)]) false = some true := by
      rw [hashProtLoop_iff]
      refine ⟨?_, ?_⟩
      · intro e he
        rcases List.mem_append.mp he with he | he
        · exact hp1 e he
        · simp only [List.mem_singleton] at he; subst he; rw [protEntry_lbl1]; simp
      · rcases hp2 with h0 | ⟨e, he, h1⟩
        · cases h0
        · exact .inr ⟨e, List.mem_append_left _ he, h1⟩
    simp only [validateHashEnvelopeHeaders, this, hu]

/-- the hash-envelope header rules survive decoding, for any entry-wise decoders that keep the
    normalised labels and, in the protected bucket, the verdict of the per-entry rule -/
theorem hashRules_decoded {p u : GoMap} (fp fu : GoVal × GoVal → GoVal × GoVal)
    (hfp : ∀ e ∈ p, ∀ b, protEntry e = some b → protEntry (fp e) = some b)
    (hfu : ∀ e ∈ u, normalizeLabel (fu e).1 = normalizeLabel e.1)
    (hr : validateHashEnvelopeHeaders p u = true) :
    validateHashEnvelopeHeaders ((sortEntries p).map fp) ((sortEntries u).map fu) = true := by
  obtain ⟨hp, hu⟩ := C12.headers_rule _ _ hr
  rw [hashProtLoop_iff] at hp
  obtain ⟨hp1, hp2⟩ := hp
  have hP : hashProtLoop ((sortEntries p).map fp) false = some true := by
    rw [hashProtLoop_iff]
    refine ⟨?_, ?_⟩
    · intro e' he'
      obtain ⟨e, he, rfl⟩ := List.mem_map.mp he'
      have heg : e ∈ p := (sortEntries_perm p).mem_iff.mp he
      cases hb : protEntry e with
      | none => exact absurd hb (hp1 e heg)
      | some b => rw [hfp e heg b hb]; simp
    · rcases hp2 with h0 | ⟨e, he, h1⟩
      · cases h0
      · exact .inr ⟨fp e, List.mem_map_of_mem ((sortEntries_perm p).mem_iff.mpr he),
          hfp e he true h1⟩
  have hU : hashUnprotOK ((sortEntries u).map fu) = true := by
    rw [hashUnprotOK_iff] at hu ⊢
    intro e' he'
    obtain ⟨e, he, rfl⟩ := List.mem_map.mp he'
    have heg : e ∈ u := (sortEntries_perm u).mem_iff.mp he
    rw [unprotEntry_congr (e := e) (hfu e heg)]
    exact hu e heg
  simp only [validateHashEnvelopeHeaders, hP, hU]

/-- `PayloadHashAlgorithm()` on the decoded protected bucket `p'`, given that a lookup in `p`
    finds in `p'` the image under `f` of what it finds in `p`, and that `f` makes an `int64` of an
    `Algorithm` stored under label 258 -/
theorem payloadHashAlgorithm_decoded {p p' : GoMap} {a : Int} (f : GoVal × GoVal → GoVal × GoVal)
    (hlk : ∀ e ∈ p, ∀ l, normalizeLabel l = normalizeLabel e.1 →
      lookupLabel p l = some e.2 ∧ lookupLabel p' l = some (f e).2)
    (hfa : ∀ e ∈ p, normalizeLabel e.1 = some (lbl 258) → e.2 = .alg a → (f e).2 = .int .i64 a)
    (hl : lookupLabel p (lbl 258) = some (.alg a)) : payloadHashAlgorithm p' = .found a := by
  have hn : normalizeLabel (lbl 258) = some (lbl 258) := rfl
  have hhas : hasLabel p (lbl 258) = true := by unfold hasLabel; rw [hl]; rfl
  obtain ⟨e, he, hne⟩ := (C13.hasLabel_iff_mem p (lbl 258) (lbl 258) hn).mp hhas
  obtain ⟨h1, h2⟩ := hlk e he (lbl 258) (by rw [hn, hne])
  rw [hl] at h1
  unfold payloadHashAlgorithm
  rw [h2, hfa e he hne (Option.some.inj h1).symm]
  rfl

/-! ### the hash envelope across the wire -/

/-- the buckets of a hash envelope come back from the wire as `p'`, `u'` with the envelope's
    header rules and `PayloadHashAlgorithm()` intact -/
structure HashWire (p p' u u' : GoMap) : Prop where
  prot : ProtWire p p'
  rules : validateHashEnvelopeHeaders p u = true → validateHashEnvelopeHeaders p' u' = true
  alg : ∀ {a : Int}, validateHeaderParameters p true = true →
    lookupLabel p (lbl 258) = some (.alg a) → payloadHashAlgorithm p' = .found a

/-- closed loop: what `SignHashEnvelope` emits (no retained raw unprotected bytes; it clears the
    raw protected bytes itself), `VerifyHashEnvelope` with the matching verifier accepts, returning
    the signed hash value.  `hpl`: only for a hash algorithm id unknown to the library (no length
    check) the hash value is assumed shorter than 2^64 bytes. -/
theorem henv_closed (decP : GoMap → GoMap) {u' : GoMap} (s : Signer) (v : Verifier) (h : Hdrs)
    (p : HashPayload) (b : Bytes) (hm : C01.Matches s v) (hru : h.rawU = none)
    (hw : ∀ {alg : Int} {ext : Option Bytes} {p1 : GoMap}, int64Range alg →
      ensureSigningAlgorithm none (setHashEnvelopeProtectedHeader h.p p) alg ext = .ok p1 →
      HashWire p1 (decP p1) h.u u')
    (hu : UnprotWire 1 h.u u') (halg : int64Range s.alg)
    (hsl : ∀ t sg, s.sign t = .ok sg → sg.length < 18446744073709551616)
    (hpl : hashSize p.alg = 0 → blen p.value < 18446744073709551616)
    (hsign : (signHashEnvelope s h p).1 = .ok b) :
    ∃ m3, (verifyHashEnvelope v b).1 = .ok m3 ∧ m3.payload = p.value := by
  obtain ⟨hvh, u, hmatch, hrules, hhelp⟩ := C12.sign_envelope_inv s h p b hsign
  have hueq : u = h.u := by
    rw [hru] at hmatch
    exact (Out.ok.inj hmatch).symm
  subst hueq
  obtain ⟨hok, henc⟩ := C01.sign1Helper_ok_inv _ _ _ _ _ _ hhelp
  have hpl' : blen p.value < 18446744073709551616 := by
    by_cases hz : hashSize p.alg = 0
    · exact hpl hz
    · have := C01.hashSize_lt p.alg
      simp only [validateHash, hz, decide_false, Bool.false_or, decide_eq_true_eq] at hvh
      omega
  obtain ⟨p1, tbs, sig, -, hgate, -, -, hst⟩ := C01.sign1_sign_ok_inv _ _ _ hok
  obtain ⟨m2, hdec, hver', hpay, -, hp2, hu2, -⟩ :=
    sign1_wire decP true _ none s v b hm rfl hru (fun ha hg => (hw ha hg).prot) hu hpl' halg hsl
      hok henc
  rw [hst] at hp2
  simp only at hp2
  obtain ⟨hr', hl'⟩ := hashRules_after_gate hgate hrules (C12.lookup_258 h.p p)
  have hv' : validateHeaderParameters p1 true = true := by
    rw [hst] at henc
    obtain ⟨P, U, -, hP, -, -⟩ := C01.sign1_marshal_ok_inv henc
    exact validate_of_encodeBucket (marshalProtected_ok_inv hP).2
  have hrules2 : validateHashEnvelopeHeaders m2.h.p m2.h.u = true := by
    rw [hp2, hu2]; exact (hw halg hgate).rules hr'
  have halg2 : payloadHashAlgorithm m2.h.p = .found p.alg := by
    rw [hp2]; exact (hw halg hgate).alg hv' hl'
  unfold verifyHashEnvelope
  simp only [hdec, hrules2, Bool.not_true, Bool.false_eq_true, if_false]
  cases hv : Sign1.verify m2 none v with
  | mk o calls =>
    rw [hv] at hver'
    simp only at hver'
    subst hver'
    simp only [halg2, hpay, hvh, if_true]
    exact ⟨_, rfl, rfl⟩

end WireClosure

namespace SignWireClosure
open WireClosure

/-! ### inversion of the encoder -/

theorem signature_marshal_ok_inv {s : SigV} {b : Bytes} (he : Signature.marshal s = .ok b) :
    ∃ P U, blen s.sig ≠ 0 ∧ ensureIV s.h.p s.h.u = true ∧ marshalProtected s.h = .ok P ∧
      marshalUnprotected s.h = .ok U ∧ b = 0x83 :: (P ++ (U ++ encBstr (s.sig.getD []))) := by
  unfold Signature.marshal at he
  obtain ⟨hz, he⟩ := Out.guard_eq_ok.mp he
  obtain ⟨⟨P, U⟩, hh, he⟩ := Out.bind_eq_ok.mp he
  obtain ⟨h1, h2⟩ := C01.hdrs_marshal_ok_inv hh
  exact ⟨P, U, hz, hdrs_marshal_iv hh, h1, h2, (Out.ok.inj he).symm⟩

/-! ### a COSE_Signature-shaped 3-array across the wire -/

/-- what the decoder makes of an emitted entry, relative to the entry `st` that was encoded:
    same signature, same protected bytes (so the same `ToBeSigned`), `Algorithm()` as encoded -/
def Same (st s2 : SigV) : Prop :=
  s2.sig = st.sig ∧ marshalProtected s2.h = marshalProtected st.h ∧
    algorithmOf s2.h.p = algSpec st.h.p

/-- … and its header maps are the decoded forms of the maps that were encoded -/
def Decoded (decP decU : GoMap → GoMap) (st s2 : SigV) : Prop :=
  Same st s2 ∧ s2.h.p = decP st.h.p ∧ s2.h.u = decU st.h.u

/-- an entry with no retained raw bytes and signature `sig`, whose 3-array is met at depth
    `d` — so its unprotected map item sits at depth `d + 1` — and whose protected bytes the
    signing step accepted (`detBstr`), is emitted as the bytes of one well-formed COSE_Signature
    tree `x`, within the parser's limits at depth `d`, which both `Signature.unmarshal` (top
    level) and the per-signer decoder of COSE_Sign (`SigElem`) accept.  That the signature is not
    empty is read off the successful `Signature.marshal`. -/
theorem sigv_decodes (d : Nat) {p p' u u' : GoMap} (sig b P P' : Bytes)
    (hp : ProtWire p p') (hu : UnprotWire (d + 1) u u') (hd : d + 1 ≤ maxNested)
    (hsl : sig.length < 18446744073709551616)
    (hP : marshalProtected { p := p, u := u } = .ok P) (hdet : detBstr P = .ok P')
    (henc : Signature.marshal { h := { p := p, u := u }, sig := some sig } = .ok b) :
    ∃ (x : Wire) (s2 : SigV), b = x.bytes ∧ x.wf = true ∧ x.inLimits false d = true ∧
      C05.SigElem x s2 ∧ Signature.unmarshal b = .ok s2 ∧
      Same { h := { p := p, u := u }, sig := some sig } s2 ∧ s2.h.p = p' ∧ s2.h.u = u' := by
  obtain ⟨P0, U, hz, hiv, hP0, hU, hb⟩ := signature_marshal_ok_inv henc
  cases hP.symm.trans hP0
  have hsne : sig ≠ [] := fun hc => hz (by rw [hc]; rfl)
  obtain ⟨hw, content, uw, hPb, hUb, hpwf, huwf, hulim, hdp, hdu, hiv', halg, hP2⟩ :=
    layer_items hp hu hP hdet hU hiv
  have hsgfit : (HW.shortest sig.length).fits sig.length = true := C02.shortest_fits hsl
  have hwf : (Wire.arr .imm [.bstr hw content, uw,
      .bstr (HW.shortest sig.length) sig]).wf = true := by
    have h3 : HW.fits .imm 3 = true := by decide
    simp only [Wire.wf] at hpwf
    simp [Wire.wf, Wire.wfList, h3, hpwf, huwf, hsgfit]
  have hlim : (Wire.arr .imm [.bstr hw content, uw,
      .bstr (HW.shortest sig.length) sig]).inLimits false d = true := by
    simp [Wire.inLimits, Wire.inLimitsList, hd, maxElems, hulim]
  have hbytes : b = (Wire.arr .imm [.bstr hw content, uw,
      .bstr (HW.shortest sig.length) sig]).bytes := by
    rw [hb, hPb, hUb, Accept.arr3_bytes]
    rfl
  have hacc := C07.wf_signature_accepted_full hwf
    (Wire.inLimits_anti false _ d 0 (Nat.zero_le d) hlim) hdp hdu hiv' hsne
  rw [← hbytes] at hacc
  refine ⟨_, _, hbytes, hwf, hlim, ?_, hacc, ⟨rfl, hP2.trans hP.symm, halg⟩, rfl, rfl⟩
  exact ⟨_, _, _, rfl, hdp, hdu, hiv', rfl, rfl, rfl, C01.blen_some_ne hsne⟩

/-! ### countersignature -/

/-- `countersignToBeSigned` succeeding means the countersigner's protected bytes passed
    `deterministicBinaryString` -/
theorem ctbs_ok_det {abbr : Bool} {parent : Parent} {sp : Bytes} {ext : Option Bytes} {t : Bytes}
    (h : countersignToBeSigned abbr parent sp ext = .ok t) : ∃ sp', detBstr sp = .ok sp' := by
  simp only [countersignToBeSigned] at h
  split at h
  next bodyProtected _ _ _ =>
    cases hb : detBstr bodyProtected <;> simp only [hb, Out.bind_ok, Out.bind_err, Out.bind_panic,
      Out.bind_unmodelled, reduceCtorEq] at h
    cases hs : detBstr sp <;> simp only [hs, Out.bind_ok, Out.bind_err, Out.bind_panic,
      Out.bind_unmodelled, reduceCtorEq] at h
    exact ⟨_, rfl⟩
  all_goals simp at h

theorem csTbs_ok_inv {cs : SigV} {parent : Parent} {ext : Option Bytes} {t : Bytes}
    (h : Countersignature.toBeSigned cs parent ext = .ok t) :
    ∃ P P', marshalProtected cs.h = .ok P ∧ detBstr P = .ok P' := by
  obtain ⟨P, hP, h⟩ := Out.bind_eq_ok.mp h
  obtain ⟨P', hd⟩ := ctbs_ok_det h
  exact ⟨P, P', hP, hd⟩

/-- `Countersignature.toBeSigned` looks at the countersignature only through its protected bytes -/
theorem csTbs_congr {a c : SigV} (h : marshalProtected a.h = marshalProtected c.h)
    (parent : Parent) (ext : Option Bytes) :
    Countersignature.toBeSigned a parent ext = Countersignature.toBeSigned c parent ext := by
  unfold Countersignature.toBeSigned
  rw [h]

/-- a stand-alone countersignature (a top-level 3-array: its unprotected map item sits at depth
    1), every parent kind: signed on `parent` with external data `ext` and encoded, it is decoded
    by the library, and the decoded countersignature verifies on the same parent under every
    matching verifier with the same external data.  Nothing is asked of the parent: whatever
    `countersignToBeSigned` computed at signing time it computes again at verification time, the
    countersignature entering only through its protected bytes, which the decoded value re-emits
    verbatim. -/
theorem countersignature_wire (decP : GoMap → GoMap) {u' : GoMap} (cs : SigV) (s : Signer)
    (parent : Parent) (ext : Option Bytes) (b : Bytes)
    (hrp : cs.h.rawP = none) (hru : cs.h.rawU = none)
    (hp : GatedProtWire decP cs.h.p) (hu : UnprotWire 1 cs.h.u u') (halg : int64Range s.alg)
    (hsl : ∀ t sg, s.sign t = .ok sg → sg.length < 18446744073709551616)
    (hok : (Countersignature.sign cs s parent ext).out = .ok ())
    (henc : Signature.marshal (Countersignature.sign cs s parent ext).state = .ok b) :
    ∃ c2, Signature.unmarshal b = .ok c2 ∧
      (∀ v, C01.Matches s v → (Countersignature.verify c2 v parent ext).1 = .ok ()) ∧
      c2.sig = (Countersignature.sign cs s parent ext).state.sig ∧
      c2.h.p = decP (Countersignature.sign cs s parent ext).state.h.p ∧ c2.h.u = u' ∧
      AlgCases cs.h.p c2.h.p s.alg ext := by
  obtain ⟨p1, tbs, sig, hgate, ht, hsg, hst⟩ := C01.countersignature_sign_ok_inv cs s parent ext hok
  obtain ⟨⟨rp, p, ru, u⟩, sg0⟩ := cs
  simp only at hrp hru hp hu hgate ht hst
  subst hrp hru
  rw [hst] at henc ⊢
  obtain ⟨P, P', hP, hd⟩ := csTbs_ok_inv ht
  obtain ⟨x, c2, -, -, -, -, hdec, ⟨hs2, hP2, ha2⟩, hp2, hu2⟩ :=
    sigv_decodes 0 sig b P P' (hp halg hgate) hu (by decide) (hsl _ _ hsg) hP hd henc
  simp only at hs2 hP2 ha2
  refine ⟨c2, hdec, fun v hm => ?_, hs2, hp2, hu2, AlgCases.of_gate hgate ha2⟩
  rw [C03.verifyCsig_iff]
  refine ⟨by rw [hs2]; exact C01.blen_some_ne (hm.nonempty _ _ hsg),
    gate_decoded hgate ha2 hm.alg, tbs, ?_, ?_⟩
  · rw [csTbs_congr (c := { h := { p := p1, u := u }, sig := sg0 }) hP2]
    exact ht
  · rw [hs2]
    exact hm.correct _ _ hsg

/-! ### COSE_Sign: the signer entries -/

theorem sigTbs_ok_inv {s : SigV} {bprot : Bytes} {payload ext : Option Bytes} {t : Bytes}
    (h : Signature.toBeSigned s bprot payload ext = .ok t) :
    ∃ bp' P P', detBstr bprot = .ok bp' ∧ marshalProtected s.h = .ok P ∧ detBstr P = .ok P' := by
  obtain ⟨bp', hb, h⟩ := Out.bind_eq_ok.mp h
  obtain ⟨P, hP, h⟩ := Out.bind_eq_ok.mp h
  obtain ⟨P', hd, -⟩ := Out.bind_eq_ok.mp h
  exact ⟨bp', P, P', hb, hP, hd⟩

/-- `Signature.toBeSigned` looks at the signer entry only through its protected bytes -/
theorem sigTbs_congr {a c : SigV} (h : marshalProtected a.h = marshalProtected c.h)
    (bprot : Bytes) (payload ext : Option Bytes) :
    Signature.toBeSigned a bprot payload ext = Signature.toBeSigned c bprot payload ext := by
  unfold Signature.toBeSigned
  rw [h]

/-- what is assumed of a signer beyond `Matches`: algorithm identifier in Go's `int64` range,
    signatures shorter than 2^64 bytes -/
def GoSigner (s : Signer) : Prop :=
  int64Range s.alg ∧ ∀ t x, s.sign t = .ok x → x.length < 18446744073709551616

/-- the entry `st` is emitted as one well-formed COSE_Signature tree, within the parser's limits
    at depth 2 (an element of the signatures array inside the message array), which the per-signer
    decoder of COSE_Sign reads back as an entry `R`-related to `st` -/
def SlotDecodes (R : SigV → SigV → Prop) (st : SigV) : Prop :=
  ∀ b, Signature.marshal st = .ok b →
    ∃ (x : Wire) (s2 : SigV), b = x.bytes ∧ x.wf = true ∧ x.inLimits false 2 = true ∧
      C05.SigElem x s2 ∧ R st s2

/-- the scope of one signer slot: no caller-supplied raw buckets; the slot's unprotected map
    item sits at depth 3 (message array ∋ signatures array ∋ slot array ∋ map item) -/
def SlotWire (decP decU : GoMap → GoMap) (sg : SigV) : Prop :=
  sg.h.rawP = none ∧ sg.h.rawU = none ∧ GatedProtWire decP sg.h.p ∧
    UnprotWire 3 sg.h.u (decU sg.h.u)

/-- one signer slot: what `Signature.Sign` left there crosses the wire -/
theorem slot_wire (decP decU : GoMap → GoMap) (sg : SigV) (s : Signer) (bprot : Bytes)
    (payload ext : Option Bytes) (hslot : SlotWire decP decU sg) (hgs : GoSigner s)
    (hok : (Signature.sign sg s bprot payload ext).out = .ok ()) :
    SlotDecodes (Decoded decP decU) (Signature.sign sg s bprot payload ext).state := by
  intro b henc
  obtain ⟨p1, tbs, sig, -, -, hgate, ht, hsg, hst⟩ :=
    C01.signature_sign_ok_inv sg s bprot payload ext hok
  obtain ⟨hrp, hru, hp, hu⟩ := hslot
  obtain ⟨⟨rp, p, ru, u⟩, sg0⟩ := sg
  simp only at hrp hru hp hu hgate ht hst
  subst hrp hru
  rw [hst] at henc ⊢
  obtain ⟨-, P, P', -, hP, hd⟩ := sigTbs_ok_inv ht
  obtain ⟨x, s2, hb, hwf, hlim, hel, -, hsame, hp2, hu2⟩ :=
    sigv_decodes 2 sig b P P' (hp hgs.1 hgate) hu (by decide) (hgs.2 _ _ hsg) hP hd henc
  exact ⟨x, s2, hb, hwf, hlim, hel, hsame, hp2, hu2⟩

/-- all signer slots: the concatenation `marshalSigs` emits is the byte sequence of a list of
    well-formed COSE_Signature trees which `decSigList` accepts, entry by entry `R`-related -/
theorem marshalSigs_decodes (R : SigV → SigV → Prop) : ∀ (l : List SigV) (ss : Bytes),
    (∀ st ∈ l, SlotDecodes R st) → marshalSigs l = .ok ss →
    ∃ (xs : List Wire) (l2 : List SigV), ss = Wire.bytesList xs ∧ Wire.wfList xs = true ∧
      Wire.inLimitsList false 2 xs = true ∧ decSigList xs = .ok l2 ∧ xs.length = l.length ∧
      l2.length = l.length ∧ ∀ i (h1 : i < l.length) (h2 : i < l2.length), R l[i] l2[i]
  | [], ss, _, h => by
    simp only [marshalSigs, Out.ok.injEq] at h
    subst h
    exact ⟨[], [], rfl, rfl, rfl, C05.decSigList_nil, rfl, rfl, fun i h1 => absurd h1 (by simp)⟩
  | st :: r, ss, hall, h => by
    obtain ⟨a, ha, h⟩ := Out.bind_eq_ok.mp h
    obtain ⟨rb, hr, h⟩ := Out.bind_eq_ok.mp h
    cases h
    obtain ⟨x, s2, hb, hwf, hlim, hel, hsame⟩ := hall st (List.mem_cons_self ..) a ha
    obtain ⟨xs, l2, hbs, hwfs, hlims, hdec, hlx, hl2, hidx⟩ :=
      marshalSigs_decodes R r rb (fun t ht => hall t (List.mem_cons_of_mem _ ht)) hr
    refine ⟨x :: xs, s2 :: l2, by simp [Wire.bytesList, hb, hbs],
      by simp [Wire.wfList, hwf, hwfs],
      by simp [Wire.inLimitsList, hlim, hlims], C09.decSigList_cons_of hel hdec,
      by simp [hlx], by simp [hl2], ?_⟩
    intro i h1 h2
    cases i with
    | zero => simpa using hsame
    | succ j =>
      simp only [List.getElem_cons_succ]
      exact hidx j (by simpa using h1) (by simpa using h2)

theorem sign_marshal_ok_inv {m : SignMsg} {b : Bytes} (he : Sign.marshal m = .ok b) :
    ∃ P U ss, m.sigs ≠ [] ∧ ensureIV m.h.p m.h.u = true ∧ marshalProtected m.h = .ok P ∧
      marshalUnprotected m.h = .ok U ∧ marshalSigs m.sigs = .ok ss ∧
      b = 0xd8 :: 0x62 :: 0x84 :: (P ++ (U ++ (optBytesEnc m.payload ++
        (encHead 4 m.sigs.length ++ ss)))) := by
  unfold Sign.marshal at he
  obtain ⟨hemp, he⟩ := Out.guard_eq_ok.mp he
  obtain ⟨⟨P, U⟩, hh, he⟩ := Out.bind_eq_ok.mp he
  obtain ⟨ss, hs, he⟩ := Out.bind_eq_ok.mp he
  obtain ⟨h1, h2⟩ := C01.hdrs_marshal_ok_inv hh
  exact ⟨P, U, ss, fun hc => hemp (by rw [hc]; rfl), hdrs_marshal_iv hh, h1, h2, hs,
    (Out.ok.inj he).symm⟩

theorem signLoop_ok_mem (bprot : Bytes) (payload ext : Option Bytes) (sgs : List SigV)
    (ss : List Signer) (hl : sgs.length = ss.length)
    (hok : (signLoop bprot payload ext sgs ss).2.1 = .ok ()) :
    ∀ st ∈ (signLoop bprot payload ext sgs ss).1,
      ∃ i, ∃ (h1 : i < sgs.length) (h2 : i < ss.length),
        st = (Signature.sign sgs[i] ss[i] bprot payload ext).state ∧
        (Signature.sign sgs[i] ss[i] bprot payload ext).out = .ok () := by
  obtain ⟨hll, hall⟩ := C01.signLoop_ok_inv bprot payload ext sgs ss hok
  intro st hst
  obtain ⟨i, hi, rfl⟩ := List.getElem_of_mem hst
  have h1 : i < sgs.length := hll ▸ hi
  have h2 : i < ss.length := hl ▸ h1
  obtain ⟨ha, hb⟩ := hall i h1 h2
  exact ⟨i, h1, h2, ha, hb⟩

/-- the body protected bytes passed `deterministicBinaryString` when the first slot was signed -/
theorem body_det_of_loop (bprot : Bytes) (payload ext : Option Bytes) (sgs : List SigV)
    (ss : List Signer) (hl : sgs.length = ss.length) (hne : sgs ≠ [])
    (hok : (signLoop bprot payload ext sgs ss).2.1 = .ok ()) :
    ∃ bp', detBstr bprot = .ok bp' ∧ bodyProtOK bprot = true := by
  obtain ⟨_, hall⟩ := C01.signLoop_ok_inv bprot payload ext sgs ss hok
  have h0 : 0 < sgs.length := List.length_pos_iff.mpr hne
  obtain ⟨-, hout⟩ := hall 0 h0 (hl ▸ h0)
  obtain ⟨p', tbs, sig, -, hb, -, ht, -, -⟩ := C01.signature_sign_ok_inv _ _ _ _ _ hout
  obtain ⟨bp', -, -, hd, -, -⟩ := sigTbs_ok_inv ht
  exact ⟨bp', hd, hb⟩

/-- the COSE_Sign tree the encoder's output is the encoding of -/
def signTree (P U : Wire) (o : Option Bytes) (xs : List Wire) : Wire :=
  .arr .imm [P, U, C09.shortItem o, .arr (HW.shortest xs.length) xs]

theorem signTree_bytes (P U : Wire) (o : Option Bytes) (xs : List Wire) :
    (signTree P U o xs).bytes = 0x84 :: (P.bytes ++ (U.bytes ++ (optBytesEnc o ++
      (encHead 4 xs.length ++ Wire.bytesList xs)))) := by
  rw [signTree, Accept.arr4_bytes, C09.shortItem_bytes]
  rfl

/-- a COSE_Sign with no retained raw body bytes, payload field `o`, and signer entries `l`
    each of which is emitted as a well-formed COSE_Signature tree, is emitted as bytes
    `Sign.unmarshal` accepts; the decoded message carries payload `o`, the decoded body buckets,
    re-emits the body protected bytes `P`, and its signer entries are `R`-related to `l`,
    position by position.  The four body items form the tree `signTree`; `parseTop_complete` and
    `C09.sign_unmarshal_of` give `UnmarshalCBOR = ok`. -/
theorem signmsg_decodes (R : SigV → SigV → Prop) {p p' u u' : GoMap} (o : Option Bytes)
    (l : List SigV) (b P P' : Bytes) (hp : ProtWire p p') (hu : UnprotWire 1 u u')
    (ho : blen o < 18446744073709551616) (hn : l.length ≤ maxElems)
    (hall : ∀ st ∈ l, SlotDecodes R st)
    (hP : marshalProtected { p := p, u := u } = .ok P) (hd : detBstr P = .ok P')
    (henc : Sign.marshal { h := { p := p, u := u }, payload := o, sigs := l } = .ok b) :
    ∃ m2, Sign.unmarshal b = .ok m2 ∧ m2.payload = o ∧ marshalProtected m2.h = .ok P ∧
      m2.h.p = p' ∧ m2.h.u = u' ∧ m2.sigs.length = l.length ∧
      ∀ i (h1 : i < l.length) (h2 : i < m2.sigs.length), R l[i] m2.sigs[i] := by
  obtain ⟨P0, U, ssb, hne, hiv, hP0, hU, hms, hb⟩ := sign_marshal_ok_inv henc
  cases hP.symm.trans hP0
  simp only at hne hiv hU hms hb
  obtain ⟨hw, content, uw, hPb, hUb, hpwf, huwf, hulim, hdp, hdu, hiv', -, hP2⟩ :=
    layer_items hp hu hP hd hU hiv
  obtain ⟨xs, l2, hbs, hwfs, hlims, hdec, hlx, hl2, hidx⟩ := marshalSigs_decodes R l ssb hall hms
  have hxn : xs ≠ [] := by
    intro hc
    rw [hc] at hlx
    exact hne (List.eq_nil_of_length_eq_zero hlx.symm)
  have hwf : (signTree (.bstr hw content) uw o xs).wf = true := by
    have h4 : HW.fits .imm 4 = true := by decide
    have hnf : (HW.shortest xs.length).fits xs.length = true :=
      shortest_fits_elems (by omega)
    simp only [Wire.wf] at hpwf
    simp [signTree, Wire.wf, Wire.wfList, h4, hpwf, huwf, C01.shortItem_wf_of_lt o ho, hnf, hwfs]
  have hlim : (signTree (.bstr hw content) uw o xs).inLimits false 0 = true := by
    have hxl : xs.length ≤ maxElems := by omega
    simp [signTree, Wire.inLimits, Wire.inLimitsList, maxNested, hulim, C09.shortItem_inLimits,
      hlims]
    constructor
    · unfold maxElems; omega
    · exact hxl
  have hpt := parseTop_complete hwf hlim
  have hbytes : b = 0xd8 :: 0x62 :: (signTree (.bstr hw content) uw o xs).bytes := by
    rw [hb, signTree_bytes, hPb, hUb, hbs, hlx]
  rw [signTree_bytes] at hpt hbytes
  have hacc := C09.sign_unmarshal_of hpt (C09.shortItem_dec o) hxn hdec
    (C09.decHeaders_of hdp hdu hiv')
  rw [← hbytes] at hacc
  exact ⟨_, hacc, rfl, hP2, rfl, rfl, hl2, hidx⟩

/-! ### COSE_Sign across the wire -/

/-- common part of the attached and the detached flow of COSE_Sign with any number n ≥ 1 of signer
    slots: `o` is the payload field that is emitted.  `C11.signmsg_verify_iff` / `C03.verifySig_iff`
    reduce `Verify` (under any positionally matching verifiers) to the per-slot facts: each decoded
    entry re-emits the protected bytes verbatim, so `ToBeSigned` — which looks at an entry only
    through `marshalProtected` — is the one that was signed, and the gate passes on the decoded
    protected map.  That the body
    protected bytes pass `deterministicBinaryString` is read off the first slot's successful
    signing.  The body bound is not strict: `SignMessage.Sign` never touches the body headers. -/
theorem signmsg_wire_with (decP decU : GoMap → GoMap) (m : SignMsg) (ext : Option Bytes)
    (ss : List Signer) (o : Option Bytes) (b : Bytes)
    (hrp : m.h.rawP = none) (hru : m.h.rawU = none)
    (hp : ProtWire m.h.p (decP m.h.p)) (hu : UnprotWire 1 m.h.u (decU m.h.u))
    (hslots : ∀ sg ∈ m.sigs, SlotWire decP decU sg) (hn : m.sigs.length ≤ maxElems)
    (ho : blen o < 18446744073709551616) (hgs : ∀ s ∈ ss, GoSigner s)
    (hok : (Sign.sign m ext ss).out = .ok ())
    (henc : Sign.marshal { (Sign.sign m ext ss).state with payload := o } = .ok b) :
    ∃ m2, Sign.unmarshal b = .ok m2 ∧ m2.payload = o ∧
      (∀ vs : List Verifier, ss.length = vs.length →
        (∀ i (h1 : i < ss.length) (h2 : i < vs.length), C01.Matches ss[i] vs[i]) →
        (Sign.verify { m2 with payload := m.payload } ext vs).1 = .ok ()) ∧
      m2.sigs.length = m.sigs.length ∧
      (∀ i (h1 : i < m2.sigs.length) (h2 : i < (Sign.sign m ext ss).state.sigs.length),
        m2.sigs[i].sig = (Sign.sign m ext ss).state.sigs[i].sig) ∧
      m2.h.p = decP m.h.p ∧ m2.h.u = decU m.h.u ∧
      (∀ i (h1 : i < m2.sigs.length) (h2 : i < m.sigs.length),
        m2.sigs[i].h.u = decU m.sigs[i].h.u) ∧
      (∀ i (h1 : i < m2.sigs.length) (h2 : i < m.sigs.length) (h3 : i < ss.length),
        AlgCases m.sigs[i].h.p m2.sigs[i].h.p ss[i].alg ext) := by
  obtain ⟨bprot, hpn, hemp, hl, hb, hloop, hst⟩ := C01.signmsg_sign_ok_inv m ext ss hok
  obtain ⟨hll, hidx⟩ := C01.signLoop_ok_inv bprot m.payload ext m.sigs ss hloop
  have hmem := signLoop_ok_mem bprot m.payload ext m.sigs ss hl hloop
  obtain ⟨⟨rp, p, ru, u⟩, pay, sgs⟩ := m
  simp only at hrp hru hp hu hslots hn hpn hemp hl hb hloop hll hidx hmem
  subst hrp hru
  have hsne : sgs ≠ [] := by
    intro hc
    rw [hc] at hemp
    exact absurd hemp (by simp)
  have hps : pay.isSome = true := by
    cases pay with
    | none => simp at hpn
    | some _ => rfl
  obtain ⟨bp', hd, hbok⟩ := body_det_of_loop bprot pay ext sgs ss hl hsne hloop
  rw [hst] at henc ⊢
  simp only at henc ⊢
  have hall : ∀ st ∈ (signLoop bprot pay ext sgs ss).1, SlotDecodes (Decoded decP decU) st := by
    intro st hstm
    obtain ⟨i, h1, h2, rfl, hout⟩ := hmem st hstm
    exact slot_wire decP decU sgs[i] ss[i] bprot pay ext (hslots _ (List.getElem_mem h1))
      (hgs _ (List.getElem_mem h2)) hout
  obtain ⟨m2, hdec, hpay, hP2, hp2, hu2, hl2, hsame⟩ :=
    signmsg_decodes (Decoded decP decU) o (signLoop bprot pay ext sgs ss).1 b bprot bp' hp hu ho
      (by omega) hall hb hd henc
  -- what signing left in slot `i`, and what the decoder made of it
  have hslot : ∀ i (hi : i < sgs.length) (hi' : i < ss.length) (h1 : i < m2.sigs.length),
      ∃ p1 tbs sig, ensureSigningAlgorithm none (sgs[i]'hi).h.p (ss[i]'hi').alg ext = .ok p1 ∧
        Signature.toBeSigned { sgs[i]'hi with h := { (sgs[i]'hi).h with p := p1 } } bprot pay ext
          = .ok tbs ∧
        (ss[i]'hi').sign tbs = .ok sig ∧
        Decoded decP decU { h := { (sgs[i]'hi).h with p := p1 }, sig := some sig }
          (m2.sigs[i]'h1) := by
    intro i hi hi' h1
    obtain ⟨hsti, hout⟩ := hidx i hi hi'
    obtain ⟨p1, tbs, sig, -, -, hgate, ht, hsg, hstate⟩ :=
      C01.signature_sign_ok_inv sgs[i] ss[i] bprot pay ext hout
    have hd := hsame i (by omega) h1
    rw [hsti, hstate] at hd
    rw [(hslots _ (List.getElem_mem hi)).1] at hgate
    exact ⟨p1, tbs, sig, hgate, ht, hsg, hd⟩
  refine ⟨m2, hdec, hpay, fun vs hlen hm => ?_, by omega, ?_, hp2, hu2, ?_, ?_⟩
  · rw [C11.signmsg_verify_iff]
    refine ⟨hps, ?_, by simp only; omega, bprot, hP2, ?_⟩
    · intro hc
      simp only at hc
      rw [hc] at hl2
      simp only [List.length_nil] at hl2
      exact hsne (List.eq_nil_of_length_eq_zero (by omega))
    · intro i h1 h2
      simp only at h1 ⊢
      have hi : i < sgs.length := by omega
      have hi' : i < ss.length := by omega
      obtain ⟨p1, tbs, sig, hgate, ht, hsg, ⟨hs2, hmp2, ha2⟩, -⟩ := hslot i hi hi' h1
      simp only at hs2 hmp2 ha2
      have hmi := hm i hi' h2
      rw [C03.verifySig_iff]
      refine ⟨hps, by rw [hs2]; exact C01.blen_some_ne (hmi.nonempty _ _ hsg),
        hbok, gate_decoded hgate ha2 hmi.alg, tbs, ?_, ?_⟩
      · rw [sigTbs_congr (c := { sgs[i]'hi with h := { (sgs[i]'hi).h with p := p1 } }) hmp2]
        exact ht
      · rw [hs2]
        exact hmi.correct _ _ hsg
  · intro i h1 h2
    exact (hsame i h2 h1).1.1
  · intro i h1 h2
    obtain ⟨p1, tbs, sig, -, -, -, -, -, hu2⟩ := hslot i h2 (by omega) h1
    exact hu2
  · intro i h1 h2 h3
    obtain ⟨p1, tbs, sig, hgate, -, -, ⟨-, -, ha2⟩, -⟩ := hslot i h2 h3 h1
    exact AlgCases.of_gate hgate ha2

theorem signmsg_wire (decP decU : GoMap → GoMap) (m : SignMsg) (ext : Option Bytes)
    (ss : List Signer) (b : Bytes) (hrp : m.h.rawP = none) (hru : m.h.rawU = none)
    (hp : ProtWire m.h.p (decP m.h.p)) (hu : UnprotWire 1 m.h.u (decU m.h.u))
    (hslots : ∀ sg ∈ m.sigs, SlotWire decP decU sg) (hn : m.sigs.length ≤ maxElems)
    (hpl : blen m.payload < 18446744073709551616) (hgs : ∀ s ∈ ss, GoSigner s)
    (hok : (Sign.sign m ext ss).out = .ok ())
    (henc : Sign.marshal (Sign.sign m ext ss).state = .ok b) :
    ∃ m2, Sign.unmarshal b = .ok m2 ∧
      (∀ vs : List Verifier, ss.length = vs.length →
        (∀ i (h1 : i < ss.length) (h2 : i < vs.length), C01.Matches ss[i] vs[i]) →
        (Sign.verify m2 ext vs).1 = .ok ()) ∧
      m2.payload = m.payload ∧ m2.sigs.length = m.sigs.length ∧
      (∀ i (h1 : i < m2.sigs.length) (h2 : i < (Sign.sign m ext ss).state.sigs.length),
        m2.sigs[i].sig = (Sign.sign m ext ss).state.sigs[i].sig) ∧
      m2.h.p = decP m.h.p ∧ m2.h.u = decU m.h.u ∧
      (∀ i (h1 : i < m2.sigs.length) (h2 : i < m.sigs.length),
        m2.sigs[i].h.u = decU m.sigs[i].h.u) ∧
      (∀ i (h1 : i < m2.sigs.length) (h2 : i < m.sigs.length) (h3 : i < ss.length),
        AlgCases m.sigs[i].h.p m2.sigs[i].h.p ss[i].alg ext) := by
  obtain ⟨_, -, -, -, -, -, hst⟩ := C01.signmsg_sign_ok_inv m ext ss hok
  have henc' : Sign.marshal { (Sign.sign m ext ss).state with payload := m.payload } = .ok b := by
    rw [hst] at henc ⊢
    exact henc
  obtain ⟨m2, hdec, hpay, hver, hrest⟩ :=
    signmsg_wire_with decP decU m ext ss m.payload b hrp hru hp hu hslots hn hpl hgs hok henc'
  refine ⟨m2, hdec, ?_, hpay, hrest⟩
  rw [← hpay] at hver
  exact hver

end SignWireClosure
