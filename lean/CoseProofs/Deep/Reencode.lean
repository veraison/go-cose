/-
  Deep/Reencode — decode → encode → decode cycles.
  * C05: envelope of an accepted COSE_Signature, shape of accepted header buckets.
  * C09: re-encoding a decoded COSE_Sign1 / COSE_Signature copies both header buckets verbatim,
    changes at most the heads of payload / signature, reproduces a deterministically encoded
    input identically, and is a fixpoint after the first cycle (same decoded value).  The
    re-emitted tree is related to the received one item by item (`Reencode.Repl`); that it is
    accepted again and not longer follows from this relation for every message kind.
-/
import CoseModel.Messages
import CoseProofs.Lemmas.Parse
import CoseProofs.Lemmas.Decode
import CoseProofs.Props.C05
import CoseProofs.Props.C08
import CoseProofs.Props.C09
import CoseProofs.Deep.Headers
open CoseModel

/-! ### wire items -/
namespace Reencode

/-- a parsed array whose input starts with an immediate-head byte has an immediate head: the
    parser read that head -/
theorem parsed_arr_imm {t : Bool} {c : UInt8} {r : Bytes} {hw : HW} {xs : List Wire}
    (hpt : parseTop t (c :: r) = some (.arr hw xs)) (hc : c.toNat % 32 < 24) : hw = .imm := by
  obtain ⟨hbytes, hwf, -⟩ := parseTop_sound hpt
  have h := parseHead_headBytes 4 xs.length hw (Wire.bytesList xs) (by decide)
    (Bool.and_eq_true_iff.mp hwf).1
  rw [show headBytes 4 hw xs.length ++ Wire.bytesList xs = c :: r from hbytes.symm,
    parseHead_imm c r hc, Option.some.injEq, Prod.mk.injEq, Prod.mk.injEq] at h
  exact h.2.1.symm

theorem null_bytes : (Wire.prim .imm 22).bytes = [0xf6] := by decide

theorem len_mono {w w' : HW} (h : w.ai ≤ w'.ai) : w.len ≤ w'.len := by
  revert h
  cases w <;> cases w' <;> decide

/-! #### prefix-freeness -/

theorem wf_fits {x : Wire} (h : x.wf = true) : (whw x).fits (warg x) = true := by
  cases x with
  | prim w n => exact Wire.wf_prim h
  | uint _ _ | nint _ _ | bstr _ _ | tstr _ _ => exact h
  | arr _ _ | map _ _ | tag _ _ _ => exact (Bool.and_eq_true_iff.mp h).1

theorem head_split {x y : Wire} {r r' : Bytes} (hx : x.wf = true) (hy : y.wf = true)
    (h : x.bytes ++ r = y.bytes ++ r') :
    x.major = y.major ∧ whw x = whw y ∧ warg x = warg y ∧ wbody x ++ r = wbody y ++ r' := by
  rw [bytes_decomp x, bytes_decomp y, List.append_assoc, List.append_assoc] at h
  have h1 := parseHead_headBytes x.major (warg x) (whw x) (wbody x ++ r) x.major_lt (wf_fits hx)
  rw [h, parseHead_headBytes y.major (warg y) (whw y) (wbody y ++ r') y.major_lt (wf_fits hy)] at h1
  simp only [Option.some.injEq, Prod.mk.injEq] at h1
  exact ⟨h1.1.symm, h1.2.1.symm, h1.2.2.1.symm, h1.2.2.2.symm⟩

mutual
/-- prefix-freeness of well-formed encodings, without the parser's limits -/
theorem bytes_append_inj : ∀ (x y : Wire) (r r' : Bytes), x.wf = true → y.wf = true →
    x.bytes ++ r = y.bytes ++ r' → x = y ∧ r = r'
  | .uint w n, y, r, r', hx, hy, h | .nint w n, y, r, r', hx, hy, h
  | .prim w n, y, r, r', hx, hy, h => by
    obtain ⟨hm, hw, ha, hb⟩ := head_split hx hy h
    cases y <;> cases hm
    simp only [whw, warg, wbody, List.nil_append] at hw ha hb
    subst hw ha hb; exact ⟨rfl, rfl⟩
  | .bstr w b, y, r, r', hx, hy, h | .tstr w b, y, r, r', hx, hy, h => by
    obtain ⟨hm, hw, ha, hb⟩ := head_split hx hy h
    cases y <;> cases hm
    simp only [whw, warg, wbody] at hw ha hb
    obtain ⟨rfl, rfl⟩ := List.append_inj hb ha
    subst hw; exact ⟨rfl, rfl⟩
  | .tag w t x, y, r, r', hx, hy, h => by
    obtain ⟨hm, hw, ha, hb⟩ := head_split hx hy h
    cases y <;> cases hm
    rename_i w' t' x'
    simp only [whw, warg, wbody] at hw ha hb
    simp only [Wire.wf, Bool.and_eq_true] at hx hy
    obtain ⟨rfl, rfl⟩ := bytes_append_inj x x' r r' hx.2 hy.2 hb
    subst hw ha; exact ⟨rfl, rfl⟩
  | .arr w xs, y, r, r', hx, hy, h => by
    obtain ⟨hm, hw, ha, hb⟩ := head_split hx hy h
    cases y <;> cases hm
    rename_i w' xs'
    simp only [whw, warg, wbody] at hw ha hb
    simp only [Wire.wf, Bool.and_eq_true] at hx hy
    obtain ⟨rfl, rfl⟩ := bytesList_append_inj xs xs' r r' hx.2 hy.2 ha hb
    subst hw; exact ⟨rfl, rfl⟩
  | .map w xs, y, r, r', hx, hy, h => by
    obtain ⟨hm, hw, ha, hb⟩ := head_split hx hy h
    cases y <;> cases hm
    rename_i w' xs'
    simp only [whw, warg, wbody] at hw ha hb
    simp only [Wire.wf, Bool.and_eq_true] at hx hy
    obtain ⟨rfl, rfl⟩ := bytesPairs_append_inj xs xs' r r' hx.2 hy.2 ha hb
    subst hw; exact ⟨rfl, rfl⟩
theorem bytesList_append_inj : ∀ (xs ys : List Wire) (r r' : Bytes), Wire.wfList xs = true →
    Wire.wfList ys = true → xs.length = ys.length →
    Wire.bytesList xs ++ r = Wire.bytesList ys ++ r' → xs = ys ∧ r = r'
  | [], [], r, r', _, _, _, h => by simpa [Wire.bytesList] using h
  | [], _ :: _, _, _, _, _, hl, _ => by simp at hl
  | _ :: _, [], _, _, _, _, hl, _ => by simp at hl
  | x :: xs, y :: ys, r, r', hx, hy, hl, h => by
    simp only [Wire.wfList, Bool.and_eq_true] at hx hy
    simp only [Wire.bytesList, List.append_assoc] at h
    obtain ⟨rfl, h'⟩ := bytes_append_inj x y _ _ hx.1 hy.1 h
    obtain ⟨rfl, rfl⟩ := bytesList_append_inj xs ys r r' hx.2 hy.2 (by simpa using hl) h'
    exact ⟨rfl, rfl⟩
theorem bytesPairs_append_inj : ∀ (xs ys : List (Wire × Wire)) (r r' : Bytes),
    Wire.wfPairs xs = true → Wire.wfPairs ys = true → xs.length = ys.length →
    Wire.bytesPairs xs ++ r = Wire.bytesPairs ys ++ r' → xs = ys ∧ r = r'
  | [], [], r, r', _, _, _, h => by simpa [Wire.bytesPairs] using h
  | [], _ :: _, _, _, _, _, hl, _ => by simp at hl
  | _ :: _, [], _, _, _, _, hl, _ => by simp at hl
  | (k, v) :: xs, (k', v') :: ys, r, r', hx, hy, hl, h => by
    simp only [Wire.wfPairs, Bool.and_eq_true] at hx hy
    simp only [Wire.bytesPairs, List.append_assoc] at h
    obtain ⟨rfl, h1⟩ := bytes_append_inj k k' _ _ hx.1.1 hy.1.1 h
    obtain ⟨rfl, h2⟩ := bytes_append_inj v v' _ _ hx.1.2 hy.1.2 h1
    obtain ⟨rfl, rfl⟩ := bytesPairs_append_inj xs ys r r' hx.2 hy.2 (by simpa using hl) h2
    exact ⟨rfl, rfl⟩
end

theorem bytes_inj {x y : Wire} (hx : x.wf = true) (hy : y.wf = true) (h : x.bytes = y.bytes) :
    x = y :=
  (bytes_append_inj x y [] [] hx hy (by simpa using h)).1

end Reencode

/-! ### byte-string items, array bytes -/
namespace Accept

/-- an item that decodes to a non-empty `byteString` is a non-empty byte string -/
theorem wfsig_of_dec {sg : Wire} {o : Option Bytes} (h : decByteString sg = .ok o)
    (hz : blen o ≠ 0) : ∃ hw b, sg = .bstr hw b ∧ b ≠ [] ∧ o = some b := by
  rcases C05.payload_shape sg o h with ⟨rfl, rfl⟩ | ⟨hw, b, rfl, rfl⟩
  · exact absurd rfl hz
  · exact ⟨hw, b, rfl, fun hb => hz (congrArg List.length hb), rfl⟩

theorem arr3_bytes (p u sg : Wire) :
    (Wire.arr .imm [p, u, sg]).bytes = 0x83 :: (p.bytes ++ (u.bytes ++ sg.bytes)) := by
  have h83 : headBytes 4 .imm 3 = [0x83] := by decide
  simp [Wire.bytes, Wire.bytesList, h83]

theorem arr4_bytes (p u pl sg : Wire) :
    (Wire.arr .imm [p, u, pl, sg]).bytes =
      0x84 :: (p.bytes ++ (u.bytes ++ (pl.bytes ++ sg.bytes))) := by
  have h84 : headBytes 4 .imm 4 = [0x84] := by decide
  simp [Wire.bytes, Wire.bytesList, h84]

end Accept

namespace C13

/-- what the protected-bucket decoder accepts, keeping the generic decode of the inner map -/
theorem decProtectedContent_ok {enc : Bytes} {m : GoMap} (h : decProtectedContent enc = .ok m) :
    enc = [] ∧ m = [] ∨ ∃ hw kvs m0, parseTop true enc = some (.map hw kvs) ∧
      decodePairs kvs [] = .ok m0 ∧ validateHeaderParameters m0 true = true ∧ m = castAlg m0 := by
  unfold decProtectedContent at h
  split at h
  · exact .inl ⟨rfl, (Out.ok.inj h).symm⟩
  · split at h
    · cases h
    · split at h
      · simp only [Out.bind_eq_ok, Out.guard_eq_ok, Bool.not_eq_true', Bool.not_eq_false] at h
        obtain ⟨-, -, -, m0, hd, hv, hm⟩ := h
        exact .inr ⟨_, _, m0, ‹_›, hd, hv, (Out.ok.inj hm).symm⟩
      · cases h

end C13

/-! ### accepted envelopes and header buckets -/
namespace C05

theorem decSigFields_ok {xs : List Wire} {v : GoVal} (h : decSigFields xs = .ok v) :
    ∃ (p u sg : Wire) (sig : Option Bytes) (pm um : GoMap),
      xs = [p, u, sg] ∧ decByteString sg = .ok sig ∧ blen sig ≠ 0 ∧
      decProtected p = .ok pm ∧ decUnprot u = .ok um ∧ ensureIV pm um = true ∧
      v = .csig (some p.bytes) pm (some u.bytes) um sig := by
  rw [decSigFields_eq] at h
  split at h
  · simp only [Out.bind_eq_ok, Out.guard_eq_ok, Bool.not_eq_true', Bool.not_eq_false] at h
    obtain ⟨sig, hsg, hz, pm, hp, um, hu, hiv, hv⟩ := h
    exact ⟨_, _, _, sig, pm, um, rfl, hsg, hz, hp, hu, hiv, (Out.ok.inj hv).symm⟩
  · cases h

/-- the envelope of an accepted COSE_Signature / countersignature, with the parser facts
    (`parseTop`, limits) that the re-encoding theorems need -/
theorem signature_accept_envelope_full (b : Bytes) (s : SigV)
    (h : Signature.unmarshal b = .ok s) :
    ∃ (p u sg : Wire),
      parseTop false b = some (Wire.arr .imm [p, u, sg]) ∧
      b = (Wire.arr .imm [p, u, sg]).bytes ∧ (Wire.arr .imm [p, u, sg]).wf = true ∧
      (Wire.arr .imm [p, u, sg]).inLimits false 0 = true ∧
      (Wire.arr .imm [p, u, sg]).hasTag = false ∧
      decByteString sg = .ok s.sig ∧ blen s.sig ≠ 0 ∧
      decProtected p = .ok s.h.p ∧ decUnprot u = .ok s.h.u ∧ ensureIV s.h.p s.h.u = true ∧
      s.h.rawP = some p.bytes ∧ s.h.rawU = some u.bytes := by
  unfold Signature.unmarshal at h
  split at h
  · split at h
    · split at h
      next v hf =>
        split at h
        · cases h
          have hpt : parseTop false _ = some (Wire.arr _ _) := ‹_›
          have hs : sigOfVal v = some s := ‹_›
          obtain ⟨p, u, sg, sig, pm, um, rfl, hsg, hz, hp, hu, hiv, rfl⟩ := decSigFields_ok hf
          cases hs
          obtain rfl := Reencode.parsed_arr_imm hpt (by decide)
          obtain ⟨hbytes, hwf, hlim⟩ := parseTop_sound hpt
          exact ⟨p, u, sg, hpt, hbytes, hwf, hlim, parseTop_noTag hpt, hsg, hz, hp, hu, hiv, rfl,
            rfl⟩
        · cases h
      all_goals cases h
    · cases h
  · cases h

/-- the envelope of an accepted COSE_Signature: exactly one definite-length 3-array with an
    immediate head (0x83), nothing after it, no tag inside, signature a non-empty byte string,
    protected bucket a byte string, unprotected bucket a map, raw bytes retained -/
theorem signature_accept_envelope (b : Bytes) (s : SigV) (h : Signature.unmarshal b = .ok s) :
    ∃ (p u sg : Wire), b = (Wire.arr .imm [p, u, sg]).bytes ∧
      (Wire.arr .imm [p, u, sg]).wf = true ∧ (Wire.arr .imm [p, u, sg]).hasTag = false ∧
      decByteString sg = .ok s.sig ∧ blen s.sig ≠ 0 ∧
      decProtected p = .ok s.h.p ∧ decUnprot u = .ok s.h.u ∧
      s.h.rawP = some p.bytes ∧ s.h.rawU = some u.bytes := by
  obtain ⟨p, u, sg, -, hb, hwf, -, hnt, hsg, hz, hp, hu, -, hrp, hru⟩ :=
    signature_accept_envelope_full b s h
  exact ⟨p, u, sg, hb, hwf, hnt, hsg, hz, hp, hu, hrp, hru⟩

/-- an accepted protected bucket is a byte string that is empty or wraps exactly one map with
    nothing after it (`parseTop` demands the whole content be one item) -/
theorem protected_is_bstr_of_map (p : Wire) (m : GoMap) (h : decProtected p = .ok m) :
    ∃ hw enc, p = .bstr hw enc ∧
      (enc = [] ∨ ∃ hw' kvs, parseTop true enc = some (.map hw' kvs)) := by
  unfold decProtected at h
  split at h
  · rcases C13.decProtectedContent_ok h with ⟨rfl, -⟩ | ⟨hw', kvs, -, hpt, -⟩
    · exact ⟨_, _, rfl, .inl rfl⟩
    · exact ⟨_, _, rfl, .inr ⟨hw', kvs, hpt⟩⟩
  · cases h

/-- … and (soundness of the parser) the content bytes are exactly the bytes of that map -/
theorem protected_content_is_map_bytes (p : Wire) (m : GoMap) (h : decProtected p = .ok m) :
    ∃ hw enc, p = .bstr hw enc ∧
      (enc = [] ∨ ∃ hw' kvs, enc = (Wire.map hw' kvs).bytes ∧ (Wire.map hw' kvs).wf = true) := by
  obtain ⟨hw, enc, rfl, h'⟩ := protected_is_bstr_of_map p m h
  refine ⟨hw, enc, rfl, ?_⟩
  rcases h' with h' | ⟨hw', kvs, hpt⟩
  · left; exact h'
  · right
    have := parseTop_sound hpt
    exact ⟨hw', kvs, this.1, this.2.1⟩

/-- an accepted unprotected bucket is a map -/
theorem unprotected_is_map (u : Wire) (m : GoMap) (h : decUnprot u = .ok m) :
    ∃ hw kvs, u = .map hw kvs := by
  unfold decUnprot at h
  split at h
  · exact ⟨_, _, rfl⟩
  · cases h

end C05

/-! ### the items the encoder emits -/
namespace C09

/-- the tag-18 prefix of the tagged form -/
def pre (tagged : Bool) : Bytes := if tagged then [0xd2] else []

theorem decHeaders_ok {p u : Wire} {h : Hdrs} (hd : decHeaders p u = .ok h) :
    decProtected p = .ok h.p ∧ decUnprot u = .ok h.u ∧ ensureIV h.p h.u = true ∧
    h.rawP = some p.bytes ∧ h.rawU = some u.bytes := by
  unfold decHeaders at hd
  simp only [Out.bind_eq_ok, Out.guard_eq_ok, Bool.not_eq_true', Bool.not_eq_false] at hd
  obtain ⟨pm, hp, um, hu, hiv, hh⟩ := hd
  cases hh
  exact ⟨hp, hu, hiv, rfl, rfl⟩

theorem decHeaders_of {p u : Wire} {pm um : GoMap} (hp : decProtected p = .ok pm)
    (hu : decUnprot u = .ok um) (hiv : ensureIV pm um = true) :
    decHeaders p u = .ok { rawP := some p.bytes, p := pm, rawU := some u.bytes, u := um } := by
  simp [decHeaders, hp, hu, hiv, bind, Out.bind]

/-- headers that retain the bytes of two wire items marshal to exactly those bytes -/
theorem hdrs_marshal_verbatim {h : Hdrs} {p u : Wire} (hrp : h.rawP = some p.bytes)
    (hru : h.rawU = some u.bytes) (hiv : ensureIV h.p h.u = true)
    (hm : GoVal.modelledPairs h.p = true ∧ GoVal.modelledPairs h.u = true) :
    h.marshal = .ok (p.bytes, u.bytes) := by
  simp [Hdrs.marshal, hiv, marshalProtected_raw hrp hm.1, marshalUnprotected_raw hru hm.2, bind,
    Out.bind]

theorem decodeArr_of {arr : Bytes} {hw : HW} {p u pl sg : Wire} {pay sig : Option Bytes}
    {h : Hdrs} (hpt : parseTop false arr = some (.arr hw [p, u, pl, sg]))
    (hpl : decByteString pl = .ok pay) (hsg : decByteString sg = .ok sig) (hz : blen sig ≠ 0)
    (hh : decHeaders p u = .ok h) :
    Sign1.decodeArr arr = .ok { h := h, payload := pay, sig := sig } := by
  simp [Sign1.decodeArr, hpt, hpl, hsg, hz, hh, bind, Out.bind]

/-- `Sign1.unmarshal` = prefix check + `decodeArr` on the array -/
theorem unmarshal_ok {tagged : Bool} {b : Bytes} {m : Sign1Msg}
    (h : Sign1.unmarshal tagged b = .ok m) :
    ∃ r, b = pre tagged ++ 0x84 :: r ∧ Sign1.decodeArr (0x84 :: r) = .ok m := by
  unfold Sign1.unmarshal at h
  cases tagged with
  | true =>
    simp only [if_true] at h
    split at h
    · rename_i r; exact ⟨r, by simp [pre], h⟩
    · cases h
  | false =>
    simp only [Bool.false_eq_true, if_false] at h
    split at h
    · rename_i r; exact ⟨r, by simp [pre], h⟩
    · cases h

theorem unmarshal_of (tagged : Bool) (r : Bytes) :
    Sign1.unmarshal tagged (pre tagged ++ 0x84 :: r) = Sign1.decodeArr (0x84 :: r) := by
  cases tagged <;> simp [Sign1.unmarshal, pre]

/-- everything the decoder establishes about an accepted COSE_Sign1 -/
theorem sign1_envelope_full {tagged : Bool} {b : Bytes} {m : Sign1Msg}
    (h : Sign1.unmarshal tagged b = .ok m) :
    ∃ (p u pl sg : Wire),
      b = pre tagged ++ (Wire.arr .imm [p, u, pl, sg]).bytes ∧
      parseTop false (Wire.arr .imm [p, u, pl, sg]).bytes = some (Wire.arr .imm [p, u, pl, sg]) ∧
      (Wire.arr .imm [p, u, pl, sg]).wf = true ∧
      (Wire.arr .imm [p, u, pl, sg]).inLimits false 0 = true ∧
      decByteString pl = .ok m.payload ∧ decByteString sg = .ok m.sig ∧ blen m.sig ≠ 0 ∧
      decHeaders p u = .ok m.h := by
  obtain ⟨r, hb, hd⟩ := unmarshal_ok h
  unfold Sign1.decodeArr at hd
  split at hd
  · rename_i hw p u pl sg hpt
    simp only [Out.bind_eq_ok, Out.guard_eq_ok] at hd
    obtain ⟨pay, hpl, sig, hsg, hz, h, hh, hm⟩ := hd
    cases hm
    obtain rfl := Reencode.parsed_arr_imm hpt (by decide)
    obtain ⟨hbytes, hwf, hlim⟩ := parseTop_sound hpt
    rw [hbytes] at hpt hb
    exact ⟨p, u, pl, sg, hb, hpt, hwf, hlim, hpl, hsg, hz, hh⟩
  · cases hd

/-- the item the encoder emits for a `byteString` field: `f6` for nil, else a byte string with
    the shortest head -/
def shortItem : Option Bytes → Wire
  | none => .prim .imm 22
  | some b => .bstr (HW.shortest b.length) b

theorem shortItem_bytes (o : Option Bytes) : (shortItem o).bytes = optBytesEnc o := by
  cases o with
  | none => exact Reencode.null_bytes
  | some b => rfl

theorem shortItem_dec (o : Option Bytes) : decByteString (shortItem o) = .ok o := by
  cases o <;> rfl

theorem shortItem_inLimits (o : Option Bytes) (d : Nat) : (shortItem o).inLimits false d = true := by
  cases o <;> simp [shortItem, Wire.inLimits]

/-- the shortest-head item is well-formed whenever the original item was -/
theorem shortItem_wf {w : Wire} {o : Option Bytes} (hwf : w.wf = true)
    (hd : decByteString w = .ok o) : (shortItem o).wf = true := by
  rcases C05.payload_shape _ _ hd with ⟨rfl, rfl⟩ | ⟨hw, c, rfl, rfl⟩
  · exact hwf
  · exact C08.shortest_fits _ (HW.fits_lt hwf)

theorem shortest_head_le {w : HW} {n : Nat} (m : Nat) (hf : w.fits n = true) :
    (headBytes m (HW.shortest n) n).length ≤ (headBytes m w n).length := by
  rw [HeadersDeep.headBytes_length, HeadersDeep.headBytes_length]
  exact Nat.succ_le_succ (Reencode.len_mono (C08.shortest_minimal n w hf))

/-- the encoder emits a non-empty `byteString` field as `shortItem` -/
theorem sig_some {o : Option Bytes} (hz : blen o ≠ 0) :
    encBstr (o.getD []) = (shortItem o).bytes := by
  cases o with
  | none => exact absurd rfl hz
  | some s => rfl

theorem blen_some_ne {c : Bytes} (hc : c ≠ []) : blen (some c) ≠ 0 := by
  cases c with
  | nil => exact absurd rfl hc
  | cons x xs => exact Nat.succ_ne_zero _

/-- an item with a shortest head is what the encoder emits for its decoded value -/
theorem shortest_eq_shortItem {w : Wire} {o : Option Bytes}
    (hs : w = .prim .imm 22 ∨ ∃ c, w = .bstr (HW.shortest c.length) c)
    (hd : decByteString w = .ok o) : w = shortItem o := by
  rcases hs with rfl | ⟨c, rfl⟩
  · cases hd; rfl
  · cases hd; rfl

/-- bytes of an item accepted by `decByteString`, relative to the decoded value -/
theorem item_bytes {w : Wire} {o : Option Bytes} (hd : decByteString w = .ok o) :
    (o = none ∧ w.bytes = [0xf6]) ∨
    ∃ (hw : HW) (c : Bytes), o = some c ∧ w.bytes = headBytes 2 hw c.length ++ c := by
  rcases C05.payload_shape _ _ hd with ⟨rfl, rfl⟩ | ⟨hw, c, rfl, rfl⟩
  · exact .inl ⟨rfl, Reencode.null_bytes⟩
  · exact .inr ⟨hw, c, rfl, rfl⟩

end C09

/-! ### re-emitting a tree item by item -/
namespace Reencode
open C09 (shortItem shortItem_wf shortItem_inLimits shortest_head_le)

/-- `y` may stand where `x` stood in a tree the parser accepts: it is well-formed and within the
    limits wherever `x` is, and not longer.  The encoder re-emits every item of a decoded message
    either verbatim or with shortest heads, so each re-emitted item is related to the received one
    in this way; this is what makes the re-encoded message decodable and not longer. -/
structure Repl (x y : Wire) : Prop where
  wf : x.wf = true → y.wf = true
  inLimits : ∀ d, x.inLimits false d = true → y.inLimits false d = true
  length_le : x.wf = true → y.bytes.length ≤ x.bytes.length

def ReplList : List Wire → List Wire → Prop
  | [], [] => True
  | x :: xs, y :: ys => Repl x y ∧ ReplList xs ys
  | _, _ => False

theorem Repl.refl (x : Wire) : Repl x x :=
  ⟨id, fun _ => id, fun _ => Nat.le_refl _⟩

theorem Repl.shortItem {w : Wire} {o : Option Bytes} (hd : decByteString w = .ok o) :
    Repl w (shortItem o) := by
  refine ⟨fun hwf => shortItem_wf hwf hd, fun d _ => shortItem_inLimits o d, fun hwf => ?_⟩
  rcases C05.payload_shape _ _ hd with ⟨rfl, rfl⟩ | ⟨hw, c, rfl, rfl⟩
  · exact Nat.le_refl _
  · have := shortest_head_le 2 (n := c.length) hwf
    simp only [C09.shortItem, Wire.bytes, List.length_append]
    omega

theorem ReplList.map {f : Wire → Wire} : ∀ {xs : List Wire},
    (∀ x ∈ xs, Repl x (f x)) → ReplList xs (xs.map f)
  | [], _ => trivial
  | x :: _, h =>
    ⟨h x (List.mem_cons_self ..), ReplList.map fun y hy => h y (List.mem_cons_of_mem _ hy)⟩

theorem ReplList.lift : ∀ {xs ys : List Wire}, ReplList xs ys →
    (Wire.wfList xs = true → Wire.wfList ys = true ∧
      (Wire.bytesList ys).length ≤ (Wire.bytesList xs).length) ∧
    ∀ d, Wire.inLimitsList false d xs = true → Wire.inLimitsList false d ys = true
  | [], [], _ => ⟨fun _ => ⟨rfl, Nat.le_refl _⟩, fun _ => id⟩
  | x :: xs, y :: ys, ⟨h, hs⟩ => by
    obtain ⟨hw, hi⟩ := ReplList.lift hs
    refine ⟨fun hx => ?_, fun d hd => ?_⟩
    · simp only [Wire.wfList, Bool.and_eq_true] at hx ⊢
      have := h.length_le hx.1
      have := (hw hx.2).2
      refine ⟨⟨h.wf hx.1, (hw hx.2).1⟩, ?_⟩
      simp only [Wire.bytesList, List.length_append]
      omega
    · simp only [Wire.inLimitsList, Bool.and_eq_true] at hd ⊢
      exact ⟨h.inLimits d hd.1, hi d hd.2⟩
  | [], _ :: _, h | _ :: _, [], h => h.elim

theorem Repl.arr {hw : HW} {xs ys : List Wire} (h : ReplList xs ys) (hl : ys.length = xs.length) :
    Repl (.arr hw xs) (.arr (HW.shortest xs.length) ys) := by
  obtain ⟨hwf, hlim⟩ := h.lift
  refine ⟨fun hx => ?_, fun d hd => ?_, fun hx => ?_⟩
  · simp only [Wire.wf, Bool.and_eq_true, hl] at hx ⊢
    exact ⟨C08.shortest_fits _ (HW.fits_lt hx.1), (hwf hx.2).1⟩
  · simp only [Wire.inLimits, Bool.and_eq_true, hl] at hd ⊢
    exact ⟨hd.1, hlim _ hd.2⟩
  · simp only [Wire.wf, Bool.and_eq_true] at hx
    have := shortest_head_le 4 hx.1
    have := (hwf hx.2).2
    simp only [Wire.bytes, List.length_append, hl]
    omega

/-- A decoder/encoder pair round-trips on the input `pre ++ t.bytes`, decoded to `m`, as soon as
    the encoder emits `m` as `pre ++ t'.bytes` for a tree `t'` that may stand for `t`, and that
    output decodes to `m` again. -/
theorem roundtrip_of_repl {α : Type} {dec : Bytes → Out α} {enc : α → Out Bytes} {m : α}
    {pre : Bytes} {t t' : Wire} (hwf : t.wf = true) (hr : Repl t t')
    (he : enc m = .ok (pre ++ t'.bytes)) (hd : dec (pre ++ t'.bytes) = .ok m) :
    ∃ b1, enc m = .ok b1 ∧ dec b1 = .ok m ∧ b1.length ≤ (pre ++ t.bytes).length := by
  refine ⟨_, he, hd, ?_⟩
  rw [List.length_append, List.length_append]
  exact Nat.add_le_add_left (hr.length_le hwf) _

/-- the encoder being a function, a round trip makes every output a fixpoint -/
theorem fixpoint_of_roundtrip {α : Type} {dec : Bytes → Out α} {enc : α → Out Bytes} {m : α}
    {b1 : Bytes} {n : Nat} (h : ∃ b', enc m = .ok b' ∧ dec b' = .ok m ∧ b'.length ≤ n)
    (he : enc m = .ok b1) : ∃ m1, dec b1 = .ok m1 ∧ m1 = m ∧ enc m1 = .ok b1 := by
  obtain ⟨b', he', hd', -⟩ := h
  cases he'.symm.trans he
  exact ⟨m, hd', rfl, he⟩

theorem tree_unique {b pre : Bytes} {t t0 : Wire} (hb : b = pre ++ t.bytes)
    (hb0 : b = pre ++ t0.bytes) (hwf : t.wf = true) (hwf0 : t0.wf = true) : t = t0 :=
  bytes_inj hwf hwf0 (List.append_cancel_left (hb.symm.trans hb0))

end Reencode

namespace C09
open Reencode (Repl ReplList)

/-- encoding a message whose headers were decoded from the items `p`, `u` -/
theorem marshal_of_decoded {tagged : Bool} {m : Sign1Msg} {p u : Wire}
    (hh : decHeaders p u = .ok m.h) (hz : blen m.sig ≠ 0)
    (hm : GoVal.modelledPairs m.h.p = true ∧ GoVal.modelledPairs m.h.u = true) :
    Sign1.marshal tagged m = .ok (pre tagged ++ (0x84 :: (p.bytes ++ (u.bytes ++
      (optBytesEnc m.payload ++ encBstr (m.sig.getD [])))))) := by
  obtain ⟨-, -, hiv, hrp, hru⟩ := decHeaders_ok hh
  have := hdrs_marshal_verbatim hrp hru hiv hm
  cases tagged <;> simp [Sign1.marshal, Sign1.content, hz, this, bind, Out.bind, pre]

/-- the encoder's output is the encoding of the tree `[p, u, shortItem payload, shortItem sig]` -/
theorem marshal_tree_bytes (p u : Wire) (pay sig : Option Bytes) (hz : blen sig ≠ 0) :
    (0x84 :: (p.bytes ++ (u.bytes ++ (optBytesEnc pay ++ encBstr (sig.getD []))))) =
    (Wire.arr .imm [p, u, shortItem pay, shortItem sig]).bytes := by
  rw [Accept.arr4_bytes, shortItem_bytes pay, sig_some hz]

/-- encoding a decoded message gives the tree the decoder saw with payload and signature
    re-emitted under shortest heads -/
theorem marshal_tree {tagged : Bool} {m : Sign1Msg} {p u : Wire}
    (hh : decHeaders p u = .ok m.h) (hz : blen m.sig ≠ 0)
    (hm : GoVal.modelledPairs m.h.p = true ∧ GoVal.modelledPairs m.h.u = true) :
    Sign1.marshal tagged m =
      .ok (pre tagged ++ (Wire.arr .imm [p, u, shortItem m.payload, shortItem m.sig]).bytes) := by
  rw [marshal_of_decoded hh hz hm, marshal_tree_bytes p u m.payload m.sig hz]

theorem sign1_repl {p u pl sg : Wire} {pay sig : Option Bytes} (hpl : decByteString pl = .ok pay)
    (hsg : decByteString sg = .ok sig) :
    Repl (.arr .imm [p, u, pl, sg]) (.arr .imm [p, u, shortItem pay, shortItem sig]) :=
  Repl.arr ⟨.refl p, .refl u, .shortItem hpl, .shortItem hsg, trivial⟩ rfl

/-- decoding then encoding reproduces both header buckets byte for byte (`p.bytes`,
    `u.bytes` are the input's own sub-slices); the array head is the immediate head 0x84 the
    decoder required; the output differs from the input at most in the heads of payload and
    signature -/
theorem reencode_sign1 (tagged : Bool) (b : Bytes) (m : Sign1Msg)
    (hd : Sign1.unmarshal tagged b = .ok m)
    (hm : GoVal.modelledPairs m.h.p = true ∧ GoVal.modelledPairs m.h.u = true) :
    ∃ (hw : HW) (p u pl sg : Wire),
      b = (if tagged then [0xd2] else []) ++ (Wire.arr hw [p, u, pl, sg]).bytes ∧
      Sign1.marshal tagged m = .ok ((if tagged then [0xd2] else []) ++
        (0x84 :: (p.bytes ++ (u.bytes ++ (optBytesEnc m.payload ++ encBstr (m.sig.getD [])))))) ∧
      hw = .imm ∧
      (Wire.arr hw [p, u, pl, sg]).wf = true ∧
      (Wire.arr hw [p, u, pl, sg]).inLimits false 0 = true ∧
      m.h.rawP = some p.bytes ∧ m.h.rawU = some u.bytes ∧
      ((m.payload = none ∧ pl.bytes = [0xf6]) ∨
        ∃ (w : HW) (c : Bytes), m.payload = some c ∧ pl.bytes = headBytes 2 w c.length ++ c) ∧
      (∃ (w' : HW) (s : Bytes), m.sig = some s ∧ s ≠ [] ∧
        sg.bytes = headBytes 2 w' s.length ++ s) ∧
      ((pl = .prim .imm 22 ∨ ∃ c, pl = .bstr (HW.shortest c.length) c) →
       (sg = .prim .imm 22 ∨ ∃ c, sg = .bstr (HW.shortest c.length) c) →
       Sign1.marshal tagged m = .ok b) := by
  obtain ⟨p, u, pl, sg, hb, -, hwf, hlim, hpl, hsg, hz, hh⟩ := sign1_envelope_full hd
  obtain ⟨-, -, -, hrp, hru⟩ := decHeaders_ok hh
  obtain ⟨w', s, hsw, hs, hsome⟩ := Accept.wfsig_of_dec hsg hz
  refine ⟨.imm, p, u, pl, sg, hb, marshal_of_decoded hh hz hm, rfl, hwf, hlim, hrp, hru,
    item_bytes hpl, ⟨w', s, hsome, hs, hsw ▸ rfl⟩, fun hspl hssg => ?_⟩
  rw [hb, marshal_tree hh hz hm, pre, ← shortest_eq_shortItem hspl hpl,
    ← shortest_eq_shortItem hssg hsg]

/-- a deterministically encoded input is reproduced identically: if the payload and signature
    items of the input carry shortest heads, encoding the decoded message gives back the input.
    Nothing is assumed about the header buckets — they are copied verbatim.  Well-formedness
    (`Wire.wf`: every head argument fits its width) identifies the tree as *the* parse of the
    input (`Reencode.bytes_inj`). -/
theorem reencode_det_identity (tagged : Bool) (b : Bytes) (m : Sign1Msg)
    (hd : Sign1.unmarshal tagged b = .ok m)
    (hm : GoVal.modelledPairs m.h.p = true ∧ GoVal.modelledPairs m.h.u = true)
    (hw : HW) (p u pl sg : Wire)
    (hb : b = (if tagged then [0xd2] else []) ++ (Wire.arr hw [p, u, pl, sg]).bytes)
    (hwf : (Wire.arr hw [p, u, pl, sg]).wf = true)
    (hspl : pl = .prim .imm 22 ∨ ∃ c, pl = .bstr (HW.shortest c.length) c)
    (hssg : sg = .prim .imm 22 ∨ ∃ c, sg = .bstr (HW.shortest c.length) c) :
    Sign1.marshal tagged m = .ok b := by
  obtain ⟨p0, u0, pl0, sg0, hb0, -, hwf0, -, hpl, hsg, hz, hh⟩ := sign1_envelope_full hd
  cases Reencode.tree_unique hb hb0 hwf hwf0
  rw [hb, marshal_tree hh hz hm, pre, ← shortest_eq_shortItem hspl hpl,
    ← shortest_eq_shortItem hssg hsg]

/-- `reencode_det_identity`, the tree being given as the parser's result on the array part of the input -/
theorem reencode_det_identity_parsed (tagged : Bool) (b arr : Bytes) (m : Sign1Msg)
    (hd : Sign1.unmarshal tagged b = .ok m)
    (hm : GoVal.modelledPairs m.h.p = true ∧ GoVal.modelledPairs m.h.u = true)
    (hw : HW) (p u pl sg : Wire)
    (hb : b = (if tagged then [0xd2] else []) ++ arr)
    (hpt : parseTop false arr = some (Wire.arr hw [p, u, pl, sg]))
    (hspl : pl = .prim .imm 22 ∨ ∃ c, pl = .bstr (HW.shortest c.length) c)
    (hssg : sg = .prim .imm 22 ∨ ∃ c, sg = .bstr (HW.shortest c.length) c) :
    Sign1.marshal tagged m = .ok b := by
  obtain ⟨hbytes, hwf, hlim⟩ := parseTop_sound hpt
  exact reencode_det_identity tagged b m hd hm hw p u pl sg (by rw [hb, hbytes]) hwf hspl hssg

/-- a tree whose items decode to the parts of `m` is accepted, whatever the encoding of its
    parts, and decodes to `m` -/
theorem sign1_unmarshal_tree {tagged : Bool} {m : Sign1Msg} {p u pl sg : Wire}
    (hwf : (Wire.arr .imm [p, u, pl, sg]).wf = true)
    (hlim : (Wire.arr .imm [p, u, pl, sg]).inLimits false 0 = true)
    (hpl : decByteString pl = .ok m.payload) (hsg : decByteString sg = .ok m.sig)
    (hz : blen m.sig ≠ 0) (hh : decHeaders p u = .ok m.h) :
    Sign1.unmarshal tagged (pre tagged ++ (Wire.arr .imm [p, u, pl, sg]).bytes) = .ok m := by
  have hpt := parseTop_complete hwf hlim
  rw [Accept.arr4_bytes] at hpt ⊢
  rw [unmarshal_of, decodeArr_of hpt hpl hsg hz hh]

/-- the re-encoded bytes decode to the same value -/
theorem unmarshal_marshal_tree {tagged : Bool} {m : Sign1Msg} {p u pl sg : Wire}
    (hwf : (Wire.arr .imm [p, u, pl, sg]).wf = true)
    (hlim : (Wire.arr .imm [p, u, pl, sg]).inLimits false 0 = true)
    (hpl : decByteString pl = .ok m.payload) (hsg : decByteString sg = .ok m.sig)
    (hz : blen m.sig ≠ 0) (hh : decHeaders p u = .ok m.h) :
    Sign1.unmarshal tagged
      (pre tagged ++ (Wire.arr .imm [p, u, shortItem m.payload, shortItem m.sig]).bytes) = .ok m :=
  have hr := sign1_repl (p := p) (u := u) hpl hsg
  sign1_unmarshal_tree (hr.wf hwf) (hr.inLimits 0 hlim) (shortItem_dec _) (shortItem_dec _) hz hh

/-- encoding a decoded COSE_Sign1 always succeeds (in the modelled region), round-trips, and
    never lengthens -/
theorem reencode_roundtrip (tagged : Bool) (b : Bytes) (m : Sign1Msg)
    (hd : Sign1.unmarshal tagged b = .ok m)
    (hm : GoVal.modelledPairs m.h.p = true ∧ GoVal.modelledPairs m.h.u = true) :
    ∃ b1, Sign1.marshal tagged m = .ok b1 ∧ Sign1.unmarshal tagged b1 = .ok m ∧
      b1.length ≤ b.length := by
  obtain ⟨p, u, pl, sg, hb, -, hwf, hlim, hpl, hsg, hz, hh⟩ := sign1_envelope_full hd
  rw [hb]
  exact Reencode.roundtrip_of_repl hwf (sign1_repl hpl hsg) (marshal_tree hh hz hm)
    (unmarshal_marshal_tree hwf hlim hpl hsg hz hh)

/-- any number of decode/encode cycles: after the first, nothing changes — the re-encoded
    bytes decode to the same value (headers, retained raw bytes, payload, signature), so
    signatures still verify, and encoding that value gives the same bytes again -/
theorem reencode_fixpoint (tagged : Bool) (b b1 : Bytes) (m : Sign1Msg)
    (hd : Sign1.unmarshal tagged b = .ok m)
    (hm : GoVal.modelledPairs m.h.p = true ∧ GoVal.modelledPairs m.h.u = true)
    (he : Sign1.marshal tagged m = .ok b1) :
    ∃ m1, Sign1.unmarshal tagged b1 = .ok m1 ∧ m1 = m ∧ Sign1.marshal tagged m1 = .ok b1 :=
  Reencode.fixpoint_of_roundtrip (reencode_roundtrip tagged b m hd hm) he

/-- a successful encoding implies both buckets are in the modelled region (otherwise the model
    answers `unmodelled`), so `hm` is implied by `he` in `reencode_fixpoint` -/
theorem hdrs_modelled_of_marshal_ok {h : Hdrs} {x : Bytes × Bytes} (he : h.marshal = .ok x) :
    GoVal.modelledPairs h.p = true ∧ GoVal.modelledPairs h.u = true := by
  unfold Hdrs.marshal at he
  simp only [Out.guard_eq_ok, Out.bind_eq_ok] at he
  obtain ⟨-, pb, hp, ub, hu, -⟩ := he
  unfold marshalProtected at hp
  unfold marshalUnprotected at hu
  constructor
  · cases hmp : GoVal.modelledPairs h.p with
    | true => rfl
    | false => simp [hmp] at hp
  · cases hmu : GoVal.modelledPairs h.u with
    | true => rfl
    | false => simp [hmu] at hu

theorem modelled_of_marshal_ok {tagged : Bool} {m : Sign1Msg} {b1 : Bytes}
    (he : Sign1.marshal tagged m = .ok b1) :
    GoVal.modelledPairs m.h.p = true ∧ GoVal.modelledPairs m.h.u = true := by
  unfold Sign1.marshal Sign1.content at he
  simp only [Out.bind_eq_ok, Out.guard_eq_ok] at he
  obtain ⟨c, ⟨-, x, hh, -⟩, -⟩ := he
  exact hdrs_modelled_of_marshal_ok hh

/-- a decode/encode cycle is idempotent as soon as decoding, then encoding, round-trips: the
    encoder's output `b1` is the `b'` of the round trip -/
theorem cycle_idempotent_of_roundtrip {α : Type} {dec : Bytes → Out α} {enc : α → Out Bytes}
    (hrt : ∀ {b m b1}, dec b = .ok m → enc m = .ok b1 →
      ∃ b', enc m = .ok b' ∧ dec b' = .ok m ∧ b'.length ≤ b.length) {b b1 : Bytes}
    (h : (dec b >>= enc) = .ok b1) : (dec b1 >>= enc) = .ok b1 := by
  obtain ⟨m, hd, he⟩ := Out.bind_eq_ok.mp h
  obtain ⟨_, hd1, rfl, -⟩ := Reencode.fixpoint_of_roundtrip (hrt hd he) he
  exact Out.bind_eq_ok.mpr ⟨_, hd1, he⟩

/-- one decode/encode cycle -/
def cycle (tagged : Bool) (b : Bytes) : Out Bytes :=
  Sign1.unmarshal tagged b >>= Sign1.marshal tagged

/-- the cycle is idempotent — no modelling hypothesis needed (a successful cycle implies
    it), hence by induction any number of cycles gives the bytes of the first -/
theorem cycle_idempotent (tagged : Bool) (b b1 : Bytes) (h : cycle tagged b = .ok b1) :
    cycle tagged b1 = .ok b1 :=
  cycle_idempotent_of_roundtrip (fun hd he => reencode_roundtrip tagged _ _ hd (modelled_of_marshal_ok he)) h

/-- `n` decode/encode cycles in sequence -/
def cycles (tagged : Bool) : Nat → Bytes → Out Bytes
  | 0, b => .ok b
  | n + 1, b => cycle tagged b >>= cycles tagged n

/-- any number (≥ 1) of cycles returns the bytes of the first -/
theorem cycles_stable (tagged : Bool) (b b1 : Bytes) (h : cycle tagged b = .ok b1) :
    ∀ n : Nat, cycles tagged (n + 1) b = .ok b1 := by
  have key : ∀ n : Nat, cycles tagged n b1 = .ok b1 := by
    intro n
    induction n with
    | zero => rfl
    | succ k ih => simp only [cycles, cycle_idempotent tagged b b1 h, Out.bind_ok, ih]
  intro n
  simp only [cycles, h, Out.bind_ok, key n]

/-! #### COSE_Signature / countersignature (3-array, prefix 0x83) -/

theorem decSigFields_of {p u sg : Wire} {sig : Option Bytes} {pm um : GoMap}
    (hsg : decByteString sg = .ok sig) (hz : blen sig ≠ 0) (hp : decProtected p = .ok pm)
    (hu : decUnprot u = .ok um) (hiv : ensureIV pm um = true) :
    decSigFields [p, u, sg] = .ok (.csig (some p.bytes) pm (some u.bytes) um sig) := by
  simp [decSigFields, hsg, hz, hp, hu, hiv]

theorem signature_unmarshal_of {r : Bytes} {hw : HW} {xs : List Wire} {v : GoVal} {s : SigV}
    (hpt : parseTop false (0x83 :: r) = some (.arr hw xs)) (hf : decSigFields xs = .ok v)
    (hs : sigOfVal v = some s) : Signature.unmarshal (0x83 :: r) = .ok s := by
  simp [Signature.unmarshal, hpt, hf, hs]

/-- a signer value is the one `sigOfVal` reads off the decoded fields of its 3-array -/
theorem sigOfVal_of_raw {s : SigV} {p u : Wire} (hrp : s.h.rawP = some p.bytes)
    (hru : s.h.rawU = some u.bytes) :
    sigOfVal (.csig (some p.bytes) s.h.p (some u.bytes) s.h.u s.sig) = some s := by
  obtain ⟨⟨rp, pm, ru, um⟩, sig⟩ := s
  cases hrp
  cases hru
  rfl

theorem signature_marshal_of_decoded {s : SigV} {p u : Wire} (hrp : s.h.rawP = some p.bytes)
    (hru : s.h.rawU = some u.bytes) (hiv : ensureIV s.h.p s.h.u = true) (hz : blen s.sig ≠ 0)
    (hm : GoVal.modelledPairs s.h.p = true ∧ GoVal.modelledPairs s.h.u = true) :
    Signature.marshal s = .ok (0x83 :: (p.bytes ++ (u.bytes ++ encBstr (s.sig.getD [])))) := by
  have := hdrs_marshal_verbatim hrp hru hiv hm
  simp [Signature.marshal, hz, this, bind, Out.bind]

theorem signature_tree_bytes (p u : Wire) (sig : Option Bytes) (hz : blen sig ≠ 0) :
    (0x83 :: (p.bytes ++ (u.bytes ++ encBstr (sig.getD [])))) =
    (Wire.arr .imm [p, u, shortItem sig]).bytes := by
  rw [Accept.arr3_bytes, sig_some hz]

/-- decoding then encoding a COSE_Signature reproduces both header buckets byte for byte
    and differs from the input at most in the head of the signature byte string -/
theorem reencode_signature (b : Bytes) (s : SigV) (hd : Signature.unmarshal b = .ok s)
    (hm : GoVal.modelledPairs s.h.p = true ∧ GoVal.modelledPairs s.h.u = true) :
    ∃ (p u sg : Wire),
      b = (Wire.arr .imm [p, u, sg]).bytes ∧
      Signature.marshal s = .ok (0x83 :: (p.bytes ++ (u.bytes ++ encBstr (s.sig.getD [])))) ∧
      (Wire.arr .imm [p, u, sg]).wf = true ∧
      (Wire.arr .imm [p, u, sg]).inLimits false 0 = true ∧
      s.h.rawP = some p.bytes ∧ s.h.rawU = some u.bytes ∧
      (∃ (w' : HW) (c : Bytes), s.sig = some c ∧ c ≠ [] ∧
        sg.bytes = headBytes 2 w' c.length ++ c) := by
  obtain ⟨p, u, sg, -, hb, hwf, hlim, -, hsg, hz, hp, hu, hiv, hrp, hru⟩ :=
    C05.signature_accept_envelope_full b s hd
  obtain ⟨w', c, hsw, hc, hsome⟩ := Accept.wfsig_of_dec hsg hz
  exact ⟨p, u, sg, hb, signature_marshal_of_decoded hrp hru hiv hz hm, hwf, hlim, hrp, hru,
    w', c, hsome, hc, hsw ▸ rfl⟩

/-- a COSE_Signature whose signature byte string carries the shortest head is reproduced
    identically (the header buckets are copied verbatim whatever their encoding); the tree is
    given as the parser's result on the input -/
theorem reencode_signature_det_identity_parsed (b : Bytes) (s : SigV)
    (hd : Signature.unmarshal b = .ok s)
    (hm : GoVal.modelledPairs s.h.p = true ∧ GoVal.modelledPairs s.h.u = true)
    (hw : HW) (p u sg : Wire) (hpt : parseTop false b = some (Wire.arr hw [p, u, sg]))
    (hssg : sg = .prim .imm 22 ∨ ∃ c, sg = .bstr (HW.shortest c.length) c) :
    Signature.marshal s = .ok b := by
  obtain ⟨p0, u0, sg0, hpt0, -, -, -, -, hsg, hz, -, -, hiv, hrp, hru⟩ :=
    C05.signature_accept_envelope_full b s hd
  cases hpt.symm.trans hpt0
  rw [signature_marshal_of_decoded hrp hru hiv hz hm, signature_tree_bytes p u s.sig hz,
    ← shortest_eq_shortItem hssg hsg, ← (parseTop_sound hpt).1]

/-- a 3-array whose items decode to the parts of `s` is accepted, whatever the encoding of its
    parts, and decodes to `s` -/
theorem signature_unmarshal_tree {s : SigV} {p u sg : Wire}
    (hwf : (Wire.arr .imm [p, u, sg]).wf = true)
    (hlim : (Wire.arr .imm [p, u, sg]).inLimits false 0 = true)
    (hsg : decByteString sg = .ok s.sig) (hz : blen s.sig ≠ 0)
    (hp : decProtected p = .ok s.h.p) (hu : decUnprot u = .ok s.h.u)
    (hiv : ensureIV s.h.p s.h.u = true)
    (hrp : s.h.rawP = some p.bytes) (hru : s.h.rawU = some u.bytes) :
    Signature.unmarshal (Wire.arr .imm [p, u, sg]).bytes = .ok s := by
  have hpt := parseTop_complete hwf hlim
  rw [Accept.arr3_bytes] at hpt ⊢
  exact signature_unmarshal_of hpt (decSigFields_of hsg hz hp hu hiv) (sigOfVal_of_raw hrp hru)

/-- encoding a decoded COSE_Signature always succeeds, round-trips, and never lengthens -/
theorem reencode_signature_roundtrip (b : Bytes) (s : SigV)
    (hd : Signature.unmarshal b = .ok s)
    (hm : GoVal.modelledPairs s.h.p = true ∧ GoVal.modelledPairs s.h.u = true) :
    ∃ b1, Signature.marshal s = .ok b1 ∧ Signature.unmarshal b1 = .ok s ∧
      b1.length ≤ b.length := by
  obtain ⟨p, u, sg, -, hb, hwf, hlim, -, hsg, hz, hp, hu, hiv, hrp, hru⟩ :=
    C05.signature_accept_envelope_full b s hd
  have hr : Repl (.arr .imm [p, u, sg]) (.arr .imm [p, u, shortItem s.sig]) :=
    Repl.arr ⟨.refl p, .refl u, .shortItem hsg, trivial⟩ rfl
  have he := signature_marshal_of_decoded hrp hru hiv hz hm
  rw [signature_tree_bytes p u s.sig hz] at he
  rw [hb]
  exact Reencode.roundtrip_of_repl (pre := []) hwf hr he
    (signature_unmarshal_tree (hr.wf hwf) (hr.inLimits 0 hlim) (shortItem_dec _) hz hp hu hiv
      hrp hru)

/-- decode/encode cycles of a COSE_Signature are a fixpoint after the first: the re-encoded
    bytes decode to the same value and that value encodes to the same bytes -/
theorem reencode_signature_fixpoint (b b1 : Bytes) (s : SigV)
    (hd : Signature.unmarshal b = .ok s)
    (hm : GoVal.modelledPairs s.h.p = true ∧ GoVal.modelledPairs s.h.u = true)
    (he : Signature.marshal s = .ok b1) :
    ∃ s1, Signature.unmarshal b1 = .ok s1 ∧ s1 = s ∧ Signature.marshal s1 = .ok b1 :=
  Reencode.fixpoint_of_roundtrip (reencode_signature_roundtrip b s hd hm) he

theorem signature_modelled_of_marshal_ok {s : SigV} {b1 : Bytes}
    (he : Signature.marshal s = .ok b1) :
    GoVal.modelledPairs s.h.p = true ∧ GoVal.modelledPairs s.h.u = true := by
  unfold Signature.marshal at he
  simp only [Out.bind_eq_ok, Out.guard_eq_ok] at he
  obtain ⟨-, x, hh, -⟩ := he
  exact hdrs_modelled_of_marshal_ok hh

/-- one decode/encode cycle of a COSE_Signature -/
def sigCycle (b : Bytes) : Out Bytes := Signature.unmarshal b >>= Signature.marshal

/-- the COSE_Signature cycle is idempotent (no modelling hypothesis needed) -/
theorem sigCycle_idempotent (b b1 : Bytes) (h : sigCycle b = .ok b1) : sigCycle b1 = .ok b1 :=
  cycle_idempotent_of_roundtrip
    (fun hd he => reencode_signature_roundtrip _ _ hd (signature_modelled_of_marshal_ok he)) h

end C09
