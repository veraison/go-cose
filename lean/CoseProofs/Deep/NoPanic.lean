/-
  CoseProofs.Deep.NoPanic — C06: no input makes any decoder, or any follow-up operation on a
  decoded (indeed on any) value, reach `Out.panic`.  For all byte strings / values, no bounds.
-/
import CoseModel.Key
import CoseModel.HashEnvelope
import CoseProofs.Props.C06
import CoseProofs.Lemmas.Steps
open CoseModel
namespace C06

/-! ### the mutual decoder block -/

mutual
theorem decSigFields_no_panic : ∀ (xs : List Wire), decSigFields xs ≠ .panic
  | [p, u, s] => by
    rw [decSigFields_eq]
    refine Out.bind_ne_panic (decByteString_no_panic s) fun sg => Out.ite_ne_panic nofun ?_
    refine Out.bind_ne_panic (decProtected_no_panic p) fun pm => ?_
    exact Out.bind_ne_panic (decUnprot_no_panic u) fun um => Out.ite_ne_panic nofun nofun
  | [] | [_] | [_, _] | _ :: _ :: _ :: _ :: _ => by rw [decSigFields_eq]; nofun
theorem decUnprot_no_panic : ∀ (w : Wire), decUnprot w ≠ .panic
  | .map _ kvs => by
    rw [decUnprot_map]
    refine Out.bind_ne_panic (labelsOK_no_panic kvs []) fun _ => Out.ite_ne_panic nofun ?_
    exact Out.bind_ne_panic (decUnprotPairs_no_panic kvs) fun m => Out.ite_ne_panic nofun nofun
  | .uint .. | .nint .. | .bstr .. | .tstr .. | .tag .. | .prim .. | .arr .. => nofun
theorem decUnprotPairs_no_panic : ∀ (kvs : List (Wire × Wire)), decUnprotPairs kvs ≠ .panic
  | [] => nofun
  | (k, v) :: r => by
    rw [decUnprotPairs_cons]
    refine Out.bind_ne_panic (decodeAny_no_panic k) fun key => ?_
    exact Out.comb_ne_panic (Out.ite_ne_panic (decCsigValue_no_panic v) (decodeAny_no_panic v))
      (decUnprotPairs_no_panic r) fun _ _ => nofun
theorem decCsigValue_no_panic : ∀ (w : Wire), decCsigValue w ≠ .panic
  | .arr w xs => by
    have h2 := decCsigList_no_panic xs
    unfold decCsigValue
    extract_lets single
    have h1 : single ≠ .panic := Out.ite_ne_panic (decSigFields_no_panic xs) nofun
    clear_value single
    split
    · nofun
    · nofun
    · contradiction
    · split
      · nofun
      · nofun
      · contradiction
      · nofun
  | .prim hw n => by
    unfold decCsigValue
    split
    · next h => cases h
    · nofun
    · nofun
    · nofun
  | .uint .. | .nint .. | .bstr .. | .tstr .. | .tag .. | .map .. => nofun
theorem decCsigList_no_panic : ∀ (xs : List Wire), decCsigList xs ≠ .panic
  | [] => nofun
  | .arr w ys :: xs => by
    rw [decCsigList_cons]
    refine Out.comb_ne_panic ?_ (decCsigList_no_panic xs) fun _ _ => nofun
    cases w
    case imm => exact decSigFields_no_panic ys
    all_goals nofun
  | .prim hw n :: xs => by
    rw [decCsigList_cons]
    refine Out.comb_ne_panic ?_ (decCsigList_no_panic xs) fun _ _ => nofun
    unfold csigOne
    split
    · nofun
    · nofun
    · next h => cases h
    · nofun
  | .uint .. :: xs | .nint .. :: xs | .bstr .. :: xs | .tstr .. :: xs | .tag .. :: xs
  | .map .. :: xs => by
    rw [decCsigList_cons]
    exact Out.comb_ne_panic nofun (decCsigList_no_panic xs) fun _ _ => nofun
end

/-! ### header pair and signature list -/

theorem decHeaders_no_panic (p u : Wire) : decHeaders p u ≠ .panic :=
  Out.bind_ne_panic (decProtected_no_panic p) fun _ =>
    Out.bind_ne_panic (decUnprot_no_panic u) fun _ => Out.ite_ne_panic nofun nofun

theorem sigOne_no_panic (x : Wire) : sigOne x ≠ .panic := by
  unfold sigOne
  split
  · exact decSigFields_no_panic _
  · nofun

theorem decSigList_no_panic : ∀ (xs : List Wire), decSigList xs ≠ .panic
  | [] => nofun
  | x :: xs => by
    rw [decSigList_cons]
    refine Out.comb_ne_panic (sigOne_no_panic x) (decSigList_no_panic xs) fun a b => ?_
    split <;> nofun

/-! ### decoding entry points -/

theorem sign1_decodeArr_no_panic (b : Bytes) : Sign1.decodeArr b ≠ .panic := by
  unfold Sign1.decodeArr
  split
  · refine Out.bind_ne_panic (decByteString_no_panic _) fun payload => ?_
    refine Out.bind_ne_panic (decByteString_no_panic _) fun sig => Out.ite_ne_panic nofun ?_
    exact Out.bind_ne_panic (decHeaders_no_panic _ _) fun h => nofun
  · nofun

theorem sign1_unmarshal_no_panic (tagged : Bool) (b : Bytes) : Sign1.unmarshal tagged b ≠ .panic := by
  unfold Sign1.unmarshal
  split
  · split
    · exact sign1_decodeArr_no_panic _
    · nofun
  · split
    · exact sign1_decodeArr_no_panic _
    · nofun

theorem signature_unmarshal_no_panic (b : Bytes) : Signature.unmarshal b ≠ .panic := by
  unfold Signature.unmarshal
  split
  · split
    · rename_i xs _
      have := decSigFields_no_panic xs
      split
      · split <;> nofun
      · nofun
      · contradiction
      · nofun
    · nofun
  · nofun

theorem sign_unmarshal_no_panic (b : Bytes) : Sign.unmarshal b ≠ .panic := by
  unfold Sign.unmarshal
  split
  · split
    · refine Out.bind_ne_panic (decByteString_no_panic _) fun payload => ?_
      refine Out.bind_ne_panic (by split <;> nofun) fun items => Out.ite_ne_panic nofun ?_
      refine Out.bind_ne_panic (decSigList_no_panic items) fun sigs => ?_
      exact Out.bind_ne_panic (decHeaders_no_panic _ _) fun h => nofun
    · nofun
  · nofun

theorem protected_unmarshal_no_panic (b : Bytes) : Protected.unmarshal b ≠ .panic := by
  unfold Protected.unmarshal
  split
  · exact decProtected_no_panic _
  · nofun

theorem unprotected_unmarshal_no_panic (b : Bytes) : Unprotected.unmarshal b ≠ .panic := by
  unfold Unprotected.unmarshal
  split
  · nofun
  · refine Out.ite_ne_panic nofun ?_
    split
    · exact Out.ite_ne_panic nofun (decUnprot_no_panic _)
    · nofun

theorem key_ofMap_no_panic (m : GoMap) : Key.ofMap m ≠ .panic := by
  unfold Key.ofMap
  split
  · refine Out.ite_ne_panic nofun ?_
    extract_lets id alg ops biv
    clear_value id alg ops biv
    split
    · nofun
    · nofun
    · nofun
    · nofun
    · split
      · nofun
      · extract_lets k
        split <;> nofun
  · nofun

theorem key_unmarshal_no_panic (b : Bytes) : Key.unmarshal b ≠ .panic := by
  unfold Key.unmarshal
  refine Out.ite_ne_panic nofun ?_
  split
  · nofun
  · refine Out.ite_ne_panic nofun ?_
    rename_i kvs _
    have := decodePairs_no_panic kvs []
    split
    · exact key_ofMap_no_panic _
    · nofun
    · contradiction
    · nofun
  · nofun

/-! ### operations on any value -/

theorem marshalProtected_no_panic (h : Hdrs) : marshalProtected h ≠ .panic := by
  unfold marshalProtected
  exact Out.ite_ne_panic nofun (by split <;> nofun)

theorem marshalUnprotected_no_panic (h : Hdrs) : marshalUnprotected h ≠ .panic := by
  unfold marshalUnprotected
  exact Out.ite_ne_panic nofun (by split <;> nofun)

theorem hdrs_marshal_no_panic (h : Hdrs) : Hdrs.marshal h ≠ .panic :=
  Out.ite_ne_panic nofun <| Out.bind_ne_panic (marshalProtected_no_panic h) fun _ =>
    Out.bind_ne_panic (marshalUnprotected_no_panic h) fun _ => nofun

theorem sign1_content_no_panic (m : Sign1Msg) : Sign1.content m ≠ .panic :=
  Out.ite_ne_panic nofun <| Out.bind_ne_panic (hdrs_marshal_no_panic m.h) fun _ => nofun

theorem sign1_marshal_no_panic (tagged : Bool) (m : Sign1Msg) : Sign1.marshal tagged m ≠ .panic :=
  Out.bind_ne_panic (sign1_content_no_panic m) fun _ => nofun

theorem signature_marshal_no_panic (s : SigV) : Signature.marshal s ≠ .panic :=
  Out.ite_ne_panic nofun <| Out.bind_ne_panic (hdrs_marshal_no_panic s.h) fun _ => nofun

theorem marshalSigs_no_panic : ∀ (l : List SigV), marshalSigs l ≠ .panic
  | [] => nofun
  | s :: r =>
    Out.bind_ne_panic (signature_marshal_no_panic s) fun _ =>
      Out.bind_ne_panic (marshalSigs_no_panic r) fun _ => nofun

theorem sign_marshal_no_panic (m : SignMsg) : Sign.marshal m ≠ .panic :=
  Out.ite_ne_panic nofun <| Out.bind_ne_panic (hdrs_marshal_no_panic m.h) fun _ =>
    Out.bind_ne_panic (marshalSigs_no_panic m.sigs) fun _ => nofun

theorem marshalAny_no_panic (v : GoVal) : marshalAny v ≠ .panic := by
  unfold marshalAny
  exact Out.ite_ne_panic nofun (by split <;> nofun)

theorem key_marshal_no_panic (k : Key) : Key.marshal k ≠ .panic := by
  unfold Key.marshal
  split
  · nofun
  · exact marshalAny_no_panic _

theorem sign1_tbs_no_panic (m : Sign1Msg) (ext : Option Bytes) : Sign1.toBeSigned m ext ≠ .panic :=
  Out.bind_ne_panic (marshalProtected_no_panic m.h) fun p =>
    Out.bind_ne_panic (detBstr_no_panic p) fun _ => nofun

theorem signature_tbs_no_panic (s : SigV) (bprot : Bytes) (payload ext : Option Bytes) :
    Signature.toBeSigned s bprot payload ext ≠ .panic :=
  Out.bind_ne_panic (detBstr_no_panic bprot) fun _ =>
    Out.bind_ne_panic (marshalProtected_no_panic s.h) fun sp =>
      Out.bind_ne_panic (detBstr_no_panic sp) fun _ => nofun

/-- the field selection of `countersignToBeSigned` ends, for every kind of parent, in the same
    step: marshal the parent's protected bucket, then a check on the result -/
theorem countersign_tbs_no_panic (abbr : Bool) (parent : Parent) (sp : Bytes) (ext : Option Bytes) :
    countersignToBeSigned abbr parent sp ext ≠ .panic := by
  unfold countersignToBeSigned
  extract_lets fields
  have hf : fields ≠ .panic := by
    have key : ∀ h : Hdrs, marshalProtected h ≠ .panic := marshalProtected_no_panic
    unfold fields
    split
    · refine Out.ite_ne_panic nofun (Out.ite_ne_panic nofun ?_)
      split
      · exact Out.ite_ne_panic nofun nofun
      · nofun
      · exact absurd ‹_› (key _)
      · nofun
    · refine Out.ite_ne_panic nofun ?_
      split
      · exact Out.ite_ne_panic nofun nofun
      · nofun
      · exact absurd ‹_› (key _)
      · nofun
    · split
      · exact Out.ite_ne_panic nofun nofun
      · nofun
      · exact absurd ‹_› (key _)
      · nofun
    · split
      · exact Out.ite_ne_panic nofun nofun
      · nofun
      · exact absurd ‹_› (key _)
      · nofun
    · nofun
  clear_value fields
  split
  · refine Out.bind_ne_panic (detBstr_no_panic _) fun bp => ?_
    refine Out.bind_ne_panic (detBstr_no_panic sp) fun sp' => ?_
    split <;> nofun
  · nofun
  · contradiction
  · nofun

theorem countersignature_tbs_no_panic (s : SigV) (parent : Parent) (ext : Option Bytes) :
    Countersignature.toBeSigned s parent ext ≠ .panic :=
  Out.bind_ne_panic (marshalProtected_no_panic s.h) fun _ => countersign_tbs_no_panic _ _ _ _

theorem ensureVerificationAlgorithm_no_panic (p : GoMap) (alg : Int) (ext : Option Bytes) :
    ensureVerificationAlgorithm p alg ext ≠ .panic := by
  unfold ensureVerificationAlgorithm
  split
  · exact Out.ite_ne_panic nofun nofun
  · exact Out.ite_ne_panic nofun nofun
  · nofun

theorem ensureSigningAlgorithm_no_panic (rawP : Option Bytes) (p : GoMap) (alg : Int)
    (ext : Option Bytes) : ensureSigningAlgorithm rawP p alg ext ≠ .panic := by
  unfold ensureSigningAlgorithm
  split
  · exact Out.ite_ne_panic nofun nofun
  · exact Out.ite_ne_panic nofun (Out.ite_ne_panic nofun nofun)
  · nofun

/-- the gate, ToBeSigned and the key never panic: neither does the call -/
theorem callKey_no_panic {α : Type} {gate : Out Unit} {tbs : Out Bytes} {key : Bytes → Out α}
    (hg : gate ≠ .panic) (ht : tbs ≠ .panic) (hk : ∀ t, key t ≠ .panic) :
    (callKey gate tbs key).1 ≠ .panic := by
  have hb := Out.bind_ne_panic hg fun _ => ht
  unfold callKey
  split
  · exact hk _
  · nofun
  · contradiction
  · nofun

theorem sign1_verify_no_panic (m : Sign1Msg) (ext : Option Bytes) (v : Verifier)
    (hv : ∀ t s, v.verify t s ≠ .panic) : (Sign1.verify m ext v).1 ≠ .panic := by
  rw [Sign1.verify_eq]
  refine callKey_no_panic ?_ (sign1_tbs_no_panic m ext) fun t => hv t _
  exact Out.ite_ne_panic nofun
    (Out.ite_ne_panic nofun (ensureVerificationAlgorithm_no_panic _ _ _))

theorem signature_verify_no_panic (sg : SigV) (v : Verifier) (bprot : Bytes)
    (payload ext : Option Bytes) (hv : ∀ t s, v.verify t s ≠ .panic) :
    (Signature.verify sg v bprot payload ext).1 ≠ .panic := by
  rw [Signature.verify_eq]
  refine callKey_no_panic ?_ (signature_tbs_no_panic sg bprot payload ext) fun t => hv t _
  exact Out.ite_ne_panic nofun (Out.ite_ne_panic nofun
    (Out.ite_ne_panic nofun (ensureVerificationAlgorithm_no_panic _ _ _)))

theorem verifyLoop_no_panic (bprot : Bytes) (payload ext : Option Bytes) :
    ∀ (sgs : List SigV) (vs : List Verifier), (∀ v ∈ vs, ∀ t s, v.verify t s ≠ .panic) →
      (verifyLoop bprot payload ext sgs vs).1 ≠ .panic
  | [], _, _ => nofun
  | _ :: _, [], _ => nofun
  | sg :: sgs, v :: vs, hvs => by
    have h1 := signature_verify_no_panic sg v bprot payload ext (hvs v (List.mem_cons_self ..))
    have ih := verifyLoop_no_panic bprot payload ext sgs vs
      fun w hw => hvs w (List.mem_cons_of_mem _ hw)
    unfold verifyLoop
    generalize Signature.verify sg v bprot payload ext = r at h1 ⊢
    obtain ⟨o, calls⟩ := r
    cases o with
    | ok _ => exact ih
    | err e => nofun
    | panic => exact h1
    | unmodelled => nofun

theorem sign_verify_no_panic (m : SignMsg) (ext : Option Bytes) (vs : List Verifier)
    (hvs : ∀ v ∈ vs, ∀ t s, v.verify t s ≠ .panic) : (Sign.verify m ext vs).1 ≠ .panic := by
  have h1 := marshalProtected_no_panic m.h
  unfold Sign.verify
  split
  · nofun
  · split
    · nofun
    · split
      · nofun
      · split
        · exact verifyLoop_no_panic _ _ _ _ _ hvs
        · nofun
        · contradiction
        · nofun

theorem countersignature_verify_no_panic (cs : SigV) (v : Verifier) (parent : Parent)
    (ext : Option Bytes) (hv : ∀ t s, v.verify t s ≠ .panic) :
    (Countersignature.verify cs v parent ext).1 ≠ .panic := by
  rw [Countersignature.verify_eq]
  refine callKey_no_panic ?_ (countersignature_tbs_no_panic cs parent ext) fun t => hv t _
  exact Out.ite_ne_panic nofun (ensureVerificationAlgorithm_no_panic _ _ _)

theorem verifyCountersign0_no_panic (v : Verifier) (parent : Parent) (ext : Option Bytes)
    (sig : Bytes) (hv : ∀ t s, v.verify t s ≠ .panic) :
    (verifyCountersign0 v parent ext sig).1 ≠ .panic := by
  rw [verifyCountersign0_eq]
  exact callKey_no_panic nofun (countersign_tbs_no_panic true parent [0x40] ext) fun t => hv t _

theorem countersignature_sign_no_panic (cs : SigV) (s : Signer) (parent : Parent)
    (ext : Option Bytes) (hs : ∀ t, s.sign t ≠ .panic) :
    (Countersignature.sign cs s parent ext).out ≠ .panic := by
  have h1 := ensureSigningAlgorithm_no_panic cs.h.rawP cs.h.p s.alg ext
  unfold Countersignature.sign
  split
  · nofun
  · split
    · extract_lets _ s1
      have h2 := countersignature_tbs_no_panic s1 parent ext
      split
      · next tbs _ =>
        have h3 := hs tbs
        split
        · split <;> nofun
        · nofun
        · contradiction
        · nofun
      · nofun
      · contradiction
      · nofun
    · nofun
    · contradiction
    · nofun

theorem countersign0_no_panic (s : Signer) (parent : Parent) (ext : Option Bytes)
    (hs : ∀ t, s.sign t ≠ .panic) : (countersign0 s parent ext).1 ≠ .panic := by
  rw [countersign0_eq]
  refine callKey_no_panic nofun (countersign_tbs_no_panic true parent [0x40] ext) fun t => ?_
  exact Out.bind_ne_panic (hs t) fun _ => Out.ite_ne_panic nofun nofun

/-! ### VerifyHashEnvelope: decode, validate, verify -/

theorem verifyHashEnvelope_no_panic (v : Verifier) (b : Bytes)
    (hv : ∀ t s, v.verify t s ≠ .panic) : (verifyHashEnvelope v b).1 ≠ .panic := by
  have h1 := sign1_unmarshal_no_panic true b
  unfold verifyHashEnvelope
  split
  · next m _ =>
    split
    · nofun
    · have h2 := sign1_verify_no_panic m none v hv
      split
      · split
        · split <;> nofun
        · nofun
        · nofun
      · nofun
      · next heq =>
        rw [heq] at h2
        exact absurd rfl h2
      · nofun
  · nofun
  · contradiction
  · nofun

/-! ### after a successful decode -/

theorem decode_then_use_no_panic (tagged : Bool) (b : Bytes) (m : Sign1Msg)
    (hd : Sign1.unmarshal tagged b = .ok m)
    (v : Verifier) (hv : ∀ t s, v.verify t s ≠ .panic)
    (s : Signer) (hs : ∀ t, s.sign t ≠ .panic) (ext : Option Bytes) :
    Sign1.marshal tagged m ≠ .panic ∧ (Sign1.verify m ext v).1 ≠ .panic ∧
      (countersign0 s (.sign1 m) ext).1 ≠ .panic ∧
      (Countersignature.sign {} s (.sign1 m) ext).out ≠ .panic := by
  have _ := hd
  exact ⟨sign1_marshal_no_panic tagged m, sign1_verify_no_panic m ext v hv,
    countersign0_no_panic s _ ext hs, countersignature_sign_no_panic {} s _ ext hs⟩

end C06
