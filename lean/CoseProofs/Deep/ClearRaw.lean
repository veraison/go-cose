/-
  Deep/ClearRaw — C09, the clear-raw fixpoint.  `Deep/Reencode` shows that a decoded message
  re-encodes to the same header bytes as long as the raw bytes the decoder retained (`Hdrs.rawP`,
  `Hdrs.rawU`) are kept.  Here the application discards them (`RawProtected = nil`,
  `RawUnprotected = nil`) and the encoder works from the typed maps: the result decodes again, to
  the same parameters in the encoder's order, and encoding that once more changes nothing.

  A message never looks inside its header values: it sees a header layer go through a clear-raw
  cycle (`LayerCycle`).  `sign1_cycle` turns such a cycle into the statement about COSE_Sign1,
  `fixpoint_of_core` / `idempotent_of_core` into "one cycle reaches the fixpoint"; `Deep/SignClear`
  does the same for COSE_Sign and COSE_Signature.

  Which layers go through a cycle is a matter of the buckets.  The bucket level is proved once,
  for header values of the nested data model, and it is proved in this file, under namespace
  `NestedClosures`: `NestedClosures.protected_canonN` / `unprotected_canonN` (canonical maps
  `NestedClosures.canonP` / `canonU`) and `NestedClosures.layer_cycleN` for a layer.  It stands
  here and not in `Deep/NestedClosures` because the scalar layer is derived from it: a flat map
  is a nested one whose values hold no map to sort (`canonP_of_sorted`, `flatMap_sortedN`), so
  `ClearRaw.layer_cycle` and the flat theorems of `C09` are the nested ones read on such maps.
  `Deep/NestedClosures` states the nested message theorems, `Deep/CsigClosures` adds
  countersignature values.

  Hypotheses that remain in the `C09` theorems of this file, and why:
  * `FlatMap m.h.p`, `FlatMap m.h.u` — their scope (scalar header values).  Excluded: arrays (so a
    message with `crit`, label 2), maps (CWT claims, label 15), floats, simple values,
    countersignatures (labels 7, 11).  `C09.flat_of_scalar_items` derives them from a condition on
    the input: every value item of the two header maps is a scalar on the wire.
  * `C09.unprotected_clear_raw_fixpoint` only: `hlim : u.inLimits t d = true` — the item came out
    of the parser (≤ 131072 pairs); `decUnprot` takes a tree, so `hd` alone does not imply it.
  Derived from "the decoder accepted it", at the nested level already: `UintOK` (decoded integers
  are `int64` / `Algorithm`), map sizes, payload / signature / protected content shorter than 2^64
  (the canonical re-encoding is never longer than the accepted content:
  `protected_decoded_bytes_leN`), `ensureIV`, `modelledPairs`.  (The defect F9 — a decoded bignum
  re-encoded as a uint the decoder refuses — lives in tagged items, which the model answers
  `unmodelled`, outside `FlatMap`.)
-/
import CoseModel.Messages
import CoseProofs.Deep.RoundTrip
import CoseProofs.Deep.Verifies
import CoseProofs.Deep.WireClosure
import CoseProofs.Deep.NestedBuckets
open CoseModel CoseSpec RoundTrip

namespace ClearRaw
open NestedBuckets

/-- a header value item that is a scalar on the wire: integer, byte string, text string,
    `false` / `true` / `null` / `undefined` (any head width) -/
def ScalarItem : Wire → Prop
  | .uint .. => True
  | .nint .. => True
  | .bstr .. => True
  | .tstr .. => True
  | .prim .imm n => 20 ≤ n
  | _ => False

/-! ### what the decoders produce is its own normal form -/

/-- what the typed decoder returns for a countersignature value is kept by `normVal`, and is
    no array or map -/
theorem decCsigValue_leaf {w : Wire} {v : GoVal} (h : decCsigValue w = .ok v) :
    normVal v = v ∧ isNode v = false := by
  rcases C05.csig_value_accept w v h with ⟨xs, -, c, hc, rfl⟩ | ⟨_, _, l, -, -, rfl⟩ | ⟨-, rfl⟩
  · obtain ⟨_, _, _, _, _, _, -, -, -, -, -, -, rfl⟩ := C05.decSigFields_ok hc
    exact ⟨rfl, rfl⟩
  · exact ⟨rfl, rfl⟩
  · exact ⟨rfl, rfl⟩

/-- the entry relation of the unprotected-bucket decoder (countersignature labels take the typed
    decoder) -/
def DecRelU (kv : Wire × Wire) (e : GoVal × GoVal) : Prop :=
  decodeAny kv.1 = .ok e.1 ∧
    ((isCsigLabel e.1 = false ∧ decodeAny kv.2 = .ok e.2) ∨
     (isCsigLabel e.1 = true ∧ decCsigValue kv.2 = .ok e.2))

theorem decUnprotPairs_rel : ∀ (kvs : List (Wire × Wire)) (m : GoMap),
    decUnprotPairs kvs = .ok m → Pointwise DecRelU kvs m
  | [], m, h => by
    simp only [decUnprotPairs, Out.ok.injEq] at h
    subst h
    trivial
  | (k, v) :: r, m, h => by
    have ih := decUnprotPairs_rel r
    unfold decUnprotPairs at h
    cases hk : decodeAny k with
    | ok key =>
      simp only [hk] at h
      generalize hval : (if isCsigLabel key then decCsigValue v else decodeAny v) = value at h
      cases value <;> cases hr : decUnprotPairs r <;> simp [hr] at h
      subst h
      refine ⟨⟨hk, ?_⟩, ih _ hr⟩
      split at hval
      next hc => exact .inr ⟨hc, hval⟩
      next hc => exact .inl ⟨by simpa using hc, hval⟩
    | err e => simp [hk] at h
    | panic => simp [hk] at h
    | unmodelled => simp [hk] at h

/-! ### decoded entries are fixed by `normEntry` / `decEntry` -/

theorem normEntry_of_rel {kv : Wire × Wire} {e : GoVal × GoVal} (h : DecKV kv e) :
    normEntry e = e := by
  obtain ⟨k, v⟩ := e
  simp only [normEntry, normVal_of_decoded h.1, normVal_of_decoded h.2.1]

theorem normEntry_of_relU {kv : Wire × Wire} {e : GoVal × GoVal} (h : DecRelU kv e) :
    normEntry e = e := by
  obtain ⟨k, v⟩ := e
  have hv : normVal v = v := by
    rcases h.2 with ⟨-, h2⟩ | ⟨-, h2⟩
    · exact normVal_of_decoded h2
    · exact (decCsigValue_leaf h2).1
  simp only [normEntry, normVal_of_decoded h.1, hv]

/-- the alg retyping commutes with the round trip: an entry the generic decoder produced, after
    the retyping of the protected-header decoder, is what `decEntry` yields for itself -/
theorem decEntry_castEntry {e : GoVal × GoVal} (h : normEntry e = e) :
    decEntry (castEntry e) = castEntry e := by
  obtain ⟨k, v⟩ := e
  simp only [normEntry, Prod.mk.injEq] at h
  obtain ⟨hk, hv⟩ := h
  unfold decEntry
  by_cases hc : k.keyEq (lbl 1) = true
  · have hk1 : k = lbl 1 :=
      GoVal.eq_of_keyEq hc
    subst hk1
    cases v <;> simp only [normVal, reduceCtorEq, GoVal.int.injEq] at hv <;>
      first
        | rfl
        | (obtain ⟨rfl, -⟩ := hv; rfl)
  · have h1 : castEntry (k, v) = (k, v) := by simp [castEntry, hc]
    rw [h1]
    simp only [normEntry, hk, hv, h1]

/-! ### shape of an accepted protected bucket -/

/-- an accepted protected bucket: empty content, or the bytes of one well-formed map item whose
    entries the generic decoder read one by one, `alg` retyped entry-wise afterwards -/
theorem decProtectedContent_shape {enc : Bytes} {m : GoMap}
    (h : decProtectedContent enc = .ok m) :
    enc = [] ∧ m = [] ∨ ∃ hw kvs m0, enc = (Wire.map hw kvs).bytes ∧
      (Wire.map hw kvs).wf = true ∧ (Wire.map hw kvs).inLimits true 0 = true ∧
      Pointwise DecKV kvs m0 ∧ m = m0.map castEntry := by
  rcases C13.decProtectedContent_ok h with h0 | ⟨hw, kvs, m0, hpt, hd, hv, rfl⟩
  · exact .inl h0
  · right
    obtain ⟨hbytes, hwf, hlim⟩ := parseTop_sound hpt
    obtain ⟨t, ht, hrel, -⟩ := decodePairs_inv kvs [] m0 hd
    simp only [List.reverse_nil, List.nil_append] at ht
    subst ht
    have hok := C13.validate_labels m0 true hv
    have hkn := C13.decodePairs_keys_normal kvs [] m0 hd (by intro e he; cases he)
    have hn : ∀ e ∈ m0, normalizeLabel e.1 = some e.1 := by
      intro e he
      rcases hkn e he with h' | h'
      · exact absurd h' (hok.1 e he)
      · exact h'
    exact ⟨hw, kvs, m0, hbytes, hwf, hlim, hrel, castAlg_eq_map hok hn⟩

/-- conversely, on the bytes of a well-formed map item the protected-bucket decoder is the generic
    decoder followed by validation and the `alg` retyping (how the test vectors are evaluated: the
    parser does not reduce, the rest does) -/
theorem decProtectedContent_map {hw : HW} {kvs : List (Wire × Wire)}
    (hwf : (Wire.map hw kvs).wf = true) (hl : (Wire.map hw kvs).inLimits true 0 = true)
    (hu : headerLabelsUntagged (Wire.map hw kvs).bytes = true) :
    decProtectedContent (Wire.map hw kvs).bytes =
      labelsOK kvs [] >>= fun _ => decodePairs kvs [] >>= fun m =>
        if !validateHeaderParameters m true then .err .other else .ok (castAlg m) := by
  obtain ⟨b0, tl, hb, hm⟩ := Wire.bytes_major hwf
  have hp := parseTop_complete hwf hl
  rw [hb] at hp hu ⊢
  unfold decProtectedContent
  simp only [hm, Wire.major, hp, hu, ne_eq, not_true_eq_false, if_false, Bool.not_true,
    Bool.false_eq_true]

theorem protected_decoded_fixed {enc : Bytes} {m : GoMap} (h : decProtectedContent enc = .ok m) :
    ∀ e ∈ m, decEntry e = e := by
  rcases decProtectedContent_shape h with ⟨-, rfl⟩ | ⟨hw, kvs, m0, -, -, -, hrel, rfl⟩
  · intro e he; cases he
  · intro e he
    obtain ⟨e0, he0, rfl⟩ := List.mem_map.mp he
    obtain ⟨kv, -, hr⟩ := hrel.mem_right e0 he0
    exact decEntry_castEntry (normEntry_of_rel hr)

theorem protected_decoded_length {enc : Bytes} {m : GoMap} (h : decProtectedContent enc = .ok m) :
    m.length ≤ maxElems := by
  rcases decProtectedContent_shape h with ⟨-, rfl⟩ | ⟨hw, kvs, m0, -, -, hlim, hrel, rfl⟩
  · simp
  · simp only [Wire.inLimits, Bool.and_eq_true, decide_eq_true_eq] at hlim
    rw [List.length_map, ← hrel.length_eq]
    exact hlim.1.2

/-! ### entry-wise maps that keep what is emitted -/

/-- sorting commutes with an entry-wise map that keeps the encoded keys -/
theorem sortEntries_map_key (f : GoVal × GoVal → GoVal × GoVal)
    (hf : ∀ e, valWire (f e).1 = valWire e.1) (g : GoMap) :
    sortEntries (g.map f) = (sortEntries g).map f := by
  unfold sortEntries
  exact (List.map_mergeSort
    (r := fun (a b : GoVal × GoVal) => bytesLe (valWire a.1).bytes (valWire b.1).bytes)
    (s := fun (a b : GoVal × GoVal) => bytesLe (valWire a.1).bytes (valWire b.1).bytes)
    (f := f) (fun a _ b _ => by simp only [hf])).symm

/-- an entry-wise map `f` that keeps the item of the key and what `w` reads of an entry can be
    dropped under a sorted `map w` -/
theorem sortEntries_map_congr {β : Type} (w : GoVal × GoVal → β)
    (f : GoVal × GoVal → GoVal × GoVal) (hk : ∀ e, valWire (f e).1 = valWire e.1) (g : GoMap)
    (hf : ∀ e ∈ g, w (f e) = w e) : (sortEntries (g.map f)).map w = (sortEntries g).map w := by
  rw [sortEntries_map_key f hk, List.map_map]
  apply List.map_congr_left
  intro e he
  exact hf e ((sortEntries_perm g).mem_iff.mp he)

/-- an entry-wise map that keeps the emitted entry keeps the emitted map item -/
theorem mapWireN_map (f : GoVal × GoVal → GoVal × GoVal)
    (hf : ∀ e, entryWireN (f e) = entryWireN e) (g : GoMap) : mapWireN (g.map f) = mapWireN g := by
  unfold mapWireN
  rw [List.length_map, sortEntries_map_congr entryWireN f (fun e => congrArg Prod.fst (hf e)) g
    (fun e _ => hf e)]

/-! ### re-encoding never lengthens -/

theorem intWire_nat (n : Nat) : intWire (n : Int) = .uint (HW.shortest n) n := by
  unfold intWire
  rw [if_pos (by omega)]
  simp

theorem intWire_neg (n : Nat) : intWire (-1 - (n : Int)) = .nint (HW.shortest n) n := by
  unfold intWire
  rw [if_neg (by omega)]
  have : (-1 - (-1 - (n : Int))).toNat = n := by omega
  rw [this]

/-- the item the encoder emits for a decoded flat value is not longer than the item it was decoded
    from -/
theorem valWire_length_le {w : Wire} {v : GoVal} (h : decodeAny w = .ok v) (hwf : w.wf = true)
    (hv : FlatVal v) : (valWire v).bytes.length ≤ w.bytes.length := by
  rcases decodeAny_ok h with ⟨hw, n, rfl, -, rfl⟩ | ⟨hw, n, rfl, -, rfl⟩ | ⟨hw, b, rfl, rfl⟩ |
    ⟨hw, b, rfl, -, rfl⟩ | ⟨n, rfl, -, hb⟩ | ⟨_, _, -, -, rfl | rfl⟩ | ⟨_, _, _, -, -, rfl⟩ |
    ⟨_, _, _, -, -, rfl⟩
  · simp only [valWire, intWire_nat, Wire.bytes]
    exact C09.shortest_head_le 0 hwf
  · simp only [valWire, intWire_neg, Wire.bytes]
    exact C09.shortest_head_le 1 hwf
  · have := C09.shortest_head_le 2 hwf
    simp only [valWire, Wire.bytes, List.length_append]
    omega
  · have := C09.shortest_head_le 3 hwf
    simp only [valWire, Wire.bytes, List.length_append]
    omega
  · rcases hb with rfl | rfl | rfl <;> simp [valWire, Wire.bytes, headBytes]
  · exact hv.elim
  · exact hv.elim
  · exact hv.elim
  · exact hv.elim

theorem bytesPairs_length_perm {l l' : List (Wire × Wire)} (hp : l.Perm l') :
    (Wire.bytesPairs l).length = (Wire.bytesPairs l').length := by
  induction hp with
  | nil => rfl
  | cons x _ ih =>
    obtain ⟨k, v⟩ := x
    simp only [Wire.bytesPairs, List.length_append, ih]
  | swap x y l =>
    obtain ⟨k, v⟩ := x
    obtain ⟨k', v'⟩ := y
    simp only [Wire.bytesPairs, List.length_append]
    omega
  | trans _ _ ih1 ih2 => exact ih1.trans ih2

theorem wireN_algCast (v : GoVal) : wireN (algCast v) = wireN v := by
  cases v <;> try rfl
  case int k a => cases hs : k.signed <;> simp [algCast, hs, wireN, valWire]

theorem entryWireN_castEntry (e : GoVal × GoVal) : entryWireN (castEntry e) = entryWireN e := by
  unfold castEntry
  split
  · simp only [entryWireN, wireN_algCast]
  · rfl

theorem rtVal_of_algCast {d : Nat} {v : GoVal} (h : RTVal d (algCast v)) : RTVal d v := by
  cases v <;> try exact h
  case int k a => cases hs : k.signed <;> simpa [algCast, hs, RTVal, FlatVal] using h

theorem bytesList_le : ∀ (xs : List Wire) (l : List GoVal),
    Pointwise (fun x y => decodeAny x = .ok y) xs l →
    (∀ x ∈ xs, ∀ y ∈ l, decodeAny x = .ok y → (wireN y).bytes.length ≤ x.bytes.length) →
    (Wire.bytesList (l.map wireN)).length ≤ (Wire.bytesList xs).length
  | [], [], _, _ => Nat.le_refl _
  | x :: xs, y :: l, h, hp => by
    have h1 := hp x (List.mem_cons_self ..) y (List.mem_cons_self ..) h.1
    have ih := bytesList_le xs l h.2
      (fun x' hx' y' hy' => hp x' (List.mem_cons_of_mem _ hx') y' (List.mem_cons_of_mem _ hy'))
    simp only [List.map_cons, Wire.bytesList, List.length_append]
    omega
  | [], _ :: _, h, _ => h.elim
  | _ :: _, [], h, _ => h.elim

theorem bytesPairs_le {R : Wire × Wire → GoVal × GoVal → Prop} :
    ∀ (kvs : List (Wire × Wire)) (l : GoMap), Pointwise R kvs l →
    (∀ kv ∈ kvs, ∀ e ∈ l, R kv e → (valWire e.1).bytes.length ≤ kv.1.bytes.length ∧
      (wireN e.2).bytes.length ≤ kv.2.bytes.length) →
    (Wire.bytesPairs (l.map entryWireN)).length ≤ (Wire.bytesPairs kvs).length
  | [], [], _, _ => Nat.le_refl _
  | (k, v) :: kvs, e :: l, h, hp => by
    have h1 := hp (k, v) (List.mem_cons_self ..) e (List.mem_cons_self ..) h.1
    have ih := bytesPairs_le kvs l h.2
      (fun x' hx' y' hy' => hp x' (List.mem_cons_of_mem _ hx') y' (List.mem_cons_of_mem _ hy'))
    simp only [List.map_cons, entryWireN, Wire.bytesPairs, List.length_append]
    simp only at h1
    omega
  | [], _ :: _, h, _ => h.elim
  | _ :: _, [], h, _ => h.elim

/-- a map item re-encoded from entries decoded pair by pair (shortest head, entries sorted) is not
    longer than the item, if no entry's label or value grows -/
theorem mapWireN_length_le {R : Wire × Wire → GoVal × GoVal → Prop} {hw : HW}
    {kvs : List (Wire × Wire)} {l : GoMap} (hfit : hw.fits kvs.length = true)
    (hrel : Pointwise R kvs l)
    (hp : ∀ kv ∈ kvs, ∀ e ∈ l, R kv e → (valWire e.1).bytes.length ≤ kv.1.bytes.length ∧
      (wireN e.2).bytes.length ≤ kv.2.bytes.length) :
    (mapWireN l).bytes.length ≤ (Wire.map hw kvs).bytes.length := by
  have hhead := C09.shortest_head_le 5 hfit
  have hbody := bytesPairs_le kvs l hrel hp
  have hperm := bytesPairs_length_perm ((sortEntries_perm l).map entryWireN)
  simp only [mapWireN, Wire.bytes, List.length_map, sortEntries_length, List.length_append,
    ← hrel.length_eq]
  omega

/-- the item the encoder emits for a decoded value of the nested data model is not longer than
    the item it was decoded from (`valWire_length_le` is the leaf case) -/
theorem wireN_length_le : ∀ (w : Wire) (v : GoVal) (d : Nat), decodeAny w = .ok v → w.wf = true →
    RTVal d v → (wireN v).bytes.length ≤ w.bytes.length := by
  intro w
  induction w using wire_ind with
  | harr hw xs ih =>
    intro v d h hwf hv
    obtain ⟨l, hl, rfl⟩ := decodeAny_arr_ok h
    have hrel := decodeList_rel xs l hl
    simp only [Wire.wf, Bool.and_eq_true, wfList_iff] at hwf
    simp only [RTVal, rtList_iff] at hv
    have hhead := C09.shortest_head_le 4 hwf.1
    have hbody := bytesList_le xs l hrel
      (fun x hx y hy hxy => ih x hx y (d + 1) hxy (hwf.2 x hx) (hv.2.2 y hy))
    rw [wireN_arr]
    simp only [Wire.bytes, List.length_map, List.length_append, ← hrel.length_eq]
    omega
  | hmap hw kvs ih =>
    intro v d h hwf hv
    obtain ⟨l, hl, rfl⟩ := decodeAny_map_ok h
    obtain ⟨l', hl', hrel, -⟩ := decodePairs_inv kvs [] l hl
    simp only [List.reverse_nil, List.nil_append] at hl'
    subst hl'
    simp only [Wire.wf, Bool.and_eq_true, wfPairs_iff] at hwf
    simp only [RTVal, rtPairs_iff] at hv
    rw [wireN_map]
    exact mapWireN_length_le hwf.1 hrel
      (fun kv hkv e he hr =>
        ⟨valWire_length_le hr.1 (hwf.2 kv hkv).1 (hv.2.2.2 e he).1.flatVal,
         (ih kv hkv).2 e.2 (d + 1) hr.2.1 (hwf.2 kv hkv).2 (hv.2.2.2 e he).2⟩)
  | hleaf w ha hm =>
    intro v d h hwf hv
    have hn := decoded_leaf ha hm h
    rw [wireN_leaf hn]
    exact valWire_length_le h hwf ((rtVal_leaf d hn).mp hv)

/-- the canonical encoding of a decoded protected map with nested values is not longer than the
    content it was decoded from -/
theorem protected_decoded_bytes_leN {enc : Bytes} {m : GoMap}
    (h : decProtectedContent enc = .ok m) (hf : NestedMap m) (hne : m ≠ []) :
    (mapWireN m).bytes.length ≤ enc.length := by
  rcases decProtectedContent_shape h with ⟨-, rfl⟩ | ⟨hw, kvs, m0, rfl, hwf, -, hrel, rfl⟩
  · exact absurd rfl hne
  · simp only [Wire.wf, Bool.and_eq_true, wfPairs_iff] at hwf
    rw [mapWireN_map castEntry entryWireN_castEntry]
    exact mapWireN_length_le hwf.1 hrel
      (fun kv hkv e he hr => by
        obtain ⟨g1, g2⟩ := hf (castEntry e) (List.mem_map_of_mem he)
        rw [castEntry_fst] at g1
        have g3 : RTVal 1 e.2 := by
          unfold castEntry at g2
          split at g2
          · exact rtVal_of_algCast g2
          · exact g2
        exact ⟨valWire_length_le hr.1 (hwf.2 kv hkv).1 g1.flatVal,
          wireN_length_le kv.2 e.2 1 hr.2.1 (hwf.2 kv hkv).2 g3⟩)

/-! ### shape of an accepted unprotected bucket -/

theorem unprotected_decoded_fixed {u : Wire} {um : GoMap} (h : decUnprot u = .ok um) :
    ∀ e ∈ um, normEntry e = e := by
  obtain ⟨hw, kvs, rfl, -, hd, -⟩ := C05.decUnprot_ok h
  intro e he
  obtain ⟨kv, -, hr⟩ := (decUnprotPairs_rel kvs um hd).mem_right e he
  exact normEntry_of_relU hr

theorem unprotected_decoded_length {u : Wire} {um : GoMap} (h : decUnprot u = .ok um)
    {t : Bool} {d : Nat} (hlim : u.inLimits t d = true) : um.length ≤ maxElems := by
  obtain ⟨hw, kvs, rfl, -, hd, -⟩ := C05.decUnprot_ok h
  simp only [Wire.inLimits, Bool.and_eq_true, decide_eq_true_eq] at hlim
  rw [← (decUnprotPairs_rel kvs um hd).length_eq]
  exact hlim.1.2

/-! ### decoded entries hold no integer of an unsigned Go type -/

theorem sortEntries_nil : sortEntries [] = [] := by simp [sortEntries]

theorem castEntry_snd (a v : GoVal) :
    (castEntry (a, v)).2 = algCast v ∨ (castEntry (a, v)).2 = v := by
  unfold castEntry
  split
  · exact .inl rfl
  · exact .inr rfl

/-- an entry that the protected-header decoder would reproduce does not hold an integer of an
    unsigned Go type -/
theorem uintOK_of_decEntry_fixed {e : GoVal × GoVal} (h : decEntry e = e) : UintOK e.2 := by
  obtain ⟨k, v⟩ := e
  cases v <;> try trivial
  case int ik n =>
    intro hs
    exfalso
    have h2 : (castEntry (normVal k, GoVal.int .i64 n)).2 = GoVal.int ik n := congrArg Prod.snd h
    rcases castEntry_snd (normVal k) (GoVal.int .i64 n) with h3 | h3
    · rw [h3] at h2
      simp [algCast, IntKind.signed] at h2
    · rw [h3] at h2
      simp only [GoVal.int.injEq] at h2
      rw [← h2.1] at hs
      cases hs

theorem uintOK_of_normEntry_fixed {e : GoVal × GoVal} (h : normEntry e = e) : UintOK e.2 := by
  obtain ⟨k, v⟩ := e
  cases v <;> try trivial
  case int ik n =>
    intro hs
    exfalso
    have h2 := congrArg Prod.snd h
    simp only [normEntry, normVal, GoVal.int.injEq] at h2
    rw [← h2.1] at hs
    cases hs

theorem protected_decoded_uintOK {enc : Bytes} {m : GoMap} (h : decProtectedContent enc = .ok m) :
    ∀ e ∈ m, UintOK e.2 :=
  fun e he => uintOK_of_decEntry_fixed (protected_decoded_fixed h e he)

theorem unprotected_decoded_uintOK {u : Wire} {um : GoMap} (h : decUnprot u = .ok um) :
    ∀ e ∈ um, UintOK e.2 :=
  fun e he => uintOK_of_normEntry_fixed (unprotected_decoded_fixed h e he)

theorem algCast_node {v : GoVal} (h : isNode (algCast v) = true) : algCast v = v := by
  cases v <;> try rfl
  case int k a => cases hs : k.signed <;> simp [algCast, hs, isNode] at h ⊢

theorem normVal_node {v : GoVal} (h : isNode v = true) : normVal v = v := by
  cases v <;> simp only [isNode, reduceCtorEq] at h <;> rfl

theorem encBstr_nil : encBstr [] = [0x40] := by decide

/-! ### a wire-side condition that makes the decoded maps flat -/

theorem flatVal_of_scalar {w : Wire} {v : GoVal} (h : decodeAny w = .ok v) (hwf : w.wf = true)
    (hs : ScalarItem w) : FlatVal v := by
  have h63 : maxInt64 = 9223372036854775807 := rfl
  rcases decodeAny_ok h with ⟨hw, n, rfl, hn, rfl⟩ | ⟨hw, n, rfl, hn, rfl⟩ | ⟨hw, b, rfl, rfl⟩ |
    ⟨hw, b, rfl, hu, rfl⟩ | ⟨n, rfl, -, hb⟩ | ⟨hw, n, rfl, hn, -⟩ | ⟨_, _, _, rfl, -, -⟩ |
    ⟨_, _, _, rfl, -, -⟩
  · simp only [FlatVal, int64Range]
    omega
  · simp only [FlatVal, int64Range]
    omega
  · exact HW.fits_lt hwf
  · exact ⟨hu, HW.fits_lt hwf⟩
  · rcases hb with rfl | rfl | rfl <;> trivial
  · cases hw
    · exact absurd (hn rfl) (Nat.not_lt.mpr hs)
    all_goals exact hs.elim
  · exact hs.elim
  · exact hs.elim

/-- a decoded key that is a label at all is a flat label -/
theorem flatLabel_of_dec {w : Wire} {v : GoVal} (h : decodeAny w = .ok v) (hwf : w.wf = true)
    (hn : normalizeLabel v ≠ none) : FlatLabel v := by
  rcases decodeAny_ok h with ⟨hw, n, rfl, -, rfl⟩ | ⟨hw, n, rfl, -, rfl⟩ | ⟨hw, b, rfl, rfl⟩ |
    ⟨hw, b, rfl, -, rfl⟩ | ⟨n, rfl, -, hb⟩ | ⟨_, _, -, -, rfl | rfl⟩ | ⟨_, _, _, -, -, rfl⟩ |
    ⟨_, _, _, -, -, rfl⟩
  · exact flatVal_of_scalar h hwf trivial
  · exact flatVal_of_scalar h hwf trivial
  · exact absurd rfl hn
  · exact flatVal_of_scalar h hwf trivial
  · rcases hb with rfl | rfl | rfl <;> exact absurd rfl hn
  · exact absurd rfl hn
  · exact absurd rfl hn
  · exact absurd rfl hn
  · exact absurd rfl hn

theorem flatVal_algCast {v : GoVal} (h : FlatVal v) : FlatVal (algCast v) := by
  cases v <;> try exact h
  case int k a => cases hs : k.signed <;> simpa [algCast, hs, FlatVal] using h

/-- the values of a decoded protected map have every property `V` that the generic decoder gives
    the value items of the map inside the byte string (met at depth 1) and that the `alg` retyping
    keeps; its labels are flat -/
theorem protected_decoded_vals {V : GoVal → Prop} {enc : Bytes} {m : GoMap}
    (hd : decProtectedContent enc = .ok m) (hcast : ∀ {v}, V v → V (algCast v))
    (hV : ∀ hw kvs, enc = (Wire.map hw kvs).bytes → (Wire.map hw kvs).wf = true →
      ∀ kv ∈ kvs, ∀ v, decodeAny kv.2 = .ok v → kv.2.wf = true → kv.2.inLimits true 1 = true →
        V v) :
    ∀ e ∈ m, FlatLabel e.1 ∧ V e.2 := by
  have hok := C13.validate_labels m true (C13.decoded_reencodable enc m hd)
  rcases decProtectedContent_shape hd with ⟨-, rfl⟩ | ⟨hw, kvs, m0, henc, hwf, hlim, hrel, rfl⟩
  · intro e he; cases he
  · have hsc := hV hw kvs henc hwf
    simp only [Wire.wf, Bool.and_eq_true, wfPairs_iff] at hwf
    simp only [Wire.inLimits, Bool.and_eq_true, inLimitsPairs_iff] at hlim
    intro e he
    have hne := hok.1 e he
    obtain ⟨e0, he0, rfl⟩ := List.mem_map.mp he
    obtain ⟨kv, hkv, h1, h2, -⟩ := hrel.mem_right e0 he0
    rw [castEntry_fst] at hne ⊢
    refine ⟨flatLabel_of_dec h1 (hwf.2 kv hkv).1 hne, ?_⟩
    have hv := hsc kv hkv e0.2 h2 (hwf.2 kv hkv).2 (hlim.2 kv hkv).2
    rcases castEntry_snd e0.1 e0.2 with h3 | h3
    · rw [h3]; exact hcast hv
    · rw [h3]; exact hv

/-- the same for a decoded unprotected map whose item was met at depth `d`; under a
    countersignature label the typed decoder read the value -/
theorem unprotected_decoded_vals {V : GoVal → Prop} {hw : HW} {kvs : List (Wire × Wire)}
    {um : GoMap} {t : Bool} {d : Nat} (hd : decUnprot (.map hw kvs) = .ok um)
    (hwf : (Wire.map hw kvs).wf = true) (hlim : (Wire.map hw kvs).inLimits t d = true)
    (hV : ∀ kv ∈ kvs, ∀ v, decodeAny kv.2 = .ok v → kv.2.wf = true →
      kv.2.inLimits t (d + 1) = true → V v)
    (hcs : ∀ kv ∈ kvs, ∀ e ∈ um, isCsigLabel e.1 = true → decCsigValue kv.2 = .ok e.2 → V e.2) :
    ∀ e ∈ um, FlatLabel e.1 ∧ V e.2 := by
  obtain ⟨hw', kvs', heq, -, hdp, hv⟩ := C05.decUnprot_ok hd
  cases heq
  have hok := C13.validate_labels um false hv
  simp only [Wire.wf, Bool.and_eq_true, wfPairs_iff] at hwf
  simp only [Wire.inLimits, Bool.and_eq_true, inLimitsPairs_iff] at hlim
  intro e he
  obtain ⟨kv, hkv, h1, h2⟩ := (decUnprotPairs_rel kvs um hdp).mem_right e he
  refine ⟨flatLabel_of_dec h1 (hwf.2 kv hkv).1 (hok.1 e he), ?_⟩
  rcases h2 with ⟨-, h2⟩ | ⟨hc, h2⟩
  · exact hV kv hkv e.2 h2 (hwf.2 kv hkv).2 (hlim.2 kv hkv).2
  · exact hcs kv hkv e he hc h2

/-- if every value item of the map inside the protected byte string is a scalar, the decoded
    map is flat -/
theorem protected_flat_of_scalar {enc : Bytes} {m : GoMap} (hd : decProtectedContent enc = .ok m)
    (hs : ∀ hw kvs, enc = (Wire.map hw kvs).bytes → (Wire.map hw kvs).wf = true →
      ∀ kv ∈ kvs, ScalarItem kv.2) : FlatMap m :=
  protected_decoded_vals hd flatVal_algCast
    (fun hw kvs he hwf kv hkv _ hv hw2 _ => flatVal_of_scalar hv hw2 (hs hw kvs he hwf kv hkv))

theorem csigsNil_refused {g : GoMap} {l' l : GoVal} (hc : isCsigLabel l' = true)
    (hl : normalizeLabel l' = some l) : checkParam g false l .csigsNil = false := by
  unfold isCsigLabel at hc
  rw [hl] at hc
  split at hc
  next heq =>
    cases heq
    simp [checkParam, isCsigValue]
  next heq =>
    cases heq
    simp [checkParam, isCsigValue]
  next => cases hc

/-- the same for the unprotected map item (a `null` under a countersignature label is refused by
    the decoder's validation, so scalars never reach the typed countersignature decoder) -/
theorem unprotected_flat_of_scalar {hw : HW} {kvs : List (Wire × Wire)} {um : GoMap} {t : Bool}
    {d : Nat} (hd : decUnprot (.map hw kvs) = .ok um) (hwf : (Wire.map hw kvs).wf = true)
    (hlim : (Wire.map hw kvs).inLimits t d = true) (hs : ∀ kv ∈ kvs, ScalarItem kv.2) :
    FlatMap um :=
  unprotected_decoded_vals hd hwf hlim
    (fun kv hkv _ hv hw2 _ => flatVal_of_scalar hv hw2 (hs kv hkv))
    (fun kv hkv e he hc h2 => by
      exfalso
      have hsc := hs kv hkv
      rcases C05.csig_value_accept _ _ h2 with ⟨xs, hx, -⟩ | ⟨_, xs, l, hx, -⟩ | ⟨-, hnil⟩
      · rw [hx] at hsc; exact hsc
      · rw [hx] at hsc; exact hsc
      · obtain ⟨l, hl, hchk⟩ :=
          ((C13.validate_iff um false).mp (C13.decoded_unprot_reencodable _ _ hd)).2 e he
        rw [hnil, csigsNil_refused hc hl] at hchk
        cases hchk)

/-! ### what a header layer and a message are emitted as -/

theorem modelledList_iff (l : List GoVal) :
    GoVal.modelledList l = true ↔ ∀ x ∈ l, x.modelled = true := by
  induction l with
  | nil => simp [GoVal.modelledList]
  | cons x r ih => simp only [GoVal.modelledList, Bool.and_eq_true, ih, List.forall_mem_cons]

theorem flatVal_modelled {v : GoVal} (hv : FlatVal v) : v.modelled = true := by
  cases v <;> simp only [FlatVal] at hv <;> rfl

theorem marshalProtected_of_bucket {h : Hdrs} {P : Bytes} (hr : h.rawP = none)
    (hm : GoVal.modelledPairs h.p = true) (he : encodeBucket encCfg true none h.p = some P) :
    marshalProtected h = .ok P := by
  simp [marshalProtected, hm, hr, he]

theorem marshalUnprotected_of_bucket {h : Hdrs} {U : Bytes} (hr : h.rawU = none)
    (hm : GoVal.modelledPairs h.u = true) (he : encodeBucket encCfg false none h.u = some U) :
    marshalUnprotected h = .ok U := by
  simp [marshalUnprotected, hm, hr, he]

theorem hdrs_marshal_of {h : Hdrs} {P U : Bytes} (hiv : ensureIV h.p h.u = true)
    (hP : marshalProtected h = .ok P) (hU : marshalUnprotected h = .ok U) :
    h.marshal = .ok (P, U) := by
  simp [Hdrs.marshal, hiv, hP, hU, bind, Out.bind]

/-- a header layer without retained bytes is emitted as what the encoder makes of its two maps -/
theorem hdrs_marshal_of_buckets {p u : GoMap} {P U : Bytes}
    (hmp : GoVal.modelledPairs p = true) (hmu : GoVal.modelledPairs u = true)
    (hiv : ensureIV p u = true) (hP : encodeBucket encCfg true none p = some P)
    (hU : encodeBucket encCfg false none u = some U) :
    Hdrs.marshal { p := p, u := u } = .ok (P, U) :=
  hdrs_marshal_of hiv (marshalProtected_of_bucket rfl hmp hP) (marshalUnprotected_of_bucket rfl hmu hU)

theorem sign1_marshal_of_hdrs {tagged : Bool} {m : Sign1Msg} {P U : Bytes} (hz : blen m.sig ≠ 0)
    (hh : m.h.marshal = .ok (P, U)) :
    Sign1.marshal tagged m = .ok (C09.pre tagged ++
      0x84 :: (P ++ (U ++ (optBytesEnc m.payload ++ encBstr (m.sig.getD []))))) :=
  have ⟨hP, hU⟩ := C01.hdrs_marshal_ok_inv hh
  WireClosure.sign1_marshal_of hz (WireClosure.hdrs_marshal_iv hh) hP hU

theorem signature_marshal_of_hdrs {s : SigV} {P U : Bytes} (hz : blen s.sig ≠ 0)
    (hh : s.h.marshal = .ok (P, U)) :
    Signature.marshal s = .ok (0x83 :: (P ++ (U ++ encBstr (s.sig.getD [])))) := by
  simp [Signature.marshal, hz, hh, bind, Out.bind]

theorem sign_marshal_of_hdrs {m : SignMsg} {P U ss : Bytes} (hne : m.sigs ≠ [])
    (hh : m.h.marshal = .ok (P, U)) (hs : marshalSigs m.sigs = .ok ss) :
    Sign.marshal m = .ok (0xd8 :: 0x62 :: 0x84 :: (P ++ (U ++ (optBytesEnc m.payload ++
      (encHead 4 m.sigs.length ++ ss))))) := by
  have hemp : m.sigs.isEmpty = false := by
    cases hl : m.sigs with
    | nil => exact absurd hl hne
    | cons a r => rfl
  simp [Sign.marshal, hemp, hh, hs, bind, Out.bind]

/-! ### one header layer through a clear-raw cycle; COSE_Sign1 -/

/-- the header layer `h` was decoded from the items `p`, `u`, and the parser met `u` at depth `d` -/
structure DecodedLayer (d : Nat) (p u : Wire) (h : Hdrs) : Prop where
  decP : decProtected p = .ok h.p
  decU : decUnprot u = .ok h.u
  iv : ensureIV h.p h.u = true
  wfP : p.wf = true
  wfU : u.wf = true
  limU : u.inLimits false d = true

/-- the content of the protected item of a decoded layer: what the bucket decoder read, shorter
    than 2^64 bytes -/
theorem DecodedLayer.content {d : Nat} {p u : Wire} {h : Hdrs} (D : DecodedLayer d p u h) :
    ∃ hw enc, p = .bstr hw enc ∧ decProtectedContent enc = .ok h.p ∧
      enc.length < 18446744073709551616 := by
  obtain ⟨hw, enc, rfl, -⟩ := C05.protected_is_bstr_of_map p _ D.decP
  exact ⟨hw, enc, rfl, D.decP, HW.fits_lt D.wfP⟩

theorem DecodedLayer.depth {d : Nat} {p u : Wire} {h : Hdrs} (D : DecodedLayer d p u h) :
    d + 1 ≤ maxNested := by
  obtain ⟨hw, kvs, rfl⟩ := C05.unprotected_is_map u _ D.decU
  have := D.limU
  simp only [Wire.inLimits, Bool.and_eq_true, decide_eq_true_eq] at this
  exact this.1.1

/-- one clear-raw cycle of A header layer, as the message around it sees it.  `h₁` is the layer
    handed to the encoder (retained bytes discarded); it is emitted as the two items `P`, `U`,
    well formed, `U` within the parser's limits when met at depth `d`; the decoder reads them
    back as `hc`; and `h₂` (`hc` with its retained bytes discarded again) is emitted as the same
    two items.  The messages below use nothing else about a layer, whatever its header values. -/
structure LayerCycle (d : Nat) (h₁ hc h₂ : Hdrs) (P U : Wire) : Prop where
  enc : h₁.marshal = .ok (P.bytes, U.bytes)
  wfP : P.wf = true
  wfU : U.wf = true
  limU : U.inLimits false d = true
  dec : decHeaders P U = .ok hc
  enc' : h₂.marshal = .ok (P.bytes, U.bytes)

/-- the protected item is a byte string: no limit of the parser applies to it -/
theorem LayerCycle.limP {d : Nat} {h₁ hc h₂ : Hdrs} {P U : Wire} (L : LayerCycle d h₁ hc h₂ P U)
    (t : Bool) (d' : Nat) : P.inLimits t d' = true := by
  obtain ⟨hw, enc, rfl, -⟩ := C05.protected_is_bstr_of_map P _ (C09.decHeaders_ok L.dec).1
  rfl

/-- a header layer read from the first two elements of an array item met at depth `d` -/
theorem DecodedLayer.of_arr {d : Nat} {hw : HW} {p u : Wire} {rest : List Wire} {h : Hdrs}
    (hwf : (Wire.arr hw (p :: u :: rest)).wf = true)
    (hlim : (Wire.arr hw (p :: u :: rest)).inLimits false d = true)
    (hp : decProtected p = .ok h.p) (hu : decUnprot u = .ok h.u) (hiv : ensureIV h.p h.u = true) :
    DecodedLayer (d + 1) p u h := by
  simp only [Wire.wf, Wire.wfList, Bool.and_eq_true] at hwf
  simp only [Wire.inLimits, Wire.inLimitsList, Bool.and_eq_true] at hlim
  exact ⟨hp, hu, hiv, hwf.2.1, hwf.2.2.1, hlim.2.2.1⟩

/-- a well-formed tree whose bytes a decoded COSE_Sign1 was read from is the tree the decoder saw
    (`Reencode.bytes_inj`), so its first two items are what the header layer was decoded from -/
theorem sign1_decodedLayer_of_tree {tagged : Bool} {b : Bytes} {m : Sign1Msg}
    (hd : Sign1.unmarshal tagged b = .ok m) {p u pl sg : Wire}
    (hb : b = (if tagged then [0xd2] else []) ++ (Wire.arr .imm [p, u, pl, sg]).bytes)
    (hwf : (Wire.arr .imm [p, u, pl, sg]).wf = true) : DecodedLayer 1 p u m.h := by
  obtain ⟨p', u', pl', sg', hb', -, hwf', hlim, -, -, -, hh⟩ := C09.sign1_envelope_full hd
  have heq := Reencode.bytes_inj hwf hwf' (List.append_cancel_left (hb.symm.trans hb'))
  simp only [Wire.arr.injEq, List.cons.injEq, and_true, true_and] at heq
  obtain ⟨rfl, rfl, -, -⟩ := heq
  obtain ⟨hp, hu, hiv, -, -⟩ := C09.decHeaders_ok hh
  exact .of_arr hwf' hlim hp hu hiv

theorem sign1_decodedLayer {tagged : Bool} {b : Bytes} {m : Sign1Msg}
    (hd : Sign1.unmarshal tagged b = .ok m) : ∃ p u, DecodedLayer 1 p u m.h := by
  obtain ⟨p, u, pl, sg, hb, -, hwf, -⟩ := C09.sign1_envelope_full hd
  exact ⟨p, u, sign1_decodedLayer_of_tree hd hb hwf⟩

/-- for any kind of header values: a decoded COSE_Sign1 whose header layer goes through a
    clear-raw cycle (`LayerCycle`, unprotected item at depth 1) is emitted as bytes `b'` that
    decode to the same message around the layer `hc`, and that message around `h₂` is emitted as
    `b'` again.  Payload and signature are re-emitted with shortest heads
    (`C09.unmarshal_marshal_tree`). -/
theorem sign1_cycle (tagged : Bool) {b : Bytes} {m : Sign1Msg}
    (hd : Sign1.unmarshal tagged b = .ok m) {h₁ hc h₂ : Hdrs} {P U : Wire}
    (L : LayerCycle 1 h₁ hc h₂ P U) :
    ∃ b', Sign1.marshal tagged { m with h := h₁ } = .ok b' ∧
      Sign1.unmarshal tagged b' = .ok { m with h := hc } ∧
      Sign1.marshal tagged { m with h := h₂ } = .ok b' := by
  obtain ⟨p, u, pl, sg, -, -, hwf, hlim, hpl, hsg, hz, -⟩ := C09.sign1_envelope_full hd
  have hwf' : (Wire.arr .imm [P, U, pl, sg]).wf = true := by
    simp only [Wire.wf, Wire.wfList, Bool.and_eq_true] at hwf ⊢
    exact ⟨hwf.1, L.wfP, L.wfU, hwf.2.2.2⟩
  have hlim' : (Wire.arr .imm [P, U, pl, sg]).inLimits false 0 = true := by
    simp only [Wire.inLimits, Wire.inLimitsList, Bool.and_eq_true] at hlim ⊢
    exact ⟨hlim.1, L.limP false 1, L.limU, hlim.2.2.2⟩
  have hm : ∀ h : Hdrs, h.marshal = .ok (P.bytes, U.bytes) →
      Sign1.marshal tagged { m with h := h } = .ok (C09.pre tagged ++
        (Wire.arr .imm [P, U, C09.shortItem m.payload, C09.shortItem m.sig]).bytes) := by
    intro h hh
    rw [← C09.marshal_tree_bytes P U m.payload m.sig hz]
    exact sign1_marshal_of_hdrs (m := { m with h := h }) hz hh
  exact ⟨_, hm h₁ L.enc,
    C09.unmarshal_marshal_tree (m := { m with h := hc }) hwf' hlim' hpl hsg hz L.dec,
    hm h₂ L.enc'⟩

/-- from the core to "one cycle reaches a fixpoint", for any encoder `e`, decoder `dcd` and
    clearing `c`: any result `b'`, `m'` of encoding the cleared value and decoding that is the
    pair the core speaks of -/
theorem fixpoint_of_core {α β : Type} {e : α → Out β} {dcd : β → Out α} {c : α → α} {m mc : α}
    {b₁ : β} (h1 : e (c m) = .ok b₁) (h2 : dcd b₁ = .ok mc) (h3 : e (c mc) = .ok b₁)
    {b' : β} {m' : α} (he : e (c m) = .ok b') (hd' : dcd b' = .ok m') :
    ∃ b'', e (c m') = .ok b'' ∧ b'' = b' ∧ dcd b'' = .ok m' := by
  cases Out.ok.inj (h1.symm.trans he)
  cases Out.ok.inj (h2.symm.trans hd')
  exact ⟨b₁, h3, rfl, h2⟩

/-- … and to idempotence of the composed decode / clear / encode cycle -/
theorem idempotent_of_core {α β : Type} {e : α → Out β} {dcd : β → Out α} {c : α → α} {b b1 : β}
    (hcore : ∀ m, dcd b = .ok m → ∃ b₁ mc, e (c m) = .ok b₁ ∧ dcd b₁ = .ok mc ∧ e (c mc) = .ok b₁)
    (h : (dcd b >>= fun m => e (c m)) = .ok b1) : (dcd b1 >>= fun m => e (c m)) = .ok b1 := by
  cases hd : dcd b with
  | ok m =>
    rw [hd] at h
    obtain ⟨b₁, mc, h1, h2, h3⟩ := hcore m hd
    cases Out.ok.inj (h1.symm.trans h)
    rw [h2]
    exact h3
  | err e => rw [hd] at h; cases h
  | panic => rw [hd] at h; cases h
  | unmodelled => rw [hd] at h; cases h

end ClearRaw

/-! ## the bucket level of the cycle, for nested header values -/

namespace NestedClosures
open WireClosure NestedBuckets ClearRaw

/-! ### the retyping / normalisation of an entry does not change what is emitted -/

theorem entryWireN_normEntryN (e : GoVal × GoVal) : entryWireN (normEntryN e) = entryWireN e := by
  simp only [entryWireN, normEntryN, valWire_of_normVal, wireN_normValN]

theorem entryWireN_decEntryN (e : GoVal × GoVal) : entryWireN (decEntryN e) = entryWireN e := by
  unfold decEntryN
  rw [entryWireN_castEntry, entryWireN_normEntryN]

theorem mapWireN_sortEntries (g : GoMap) : mapWireN (sortEntries g) = mapWireN g := by
  unfold mapWireN
  rw [sortEntries_sortEntries, sortEntries_length]

theorem mapWireN_canonP (g : GoMap) : mapWireN ((sortEntries g).map decEntryN) = mapWireN g := by
  rw [mapWireN_map decEntryN entryWireN_decEntryN, mapWireN_sortEntries]

theorem mapWireN_canonU (g : GoMap) : mapWireN ((sortEntries g).map normEntryN) = mapWireN g := by
  rw [mapWireN_map normEntryN entryWireN_normEntryN, mapWireN_sortEntries]

/-! ### the data model is closed under the decoder's retyping -/

theorem rtVal_algCast {d : Nat} {v : GoVal} (h : RTVal d v) : RTVal d (algCast v) := by
  cases v <;> try exact h
  case int k a => cases hs : k.signed <;> simpa [algCast, hs, RTVal, FlatVal] using h

theorem nestedMapAt_normEntryN {d : Nat} {g : GoMap} (hf : NestedMapAt d g) :
    NestedMapAt d (g.map normEntryN) := by
  intro e' he'
  obtain ⟨e, he, rfl⟩ := List.mem_map.mp he'
  exact ⟨flatLabel_normVal (hf e he).1, (C08.normValN_closed encCfg e.2 d (hf e he).2).1⟩

theorem nestedMapAt_decEntryN {d : Nat} {g : GoMap} (hf : NestedMapAt d g) :
    NestedMapAt d (g.map decEntryN) := by
  intro e' he'
  obtain ⟨e, he, rfl⟩ := List.mem_map.mp he'
  have h1 := flatLabel_normVal (hf e he).1
  have h2 := (C08.normValN_closed encCfg e.2 d (hf e he).2).1
  unfold decEntryN castEntry normEntryN
  split
  · exact ⟨h1, rtVal_algCast h2⟩
  · exact ⟨h1, h2⟩

/-- every value of the nested data model is a value whose encoding the model mirrors -/
theorem rtVal_modelled : ∀ (v : GoVal) (d : Nat), RTVal d v → v.modelled = true := by
  intro v
  induction v using goVal_ind with
  | harr xs ih =>
    intro d h
    simp only [RTVal, rtList_iff] at h
    simp only [GoVal.modelled]
    rw [modelledList_iff]
    exact fun x hx => ih x hx _ (h.2.2 x hx)
  | hmap kvs ih =>
    intro d h
    simp only [RTVal, rtPairs_iff] at h
    simp only [GoVal.modelled]
    rw [C01.modelledPairs_iff]
    intro e he
    exact ⟨flatVal_modelled (h.2.2.2 e he).1.flatVal, ih e he _ (h.2.2.2 e he).2⟩
  | hleaf v hn =>
    intro d h
    exact flatVal_modelled ((rtVal_leaf d hn).mp h)

theorem nested_modelled {d : Nat} {h : GoMap} (hf : NestedMapAt d h) :
    GoVal.modelledPairs h = true := by
  rw [C01.modelledPairs_iff]
  intro e he
  exact ⟨flatVal_modelled (hf e he).1.flatVal, rtVal_modelled e.2 d (hf e he).2⟩

/-- what one clear-raw cycle makes of a decoded protected map: entries in the encoder's order,
    every nested map inside a value sorted (`decEntryN`; labels and the `alg` typing are already
    the decoder's) -/
def canonP (m : GoMap) : GoMap := (sortEntries m).map decEntryN

/-- the same for a decoded unprotected map -/
def canonU (m : GoMap) : GoMap := (sortEntries m).map normEntryN

theorem canonP_length (m : GoMap) : (canonP m).length = m.length := by
  simp only [canonP, List.length_map, sortEntries_length]

theorem canonU_length (m : GoMap) : (canonU m).length = m.length := by
  simp only [canonU, List.length_map, sortEntries_length]

theorem canonP_ne_nil {m : GoMap} (hne : m ≠ []) : canonP m ≠ [] :=
  fun hc => hne (List.eq_nil_of_length_eq_zero (by rw [← canonP_length, hc]; rfl))

theorem nestedMap_canonP {m : GoMap} (hf : NestedMap m) : NestedMap (canonP m) :=
  nestedMapAt_decEntryN (NestedMapAt.sorted (d := 1) hf)

theorem nestedMapAt_canonU {d : Nat} {m : GoMap} (hf : NestedMapAt d m) :
    NestedMapAt d (canonU m) :=
  nestedMapAt_normEntryN hf.sorted

/-- a validated protected bucket of the nested data model: the encoder emits a byte string whose
    content the decoder reads back as `canonP m`, and encoding that gives the same bytes again
    (`canonP m` sorts the maps inside values too; `sortEntries m` alone need not be a fixpoint) -/
theorem protected_canonN {m : GoMap} (hf : NestedMap m) (hu : ∀ e ∈ m, UintOK e.2)
    (hv : validateHeaderParameters m true = true) (hlen : m.length ≤ maxElems) :
    ∃ content, encodeBucket encCfg true none m = some (encBstr content) ∧
      (m = [] → content = []) ∧ (m ≠ [] → content = (mapWireN m).bytes) ∧
      decProtectedContent content = .ok (canonP m) ∧
      encodeBucket encCfg true none (canonP m) = some (encBstr content) := by
  have hd0 : 0 + 1 ≤ maxNested := by unfold maxNested; omega
  by_cases hne : m = []
  · subst hne
    refine ⟨[], ?_, fun _ => rfl, fun h => absurd rfl h, ?_, ?_⟩
    · simp [encodeBucket, encBstr_nil]
    · simp [decProtectedContent, canonP, sortEntries_nil]
    · simp [encodeBucket, encBstr_nil, canonP, sortEntries_nil]
  · have hok := C13.validate_labels m true hv
    have hp := sortEntries_perm m
    have hvs : validateHeaderParameters (sortEntries m) true = true := by
      rw [C13.validate_perm_invariant _ _ hp]; exact hv
    have hvn := validate_normEntryN true (NestedMapAt.sorted (d := 1) hf)
      (fun e he => hu e (hp.mem_iff.mp he)) hvs
    have hdec : decProtectedContent (mapWireN m).bytes = .ok (canonP m) := by
      rw [decProtectedContent_mapWireN hf hok hlen, if_pos hvn]; rfl
    refine ⟨(mapWireN m).bytes, ?_, fun h => absurd h hne, fun _ => rfl, hdec, ?_⟩
    · rw [encodeBucket_N (d := 0) hf true hv hlen hd0 hne]; rfl
    · rw [encodeBucket_N (d := 0) (nestedMap_canonP hf) true (C13.decoded_reencodable _ _ hdec)
        (by rw [canonP_length]; exact hlen) hd0 (canonP_ne_nil hne)]
      simp only [canonP, mapWireN_canonP, if_true]

/-- what the encoder emits for a validated unprotected bucket met at depth `d` -/
theorem encodeBucket_unprotN {d : Nat} {g : GoMap} (hf : NestedMapAt (d + 1) g)
    (hv : validateHeaderParameters g false = true) (hlen : g.length ≤ maxElems)
    (hd : d + 1 ≤ maxNested) : encodeBucket encCfg false none g = some (mapWireN g).bytes := by
  by_cases hne : g = []
  · subst hne
    rw [mapWireN_nil_bytes]
    simp [encodeBucket]
  · rw [encodeBucket_N (d := d) hf false hv hlen hd hne]; rfl

/-- the same for the unprotected bucket whose map item is met at depth `d` -/
theorem unprotected_canonN {d : Nat} {um : GoMap} (hf : NestedMapAt (d + 1) um)
    (hu : ∀ e ∈ um, UintOK e.2) (hv : validateHeaderParameters um false = true)
    (hlen : um.length ≤ maxElems) (hd : d + 1 ≤ maxNested) :
    encodeBucket encCfg false none um = some (mapWireN um).bytes ∧ (mapWireN um).wf = true ∧
      (∀ t d', d' ≤ d → (mapWireN um).inLimits t d' = true) ∧
      decUnprot (mapWireN um) = .ok (canonU um) ∧
      encodeBucket encCfg false none (canonU um) = some (mapWireN um).bytes := by
  have hok := C13.validate_labels um false hv
  have hdec : decUnprot (mapWireN um) = .ok (canonU um) := decUnprot_mapWireN hf hu hv hlen hd
  refine ⟨encodeBucket_unprotN hf hv hlen hd, (mapWireN_ok encCfg hf hok hlen hd).2.1,
    fun t d' hle => (mapWireN_ok encCfg (d := d') (hf.mono (by omega)) hok hlen
      (by omega)).2.2.1 t, hdec, ?_⟩
  rw [encodeBucket_unprotN (nestedMapAt_canonU hf) (C13.decoded_unprot_reencodable _ _ hdec)
    (by rw [canonU_length]; exact hlen) hd]
  simp only [canonU, mapWireN_canonU]

/-- a decoded protected bucket of the nested data model goes through a clear-raw cycle: `UintOK`,
    validation and size come from "the decoder accepted it", and the re-encoded content is not
    longer than the accepted one -/
theorem protected_decoded_canonN {enc : Bytes} {m : GoMap} (hd : decProtectedContent enc = .ok m)
    (hf : NestedMap m) :
    ∃ content, content.length ≤ enc.length ∧
      encodeBucket encCfg true none m = some (encBstr content) ∧
      (m = [] → content = []) ∧ (m ≠ [] → content = (mapWireN m).bytes) ∧
      decProtectedContent content = .ok (canonP m) ∧
      encodeBucket encCfg true none (canonP m) = some (encBstr content) := by
  obtain ⟨content, h1, h2, h3, h4, h5⟩ := protected_canonN hf (protected_decoded_uintOK hd)
    (C13.decoded_reencodable enc m hd) (protected_decoded_length hd)
  refine ⟨content, ?_, h1, h2, h3, h4, h5⟩
  by_cases hne : m = []
  · rw [h2 hne]; exact Nat.zero_le _
  · rw [h3 hne]; exact protected_decoded_bytes_leN hd hf hne

/-! ### decoded maps whose nested maps the sender had sorted -/

/-- a decoded protected entry whose value is an array or a map: the value is typed as the generic
    decoder types values, at every depth -/
theorem protected_decoded_typed {enc : Bytes} {m : GoMap} (hd : decProtectedContent enc = .ok m) :
    ∀ e ∈ m, isNode e.2 = true → TypedN e.2 :=
  fun e he => (protected_decoded_vals (V := fun v => isNode v = true → TypedN v) hd
    (fun h hn => by
      have hv := algCast_node hn
      rw [hv] at hn ⊢
      exact h hn)
    (fun _ _ _ _ kv _ v hv _ _ _ => typedN_of_decoded kv.2 v hv) e he).2

/-- the same for a decoded unprotected entry (a countersignature value is no array or map) -/
theorem unprotected_decoded_typed {u : Wire} {um : GoMap} (hd : decUnprot u = .ok um) :
    ∀ e ∈ um, isNode e.2 = true → TypedN e.2 := by
  intro e he hn
  obtain ⟨hw, kvs, rfl, -, hdp, -⟩ := C05.decUnprot_ok hd
  obtain ⟨kv, -, -, h2⟩ := (decUnprotPairs_rel kvs um hdp).mem_right e he
  rcases h2 with ⟨-, h2⟩ | ⟨-, h2⟩
  · exact typedN_of_decoded kv.2 e.2 h2
  · rw [(decCsigValue_leaf h2).2] at hn
    cases hn

/-- on a value typed as the generic decoder types values, with sorted nested maps, the deep
    normal form is `normVal` -/
theorem normValN_of_typed {v : GoVal} (ht : isNode v = true → TypedN v) (hs : SortedN v) :
    normValN v = normVal v := by
  cases hn : isNode v with
  | false => exact normValN_leaf hn
  | true =>
    rw [normVal_node hn]
    exact normValN_fixed v (ht hn) hs

/-- a decoded protected entry whose nested maps the sender had sorted is not changed by a
    clear-raw cycle -/
theorem decEntryN_decoded_fixed {enc : Bytes} {m : GoMap} (hd : decProtectedContent enc = .ok m)
    (e : GoVal × GoVal) (he : e ∈ m) (hs : SortedN e.2) : decEntryN e = e := by
  have hv := normValN_of_typed (protected_decoded_typed hd e he) hs
  have : decEntryN e = decEntry e := by
    simp only [decEntryN, decEntry, normEntryN, normEntry, hv]
  rw [this, protected_decoded_fixed hd e he]

/-- the same for a decoded unprotected entry -/
theorem normEntryN_decoded_fixed {u : Wire} {um : GoMap} (hd : decUnprot u = .ok um)
    (e : GoVal × GoVal) (he : e ∈ um) (hs : SortedN e.2) : normEntryN e = e := by
  have hv := normValN_of_typed (unprotected_decoded_typed hd e he) hs
  have : normEntryN e = normEntry e := by
    simp only [normEntryN, normEntry, hv]
  rw [this, unprotected_decoded_fixed hd e he]

/-- … so on a decoded map whose nested maps the sender had sorted a clear-raw cycle only reorders
    the top-level entries -/
theorem canonP_of_sorted {enc : Bytes} {m : GoMap} (hd : decProtectedContent enc = .ok m)
    (hs : ∀ e ∈ m, SortedN e.2) : canonP m = sortEntries m :=
  map_eq_self (fun e he =>
    have hem := (sortEntries_perm m).mem_iff.mp he
    decEntryN_decoded_fixed hd e hem (hs e hem))

theorem canonU_of_sorted {u : Wire} {um : GoMap} (hd : decUnprot u = .ok um)
    (hs : ∀ e ∈ um, SortedN e.2) : canonU um = sortEntries um :=
  map_eq_self (fun e he =>
    have hem := (sortEntries_perm um).mem_iff.mp he
    normEntryN_decoded_fixed hd e hem (hs e hem))

/-- flat values hold no nested map -/
theorem flatMap_sortedN {m : GoMap} (hf : FlatMap m) : ∀ e ∈ m, SortedN e.2 := by
  intro e he
  have hv := (hf e he).2
  have hn : isNode e.2 = false := by
    generalize e.2 = v at hv
    cases v <;> simp only [FlatVal] at hv <;> rfl
  exact sortedN_leaf hn

/-- a decoded header layer of the nested data model (unprotected values at depth `d + 1`) goes
    through a clear-raw cycle: the maps come back as `canonP h.p`, `canonU h.u` -/
theorem layer_cycleN {d : Nat} {p u : Wire} {h : Hdrs} (D : DecodedLayer d p u h)
    (hfp : NestedMap h.p) (hfu : NestedMapAt (d + 1) h.u) :
    ∃ content, ((h.p = [] → content = []) ∧ (h.p ≠ [] → content = (mapWireN h.p).bytes)) ∧
      LayerCycle d { p := h.p, u := h.u }
        { rawP := some (encBstr content), p := canonP h.p,
          rawU := some (mapWireN h.u).bytes, u := canonU h.u }
        { p := canonP h.p, u := canonU h.u }
        (.bstr (HW.shortest content.length) content) (mapWireN h.u) := by
  obtain ⟨hw, enc, rfl, hpc, henc⟩ := D.content
  obtain ⟨content, hle, hE1, hc0, hc1, hD, hE2⟩ := protected_decoded_canonN hpc hfp
  obtain ⟨hU1, hUwf, hUlim, hDu, hU2⟩ :=
    unprotected_canonN (d := d) hfu (unprotected_decoded_uintOK D.decU)
      (C13.decoded_unprot_reencodable _ _ D.decU) (unprotected_decoded_length D.decU D.limU) D.depth
  have hiv' : ensureIV (canonP h.p) (canonU h.u) = true := ensureIV_decodedN (dp := 1) hfp hfu D.iv
  exact ⟨content, ⟨hc0, hc1⟩,
    hdrs_marshal_of_buckets (nested_modelled hfp) (nested_modelled hfu) D.iv hE1 hU1,
    C08.shortest_fits _ (Nat.lt_of_le_of_lt hle henc), hUwf, hUlim false d (Nat.le_refl _),
    C09.decHeaders_of (p := .bstr (HW.shortest content.length) content) hD hDu hiv',
    hdrs_marshal_of_buckets (nested_modelled (nestedMap_canonP hfp))
      (nested_modelled (nestedMapAt_canonU hfu)) hiv' hE2 hU2⟩

end NestedClosures

namespace ClearRaw
open NestedBuckets NestedClosures

/-- the message with the retained raw header bytes discarded (`RawProtected = nil`,
    `RawUnprotected = nil`) -/
def clearRaw (m : Sign1Msg) : Sign1Msg :=
  { m with h := { m.h with rawP := none, rawU := none } }

/-- a decoded header layer with flat values goes through a clear-raw cycle: both maps come back in
    the encoder's order (the nested cycle; flat values hold no map to sort) -/
theorem layer_cycle {d : Nat} {p u : Wire} {h : Hdrs} (D : DecodedLayer d p u h)
    (hfp : FlatMap h.p) (hfu : FlatMap h.u) :
    ∃ content U, LayerCycle d { p := h.p, u := h.u }
      { rawP := some (encBstr content), p := sortEntries h.p,
        rawU := some U.bytes, u := sortEntries h.u }
      { p := sortEntries h.p, u := sortEntries h.u }
      (.bstr (HW.shortest content.length) content) U := by
  obtain ⟨hw, enc, rfl, hpc, -⟩ := D.content
  obtain ⟨content, -, L⟩ := layer_cycleN D hfp.nested (nestedMapAt_of_flat (d + 1) hfu)
  rw [canonP_of_sorted hpc (flatMap_sortedN hfp),
    canonU_of_sorted D.decU (flatMap_sortedN hfu)] at L
  exact ⟨content, _, L⟩

/-- a decoded COSE_Sign1 with flat header maps, raw bytes discarded, is emitted as bytes
    `b'` that decode to the canonical message (both maps sorted, everything else as decoded), and
    that canonical message, raw bytes discarded, is emitted as `b'` again -/
theorem clear_raw_core (tagged : Bool) (b : Bytes) (m : Sign1Msg)
    (hd : Sign1.unmarshal tagged b = .ok m) (hfp : FlatMap m.h.p) (hfu : FlatMap m.h.u) :
    ∃ (b' : Bytes) (mc : Sign1Msg), Sign1.marshal tagged (clearRaw m) = .ok b' ∧
      Sign1.unmarshal tagged b' = .ok mc ∧ Sign1.marshal tagged (clearRaw mc) = .ok b' ∧
      mc.payload = m.payload ∧ mc.sig = m.sig ∧
      mc.h.p = sortEntries m.h.p ∧ mc.h.u = sortEntries m.h.u := by
  obtain ⟨p, u, D⟩ := sign1_decodedLayer hd
  obtain ⟨content, U, L⟩ := layer_cycle D hfp hfu
  obtain ⟨b', h1, h2, h3⟩ := sign1_cycle tagged hd L
  exact ⟨b', _, h1, h2, h3, rfl, rfl, rfl, rfl⟩

end ClearRaw

namespace C09
open ClearRaw

/-! ### the header buckets -/

theorem decoded_protected_normal (enc : Bytes) (m : GoMap) (hd : decProtectedContent enc = .ok m) :
    m.map decEntry = m := map_eq_self (protected_decoded_fixed hd)

theorem decoded_unprotected_normal (u : Wire) (um : GoMap) (hd : decUnprot u = .ok um) :
    um.map normEntry = um := map_eq_self (unprotected_decoded_fixed hd)

/-- = `RoundTrip.normVal_of_decoded` -/
theorem normVal_decoded (w : Wire) (v : GoVal) (h : decodeAny w = .ok v) : normVal v = v :=
  normVal_of_decoded h

/-- protected bucket, clear-raw fixpoint.  Whatever content `ProtectedHeader.UnmarshalCBOR`
    accepted (any head widths, any key order), if the decoded parameters are flat then encoding
    the decoded map (no retained bytes) succeeds, gives a byte string whose content is not longer
    than the original, which decodes to the same parameters in canonical order (`sortEntries m`,
    a permutation of `m`; every `lookupLabel` agrees), and encoding that map gives the same bytes
    again. -/
theorem protected_clear_raw_fixpoint (enc : Bytes) (m : GoMap)
    (hd : decProtectedContent enc = .ok m) (hf : FlatMap m) :
    ∃ (content : Bytes) (m' : GoMap),
      encodeBucket encCfg true none m = some (encBstr content) ∧
      content.length ≤ enc.length ∧
      decProtectedContent content = .ok m' ∧
      m' = sortEntries m ∧ m'.Perm m ∧ (∀ l, lookupLabel m' l = lookupLabel m l) ∧
      encodeBucket encCfg true none m' = some (encBstr content) := by
  have hok := C13.validate_labels m true (C13.decoded_reencodable enc m hd)
  obtain ⟨content, hle, h1, -, -, h4, h5⟩ := NestedClosures.protected_decoded_canonN hd hf.nested
  rw [NestedClosures.canonP_of_sorted hd (NestedClosures.flatMap_sortedN hf)] at h4 h5
  exact ⟨content, sortEntries m, h1, hle, h4, rfl, sortEntries_perm m,
    fun l => (C13.lookupLabel_perm m _ (sortEntries_perm m).symm hok l).symm, h5⟩

/-- unprotected bucket, clear-raw fixpoint.  `hlim`: the item came out of the parser (at most
    131072 pairs). -/
theorem unprotected_clear_raw_fixpoint (u : Wire) (um : GoMap) (hd : decUnprot u = .ok um)
    (hf : FlatMap um) {t : Bool} {d : Nat} (hlim : u.inLimits t d = true) :
    ∃ (u' : Wire) (um' : GoMap),
      encodeBucket encCfg false none um = some u'.bytes ∧
      u'.wf = true ∧ (∀ t, parseTop t u'.bytes = some u') ∧
      decUnprot u' = .ok um' ∧
      um' = sortEntries um ∧ um'.Perm um ∧ (∀ l, lookupLabel um' l = lookupLabel um l) ∧
      encodeBucket encCfg false none um' = some u'.bytes := by
  have hv := C13.decoded_unprot_reencodable u um hd
  have hok := C13.validate_labels um false hv
  obtain ⟨h1, h2, h3, h4, h5⟩ := NestedClosures.unprotected_canonN (d := 0)
    (NestedBuckets.nestedMapAt_of_flat 1 hf) (unprotected_decoded_uintOK hd) hv
    (unprotected_decoded_length hd hlim) (by decide)
  rw [NestedClosures.canonU_of_sorted hd (NestedClosures.flatMap_sortedN hf)] at h4 h5
  exact ⟨_, sortEntries um, h1, h2, fun t => parseTop_complete h2 (h3 t 0 (Nat.le_refl _)), h4,
    rfl, sortEntries_perm um,
    fun l => (C13.lookupLabel_perm um _ (sortEntries_perm um).symm hok l).symm, h5⟩

/-! ### COSE_Sign1 -/

/-- A COSE_Sign1 the library decoded, whose header values are flat, is
    re-encodable after the application discards the retained raw header bytes, and what is emitted
    is decodable again: same payload, same signature, the same header parameters in both buckets
    (the decoded maps are the encoder's canonical ordering `sortEntries` of the original ones: a
    permutation; every lookup, and `Algorithm()`, agree). -/
theorem clear_raw_decodable (tagged : Bool) (b : Bytes) (m : Sign1Msg)
    (hd : Sign1.unmarshal tagged b = .ok m) (hfp : FlatMap m.h.p) (hfu : FlatMap m.h.u) :
    ∃ b', Sign1.marshal tagged { m with h := { m.h with rawP := none, rawU := none } } = .ok b' ∧
      ∃ m', Sign1.unmarshal tagged b' = .ok m' ∧ m'.payload = m.payload ∧ m'.sig = m.sig ∧
        m'.h.p = sortEntries m.h.p ∧ m'.h.u = sortEntries m.h.u ∧
        m'.h.p.Perm m.h.p ∧ m'.h.u.Perm m.h.u ∧
        (∀ l, lookupLabel m'.h.p l = lookupLabel m.h.p l) ∧
        (∀ l, lookupLabel m'.h.u l = lookupLabel m.h.u l) ∧
        algorithmOf m'.h.p = algorithmOf m.h.p := by
  obtain ⟨b', mc, h1, h2, -, hpay, hsig, hcp, hcu⟩ := clear_raw_core tagged b m hd hfp hfu
  obtain ⟨p, u, D⟩ := sign1_decodedLayer hd
  obtain ⟨hw, enc, rfl, hpc, -⟩ := D.content
  have hokp := C13.validate_labels _ true (C13.decoded_reencodable enc _ hpc)
  have hoku := C13.validate_labels _ false (C13.decoded_unprot_reencodable u _ D.decU)
  have hlp : ∀ l, lookupLabel (sortEntries m.h.p) l = lookupLabel m.h.p l :=
    fun l => (C13.lookupLabel_perm _ _ (sortEntries_perm m.h.p).symm hokp l).symm
  have hlu : ∀ l, lookupLabel (sortEntries m.h.u) l = lookupLabel m.h.u l :=
    fun l => (C13.lookupLabel_perm _ _ (sortEntries_perm m.h.u).symm hoku l).symm
  refine ⟨b', h1, mc, h2, hpay, hsig, hcp, hcu, ?_⟩
  rw [hcp, hcu]
  refine ⟨sortEntries_perm _, sortEntries_perm _, hlp, hlu, ?_⟩
  unfold algorithmOf
  rw [hlp]

/-- With `b'`, `m'` as in `clear_raw_decodable` (any result of encoding the cleared message and
    decoding that): discarding the raw bytes of `m'` and encoding again gives `b'` again — the
    canonical form is reached after one cycle — and decoding it gives `m'` again (exactly, raw
    fields included, because the bytes are the same). -/
theorem clear_raw_fixpoint (tagged : Bool) (b : Bytes) (m : Sign1Msg)
    (hd : Sign1.unmarshal tagged b = .ok m) (hfp : FlatMap m.h.p) (hfu : FlatMap m.h.u)
    (b' : Bytes) (m' : Sign1Msg)
    (he : Sign1.marshal tagged { m with h := { m.h with rawP := none, rawU := none } } = .ok b')
    (hd' : Sign1.unmarshal tagged b' = .ok m') :
    ∃ b'', Sign1.marshal tagged { m' with h := { m'.h with rawP := none, rawU := none } } = .ok b'' ∧
      b'' = b' ∧ Sign1.unmarshal tagged b'' = .ok m' := by
  obtain ⟨b₁, mc, h1, h2, h3, -⟩ := clear_raw_core tagged b m hd hfp hfu
  exact fixpoint_of_core (e := Sign1.marshal tagged) (c := clearRaw) h1 h2 h3 he hd'

/-- one decode / discard-raw / encode cycle -/
def clearCycle (tagged : Bool) (b : Bytes) : Out Bytes :=
  Sign1.unmarshal tagged b >>= fun m => Sign1.marshal tagged (clearRaw m)

/-- the cycle is idempotent on inputs whose decoded header values are flat -/
theorem clearCycle_idempotent (tagged : Bool) (b b1 : Bytes)
    (hflat : ∀ m, Sign1.unmarshal tagged b = .ok m → FlatMap m.h.p ∧ FlatMap m.h.u)
    (h : clearCycle tagged b = .ok b1) : clearCycle tagged b1 = .ok b1 := by
  refine idempotent_of_core (e := Sign1.marshal tagged) (c := clearRaw) (fun m hd => ?_) h
  obtain ⟨b₁, mc, h1, h2, h3, -⟩ := clear_raw_core tagged b m hd (hflat m hd).1 (hflat m hd).2
  exact ⟨b₁, mc, h1, h2, h3⟩

/-- A condition on the wire that gives the flatness hypotheses of the clear-raw theorems: the
    accepted input is the (unique) well-formed tree `[bstr enc, {kvsu}, pl, sg]`; every value item
    of the unprotected map, and of the map inside the protected byte string (if any), is a scalar
    (`ScalarItem`: integer, byte string, text, false/true/null/undefined, any head width). Nothing
    is asked of the keys: the decoder already refuses everything but int / text labels. -/
theorem flat_of_scalar_items (tagged : Bool) (b : Bytes) (m : Sign1Msg)
    (hd : Sign1.unmarshal tagged b = .ok m)
    (hwp hwu : HW) (enc : Bytes) (kvsu : List (Wire × Wire)) (pl sg : Wire)
    (hb : b = (if tagged then [0xd2] else []) ++
      (Wire.arr .imm [.bstr hwp enc, .map hwu kvsu, pl, sg]).bytes)
    (hwf : (Wire.arr .imm [.bstr hwp enc, .map hwu kvsu, pl, sg]).wf = true)
    (hsp : ∀ hw kvs, enc = (Wire.map hw kvs).bytes → (Wire.map hw kvs).wf = true →
      ∀ kv ∈ kvs, ScalarItem kv.2)
    (hsu : ∀ kv ∈ kvsu, ScalarItem kv.2) : FlatMap m.h.p ∧ FlatMap m.h.u := by
  have D := sign1_decodedLayer_of_tree hd hb hwf
  exact ⟨protected_flat_of_scalar (enc := enc) D.decP hsp,
    unprotected_flat_of_scalar D.decU D.wfU D.limU hsu⟩

end C09

/-! ### non-vacuity: a message whose header buckets are not canonical on the wire -/

namespace ClearRawExamples
open ClearRaw

/-- protected bucket `a2 04 41 31 01 26`: `{4: h'31', 1: -7}` with the keys out of order -/
def exPu : Wire := .bstr .imm [0xa2, 0x04, 0x41, 0x31, 0x01, 0x26]

/-- the map inside it -/
def exPuMap : Wire := .map .imm [(.uint .imm 4, .bstr .imm [0x31]), (.uint .imm 1, .nint .imm 6)]

/-- unprotected bucket `a1 03 18 05`: `{3: 5}` with a non-shortest head for the value -/
def exUn : Wire := .map .imm [(.uint .imm 3, .uint .w1 5)]

/-- `18([h'a20441310126', {3: 5}, h'010203', h'07'])`, encoded as described -/
def exB : Bytes :=
  [0xd2, 0x84, 0x46, 0xa2, 0x04, 0x41, 0x31, 0x01, 0x26, 0xa1, 0x03, 0x18, 0x05,
   0x43, 1, 2, 3, 0x41, 7]

/-- the same message in canonical form: protected `a2 01 26 04 41 31`, unprotected `a1 03 05` -/
def exB' : Bytes :=
  [0xd2, 0x84, 0x46, 0xa2, 0x01, 0x26, 0x04, 0x41, 0x31, 0xa1, 0x03, 0x05,
   0x43, 1, 2, 3, 0x41, 7]

def exPm : GoMap := [(lbl 4, .bytes [0x31]), (lbl 1, .alg (-7))]
def exUm : GoMap := [(lbl 3, .int .i64 5)]

theorem ex_decPu : decProtected exPu = .ok exPm := by
  show decProtectedContent exPuMap.bytes = _
  rw [exPuMap, decProtectedContent_map (by decide) (by decide) (by decide)]
  rfl

theorem ex_decUn : decUnprot exUn = .ok exUm := by rfl

theorem exB_tree : exB = (if true then [0xd2] else []) ++
    (Wire.arr .imm [exPu, exUn, .bstr .imm [1, 2, 3], .bstr .imm [7]]).bytes := by decide

theorem ex_tree_wf :
    (Wire.arr .imm [exPu, exUn, .bstr .imm [1, 2, 3], .bstr .imm [7]]).wf = true := by decide

theorem ex_unmarshal : Sign1.unmarshal true exB =
    .ok { h := { rawP := some exPu.bytes, p := exPm, rawU := some exUn.bytes, u := exUm },
          payload := some [1, 2, 3], sig := some [7] } := by
  rw [exB_tree]
  exact C07.wf_sign1_accepted_full true (p := exPu) (u := exUn) (pl := .bstr .imm [1, 2, 3])
    (hw := .imm) (c := [7]) ex_tree_wf (by decide) ex_decPu ex_decUn (by decide)
    (.inr ⟨_, _, rfl⟩) (by decide)

/-- the flatness hypotheses follow from the wire-side condition `C09.flat_of_scalar_items` -/
theorem ex_flat : FlatMap exPm ∧ FlatMap exUm := by
  refine C09.flat_of_scalar_items true exB _ ex_unmarshal .imm .imm
    [0xa2, 0x04, 0x41, 0x31, 0x01, 0x26] [(.uint .imm 3, .uint .w1 5)] (.bstr .imm [1, 2, 3])
    (.bstr .imm [7]) exB_tree ex_tree_wf ?_ ?_
  · intro hw kvs he hwf
    have h2 := Reencode.bytes_inj (x := exPuMap) (by decide) hwf (by rw [← he]; decide)
    simp only [exPuMap, Wire.map.injEq] at h2
    obtain ⟨-, rfl⟩ := h2
    intro kv hkv
    simp only [List.mem_cons, List.not_mem_nil, or_false] at hkv
    rcases hkv with rfl | rfl <;> trivial
  · intro kv hkv
    simp only [List.mem_cons, List.not_mem_nil, or_false] at hkv
    subst hkv
    trivial

/-- the encoder on the decoded protected map: keys sorted -/
theorem ex_encP :
    encodeBucket encCfg true none exPm = some [0x46, 0xa2, 0x01, 0x26, 0x04, 0x41, 0x31] := by
  have hv : encCfg.validate exPm true = true := by decide
  unfold exPm lbl at hv ⊢
  simp only [encodeBucket, hv, encodePairs, encodeAny, Bool.not_true, Bool.false_eq_true,
    if_false, if_true]
  rw [sortPairs_eq_of_perm (l' := [(encInt 1, encInt (-7)), (encInt 4, encBstr [0x31])])
    (.swap ..) (by decide) (by decide)]
  rfl

/-- discarding the raw bytes and encoding gives `exB'` -/
theorem ex_marshal_cleared (m : Sign1Msg) (hd : Sign1.unmarshal true exB = .ok m) :
    Sign1.marshal true { m with h := { m.h with rawP := none, rawU := none } } = .ok exB' := by
  cases ex_unmarshal.symm.trans hd
  have hU : encodeBucket encCfg false none exUm
      = some (Wire.map .imm [(.uint .imm 3, .uint .imm 5)]).bytes := by
    have hv : encCfg.validate exUm false = true := by decide
    have hw := wellformedNoTags_bytes (w := .map .imm [(.uint .imm 3, .uint .imm 5)])
      (by decide) (by decide)
    unfold exUm lbl at hv ⊢
    simp only [encodeBucket, hv, encodePairs, encodeAny, sortPairs_one, Bool.not_true,
      Bool.false_eq_true, if_false]
    exact if_pos hw
  rw [WireClosure.sign1_marshal_of (by decide) (by decide)
    (marshalProtected_of_bucket rfl (by decide) ex_encP)
    (marshalUnprotected_of_bucket rfl (by decide) hU)]
  rfl

/-- `clear_raw_decodable` and `clear_raw_fixpoint` apply to `exB`.  It decodes; its decoded header
    values are flat (by the wire-side condition); the cleared message encodes to `exB' ≠ exB`
    (protected keys sorted, unprotected value head shortest), `exB'` decodes to a message with the
    same payload and signature whose protected map is the sorted one, and clearing and encoding that
    gives `exB'` again. -/
example : ∃ m m', Sign1.unmarshal true exB = .ok m ∧
    m.h.p = [(lbl 4, .bytes [0x31]), (lbl 1, .alg (-7))] ∧
    Sign1.marshal true { m with h := { m.h with rawP := none, rawU := none } } = .ok exB' ∧
    exB' ≠ exB ∧
    Sign1.unmarshal true exB' = .ok m' ∧ m'.payload = some [1, 2, 3] ∧ m'.sig = some [7] ∧
    m'.h.p.Perm m.h.p ∧ m'.h.u.Perm m.h.u ∧ algorithmOf m'.h.p = .found (-7) ∧
    Sign1.marshal true { m' with h := { m'.h with rawP := none, rawU := none } } = .ok exB' := by
  obtain ⟨hfp, hfu⟩ := ex_flat
  obtain ⟨b', h1, m', h2, hpay, hsig, -, -, hpp, hpu, -, -, halg⟩ :=
    C09.clear_raw_decodable true exB _ ex_unmarshal hfp hfu
  have hb : b' = exB' := Out.ok.inj (h1.symm.trans (ex_marshal_cleared _ ex_unmarshal))
  subst hb
  obtain ⟨b'', h3, rfl, -⟩ :=
    C09.clear_raw_fixpoint true exB _ ex_unmarshal hfp hfu _ m' h1 h2
  refine ⟨_, m', ex_unmarshal, rfl, h1, by decide, h2, hpay, hsig, hpp, hpu, ?_, h3⟩
  rw [halg]
  rfl

/-- the bucket theorems on the same data: the non-canonical protected content re-encodes to the
    canonical `a2 01 26 04 41 31` (same length here), which is a fixpoint -/
example : ∃ content m', encodeBucket encCfg true none exPm = some (encBstr content) ∧
    decProtectedContent content = .ok m' ∧ m'.Perm exPm ∧
    encodeBucket encCfg true none m' = some (encBstr content) := by
  obtain ⟨content, m', h1, -, h2, -, h3, -, h4⟩ :=
    C09.protected_clear_raw_fixpoint [0xa2, 0x04, 0x41, 0x31, 0x01, 0x26] exPm ex_decPu ex_flat.1
  exact ⟨content, m', h1, h2, h3, h4⟩

end ClearRawExamples
