/-
  Deep/Signers — the built-in signer / verifier objects (ecdsa.go, rsa.go, ed25519.go) as wrappers
  around arbitrary primitives (`CoseModel/Signers.lean`).  Every theorem holds for every behaviour
  of the primitive (a faulty HSM included); where a theorem needs the primitive to be correct, that
  is an explicit hypothesis about the primitive alone.

  * C16 — whatever the key returns, a signature leaves the ECDSA signer only as the 2n-byte r‖s;
          the ECDSA verifier hands the primitive nothing but the two halves of a 2n-byte string.
  * C01 — `Matches` (the hypothesis of every sign-then-verify theorem) is derived for the three
          built-in families from correctness of the primitive.
  * C17 — message entry point = digest entry point after the algorithm's hash, for signers and
          verifiers; the reported algorithm is the requested one.
  * C20 — a failing key, a failing hash, or an (r, s) that does not fit make the signer fail.
  * C03 — the verifier's verdict is the primitive's verdict on exactly (digest, r, s).

  The ECDSA digest entry points take the size of the algorithm's hash (`hs : Option Nat`, `none` =
  hash not available, no check) and refuse a digest of any other length before the key or the
  signature is looked at (`checkECDSADigest`).  `C17.HashSized H hs` — the hash `H` produces digests
  of that size — is the hypothesis under which the check is inert on the message entry points.
-/
import CoseModel.Signers
import CoseProofs.Props.C01
import CoseProofs.Props.C16
open CoseModel

namespace C17

/-- the hash function produces digests of the size the algorithm names (true of every real hash;
    vacuous when the hash is not available, `hs = none`) -/
def HashSized (H : HashFn) (hs : Option Nat) : Prop :=
  ∀ c d, H c = .ok d → ∀ n, hs = some n → d.length = n

theorem checkDigest_iff (hs : Option Nat) (d : Bytes) :
    checkECDSADigest hs d = true ↔ ∀ n, hs = some n → d.length = n := by
  cases hs <;> simp [checkECDSADigest]

theorem checkDigest_false_iff (hs : Option Nat) (d : Bytes) :
    checkECDSADigest hs d = false ↔ ∃ n, hs = some n ∧ d.length ≠ n := by
  cases hs <;> simp [checkECDSADigest]

theorem checkDigest_of_sized (H : HashFn) (hs : Option Nat) (hz : HashSized H hs) (c d : Bytes)
    (hH : H c = .ok d) : checkECDSADigest hs d = true :=
  (checkDigest_iff hs d).mpr (hz c d hH)

/-! ### the message entry points: the hash, then the digest entry point

  `Sign` / `Verify` of the ECDSA and RSA objects all have this shape; every outcome of the hash but a
  digest is passed on. -/

theorem afterHash_eq_ok_iff {β : Type} (o : Out Bytes) (f : Bytes → Out β) (b : β) :
    (match o with
      | .ok d => f d
      | .err e => .err e
      | .panic => .panic
      | .unmodelled => .unmodelled) = .ok b ↔ ∃ d, o = .ok d ∧ f d = .ok b := by
  cases o <;> simp

/-- two digest entry points that agree on the digest the hash produces agree after the hash -/
theorem afterHash_congr {β : Type} (o : Out Bytes) (f g : Bytes → Out β) :
    (∀ d, o = .ok d → f d = g d) →
    (match o with
      | .ok d => f d
      | .err e => .err e
      | .panic => .panic
      | .unmodelled => .unmodelled) =
    (match o with
      | .ok d => g d
      | .err e => .err e
      | .panic => .panic
      | .unmodelled => .unmodelled) := by
  intro h
  cases o with
  | ok d => exact h d rfl
  | err _ => rfl
  | panic => rfl
  | unmodelled => rfl

/-- message entry point = digest entry point applied to the algorithm's hash (signers) -/
theorem ecdsa_sign_eq_signDigest (H : HashFn) (hs : Option Nat) (k : EcdsaKey) (content d : Bytes)
    (hH : H content = .ok d) :
    ecdsaSign H hs k content = ecdsaSignDigest hs k d := by
  unfold ecdsaSign; rw [hH]

theorem rsa_sign_eq_signDigest (H : HashFn) (k : RsaKey) (content d : Bytes) (hH : H content = .ok d) :
    rsaSign H k content = rsaSignDigest k d := by
  unfold rsaSign; rw [hH]

/-- … and verifiers: a signature verifies through `Verify` iff it verifies through `VerifyDigest`
    under the algorithm's hash of the content — and under no other digest unless the primitive
    itself accepts that digest -/
theorem ecdsa_verify_eq_verifyDigest (H : HashFn) (hs : Option Nat) (k : EcdsaKey) (content d sig : Bytes)
    (hH : H content = .ok d) : ecdsaVerify H hs k content sig = ecdsaVerifyDigest hs k d sig := by
  unfold ecdsaVerify; rw [hH]

theorem rsa_verify_eq_verifyDigest (H : HashFn) (k : RsaKey) (content d sig : Bytes)
    (hH : H content = .ok d) : rsaVerify H k content sig = rsaVerifyDigest k d sig := by
  unfold rsaVerify; rw [hH]

/-! ### the ECDSA digest entry points -/

/-- the checked entry point is the check followed by the unchecked one (`none`) -/
theorem ecdsaSignDigest_eq (hs : Option Nat) (k : EcdsaKey) (d : Bytes) :
    ecdsaSignDigest hs k d =
      if checkECDSADigest hs d = false then .err .other else ecdsaSignDigest none k d := by
  rfl

theorem ecdsaVerifyDigest_eq (hs : Option Nat) (k : EcdsaKey) (d sig : Bytes) :
    ecdsaVerifyDigest hs k d sig =
      if checkECDSADigest hs d = false then .err .verification else ecdsaVerifyDigest none k d sig := by
  rfl

/-- `SignDigest` succeeds exactly when the digest is of the algorithm's hash, the key answers, and
    its (r, s) fits the fixed width -/
theorem ecdsaSignDigest_eq_ok_iff (hs : Option Nat) (k : EcdsaKey) (d sig : Bytes) :
    ecdsaSignDigest hs k d = .ok sig ↔
      checkECDSADigest hs d = true ∧
        ∃ p, k.sign d = .ok p ∧ encodeECDSASignature k.n p.1 p.2 = some sig := by
  unfold ecdsaSignDigest
  cases checkECDSADigest hs d
  · simp
  · cases hsg : k.sign d with
    | ok p => cases he : encodeECDSASignature k.n p.1 p.2 <;> simp [he]
    | err e => simp
    | panic => simp
    | unmodelled => simp

/-- `SignDigest` refuses a digest that is not of the algorithm's hash — for every key; the key's
    `sign` does not occur in the result (the check comes first: `ecdsaSignDigest_eq`) -/
theorem ecdsa_signDigest_wrong_size (hs : Option Nat) (n : Nat) (k : EcdsaKey) (d : Bytes)
    (hn : hs = some n) (hl : d.length ≠ n) : ecdsaSignDigest hs k d = .err .other := by
  rw [ecdsaSignDigest_eq, if_pos ((checkDigest_false_iff hs d).mpr ⟨n, hn, hl⟩)]

/-- … so the refusal is the same for any two keys, whatever their `sign` would answer -/
theorem ecdsa_signDigest_wrong_size_key_irrelevant (hs : Option Nat) (n : Nat) (k k' : EcdsaKey)
    (d : Bytes) (hn : hs = some n) (hl : d.length ≠ n) :
    ecdsaSignDigest hs k d = ecdsaSignDigest hs k' d := by
  rw [ecdsa_signDigest_wrong_size hs n k d hn hl, ecdsa_signDigest_wrong_size hs n k' d hn hl]

/-- `VerifyDigest` never accepts a digest of another hash's length: `ErrVerification` for every
    signature and every behaviour of the key's `verify` -/
theorem ecdsa_verifyDigest_wrong_size (hs : Option Nat) (n : Nat) (k : EcdsaKey) (d sig : Bytes)
    (hn : hs = some n) (hl : d.length ≠ n) : ecdsaVerifyDigest hs k d sig = .err .verification := by
  rw [ecdsaVerifyDigest_eq, if_pos ((checkDigest_false_iff hs d).mpr ⟨n, hn, hl⟩)]

/-- past the check and the decoder, the verdict is the primitive's on exactly (digest, r, s) -/
theorem ecdsaVerifyDigest_of_decode (hs : Option Nat) (k : EcdsaKey) (d sig : Bytes) (r s : Nat)
    (hc : checkECDSADigest hs d = true) (hd : decodeECDSASignature k.n sig = some (r, s)) :
    ecdsaVerifyDigest hs k d sig = if k.verify d r s then .ok () else .err .verification := by
  unfold ecdsaVerifyDigest
  simp only [hc, Bool.true_eq_false, if_false, hd]

theorem ecdsa_verifyDigest_iff_decode (hs : Option Nat) (k : EcdsaKey) (d sig : Bytes) :
    ecdsaVerifyDigest hs k d sig = .ok () ↔
      (∀ n, hs = some n → d.length = n) ∧
        ∃ r s, decodeECDSASignature k.n sig = some (r, s) ∧ k.verify d r s = true := by
  rw [← checkDigest_iff]
  cases hc : checkECDSADigest hs d with
  | false => simp [ecdsaVerifyDigest_eq, hc]
  | true =>
    cases hd : decodeECDSASignature k.n sig with
    | none => simp [ecdsaVerifyDigest, hc, hd]
    | some p =>
      obtain ⟨r, s⟩ := p
      rw [ecdsaVerifyDigest_of_decode hs k d sig r s hc hd]
      cases hv : k.verify d r s
      · simp [hv]
      · exact ⟨fun _ => ⟨rfl, r, s, rfl, hv⟩, fun _ => rfl⟩

/-- the digest entry point accepts iff the digest is of the algorithm's hash and the signature is
    the fixed-width r‖s and the primitive accepts (digest, r, s) — on exactly the digest given -/
theorem ecdsa_verifyDigest_iff (hs : Option Nat) (k : EcdsaKey) (d sig : Bytes) :
    ecdsaVerifyDigest hs k d sig = .ok () ↔
      (∀ n, hs = some n → d.length = n) ∧ sig.length = 2 * k.n ∧
        k.verify d (os2ip (sig.take k.n)) (os2ip (sig.drop k.n)) = true := by
  rw [ecdsa_verifyDigest_iff_decode]
  refine and_congr_right fun _ => ⟨fun ⟨r, s, hd, hv⟩ => ?_, fun ⟨hl, hv⟩ =>
    ⟨_, _, (decode_eq_some_iff k.n sig (_, _)).mpr ⟨hl, rfl, rfl⟩, hv⟩⟩
  obtain ⟨hl, rfl, rfl⟩ := (decode_eq_some_iff k.n sig (r, s)).mp hd
  exact ⟨hl, hv⟩

/-- non-vacuity of the refusals: a key whose `verify` accepts everything and whose `sign` always
    answers, under ES256 (`some 32`), handed a 64-byte (SHA-512 sized) digest -/
def yesKey : EcdsaKey := { n := 2, sign := fun _ => .ok (1, 2), verify := fun _ _ _ => true }
example : ecdsaVerifyDigest (some 32) yesKey (List.replicate 64 7) [0, 1, 0, 2] = .err .verification := by decide
example : ecdsaSignDigest (some 32) yesKey (List.replicate 64 7) = .err .other := by decide
/-- … while the same key, signature and call shape with a 32-byte digest is accepted / signed, and
    without the check (`none`) the 64-byte digest would have been -/
example : ecdsaVerifyDigest (some 32) yesKey (List.replicate 32 7) [0, 1, 0, 2] = .ok () := by decide
example : ecdsaSignDigest (some 32) yesKey (List.replicate 32 7) = .ok [0, 1, 0, 2] := by decide
example : ecdsaVerifyDigest none yesKey (List.replicate 64 7) [0, 1, 0, 2] = .ok () := by decide
example : ecdsaSignDigest none yesKey (List.replicate 64 7) = .ok [0, 1, 0, 2] := by decide

theorem rsa_verifyDigest_iff (k : RsaKey) (d sig : Bytes) :
    rsaVerifyDigest k d sig = .ok () ↔ k.verify d sig = true := by
  unfold rsaVerifyDigest
  by_cases hv : k.verify d sig = true <;> simp [hv]

/-! ### the size check on the message entry points -/

/-- `Sign` / `Verify` are unchanged by the check when the hash produces digests of the algorithm's
    size: they are the unchecked digest entry points (`none`) after the hash -/
theorem ecdsa_sign_check_inert (H : HashFn) (hs : Option Nat) (hz : HashSized H hs) (k : EcdsaKey)
    (content : Bytes) : ecdsaSign H hs k content = ecdsaSign H none k content :=
  afterHash_congr (H content) (ecdsaSignDigest hs k) (ecdsaSignDigest none k) fun d hH => by
    rw [ecdsaSignDigest_eq, checkDigest_of_sized H hs hz content d hH]
    rfl

theorem ecdsa_verify_check_inert (H : HashFn) (hs : Option Nat) (hz : HashSized H hs) (k : EcdsaKey)
    (content sig : Bytes) : ecdsaVerify H hs k content sig = ecdsaVerify H none k content sig :=
  afterHash_congr (H content) (ecdsaVerifyDigest hs k · sig) (ecdsaVerifyDigest none k · sig) fun d hH => by
    rw [ecdsaVerifyDigest_eq, checkDigest_of_sized H hs hz content d hH]
    rfl

theorem builtin_reports_alg (alg : Int) (H : HashFn) (hs : Option Nat) (ke : EcdsaKey) (kr : RsaKey) (kd : EdKey) :
    (ecdsaSigner alg H hs ke).alg = alg ∧ (ecdsaVerifier alg H hs ke).alg = alg ∧
    (rsaSigner alg H kr).alg = alg ∧ (rsaVerifier alg H kr).alg = alg ∧
    (edSigner kd).alg = -8 ∧ (edVerifier kd).alg = -8 := ⟨rfl, rfl, rfl, rfl, rfl, rfl⟩

end C17

namespace C16

/-- what a successful `Sign` went through: the hash, the size check, the key, the encoder -/
theorem ecdsaSign_ok (H : HashFn) (hs : Option Nat) (k : EcdsaKey) (content sig : Bytes)
    (h : ecdsaSign H hs k content = .ok sig) :
    ∃ d r s, H content = .ok d ∧ checkECDSADigest hs d = true ∧ k.sign d = .ok (r, s) ∧
      encodeECDSASignature k.n r s = some sig ∧ 0 ≤ r ∧ 0 ≤ s := by
  obtain ⟨d, hH, hsd⟩ := (C17.afterHash_eq_ok_iff _ _ _).mp h
  obtain ⟨hck, ⟨r, s⟩, hsg, he⟩ := (C17.ecdsaSignDigest_eq_ok_iff hs k d sig).mp hsd
  have hok := (encode_ok_iff k.n r s).mp (by rw [he]; rfl)
  exact ⟨d, r, s, hH, hck, hsg, he, hok.1.1, hok.2.1⟩

/-- whatever the key returns — any integers, from any crypto.Signer — what the ECDSA signer
    returns on success is exactly 2n bytes, r then s, big-endian, left-padded -/
theorem ecdsa_signer_fixed_width (H : HashFn) (hs : Option Nat) (k : EcdsaKey) (content sig : Bytes)
    (h : ecdsaSign H hs k content = .ok sig) :
    sig.length = 2 * k.n ∧ ∃ d r s, H content = .ok d ∧ k.sign d = .ok (r, s) ∧
      0 ≤ r ∧ 0 ≤ s ∧ sig.take k.n = fillBytes k.n r.toNat ∧ sig.drop k.n = fillBytes k.n s.toNat := by
  obtain ⟨d, r, s, hH, _, hsg, he, hr, hs0⟩ := ecdsaSign_ok H hs k content sig h
  have hw := encode_fixed_width k.n r s sig he
  exact ⟨hw.1, d, r, s, hH, hsg, hr, hs0, hw.2.1, hw.2.2⟩

/-- the ECDSA verifier accepts only 2n-byte strings, and only if the primitive accepts the two
    halves read as big-endian integers under the digest of the content -/
theorem ecdsa_verifier_strict (H : HashFn) (hs : Option Nat) (k : EcdsaKey) (content sig : Bytes)
    (h : ecdsaVerify H hs k content sig = .ok ()) :
    sig.length = 2 * k.n ∧ ∃ d, H content = .ok d ∧
      k.verify d (os2ip (sig.take k.n)) (os2ip (sig.drop k.n)) = true := by
  obtain ⟨d, hH, hvd⟩ := (C17.afterHash_eq_ok_iff _ _ _).mp h
  obtain ⟨_, hl, hv⟩ := (C17.ecdsa_verifyDigest_iff hs k d sig).mp hvd
  exact ⟨hl, d, hH, hv⟩

/-- DER, halves with stripped or extra zeros, one byte more or less: refused before the primitive
    is consulted, with the verification error -/
theorem ecdsa_wrong_length_refused (H : HashFn) (hs : Option Nat) (k : EcdsaKey) (content sig d : Bytes)
    (hH : H content = .ok d) (hl : sig.length ≠ 2 * k.n) :
    ecdsaVerify H hs k content sig = .err .verification := by
  unfold ecdsaVerify ecdsaVerifyDigest
  rw [hH]
  simp only [wrong_length_rejected k.n sig hl, ite_self]

/-- the verdict on a produced signature is the primitive's verdict on the (r, s) it produced -/
theorem ecdsa_verify_of_sign (H : HashFn) (hs : Option Nat) (k : EcdsaKey) (content sig : Bytes)
    (h : ecdsaSign H hs k content = .ok sig) :
    ∃ d r s, H content = .ok d ∧ k.sign d = .ok (r, s) ∧ 0 ≤ r ∧ 0 ≤ s ∧
      ecdsaVerify H hs k content sig = if k.verify d r.toNat s.toNat then .ok () else .err .verification := by
  obtain ⟨d, r, s, hH, hck, hsg, he, hr, hs0⟩ := ecdsaSign_ok H hs k content sig h
  refine ⟨d, r, s, hH, hsg, hr, hs0, ?_⟩
  rw [C17.ecdsa_verify_eq_verifyDigest H hs k content d sig hH,
    C17.ecdsaVerifyDigest_of_decode hs k d sig _ _ hck (decode_encode k.n r s sig he)]

end C16

namespace C01

/-- a correct ECDSA primitive: whatever it signs (and fits the fixed width) it verifies -/
def EcdsaCorrect (k : EcdsaKey) : Prop :=
  ∀ d r s, k.sign d = .ok (r, s) → 0 ≤ r → 0 ≤ s → k.verify d r.toNat s.toNat = true

/-- `Matches` for the built-in ECDSA signer / verifier of one key, any algorithm, any hash -/
theorem ecdsa_matches (alg : Int) (H : HashFn) (hs : Option Nat) (k : EcdsaKey) (hn : 0 < k.n)
    (hc : EcdsaCorrect k) :
    Matches (ecdsaSigner alg H hs k) (ecdsaVerifier alg H hs k) where
  alg := rfl
  correct := by
    intro tbs sig h
    obtain ⟨d, r, s, _, hsg, hr, hs0, hv⟩ := C16.ecdsa_verify_of_sign H hs k tbs sig h
    show ecdsaVerify H hs k tbs sig = .ok ()
    rw [hv, hc d r s hsg hr hs0, if_pos rfl]
  nonempty := by
    intro tbs sig h
    have := (C16.ecdsa_signer_fixed_width H hs k tbs sig h).1
    intro he
    subst he
    simp only [List.length_nil] at this
    omega

/-- a correct RSA primitive returns non-empty signatures that it verifies -/
def RsaCorrect (k : RsaKey) : Prop :=
  ∀ d sig, k.sign d = .ok sig → sig ≠ [] ∧ k.verify d sig = true

theorem rsa_matches (alg : Int) (H : HashFn) (k : RsaKey) (hc : RsaCorrect k) :
    Matches (rsaSigner alg H k) (rsaVerifier alg H k) where
  alg := rfl
  correct := by
    intro tbs sig h
    obtain ⟨d, hH, hsd⟩ := (C17.afterHash_eq_ok_iff _ _ _).mp h
    show rsaVerify H k tbs sig = .ok ()
    rw [C17.rsa_verify_eq_verifyDigest H k tbs d sig hH]
    exact (C17.rsa_verifyDigest_iff k d sig).mpr (hc d sig hsd).2
  nonempty := by
    intro tbs sig h
    obtain ⟨d, _, hsd⟩ := (C17.afterHash_eq_ok_iff _ _ _).mp h
    exact (hc d sig hsd).1

def EdCorrect (k : EdKey) : Prop :=
  ∀ m sig, k.sign m = .ok sig → sig ≠ [] ∧ k.verify m sig = true

theorem ed_matches (k : EdKey) (hc : EdCorrect k) : Matches (edSigner k) (edVerifier k) where
  alg := rfl
  correct := by
    intro tbs sig h
    show (if k.verify tbs sig then Out.ok () else .err .verification) = .ok ()
    simp only [(hc tbs sig h).2, if_true]
  nonempty := fun tbs sig h => (hc tbs sig h).1

/-- non-vacuity: a toy "primitive" that is correct (signature = digest, r = s = its first byte) -/
def exKey : EcdsaKey :=
  { n := 2, sign := fun d => .ok ((d.headD 0).toNat, 7), verify := fun d r s => r == (d.headD 0).toNat && s == 7 }
example : EcdsaCorrect exKey := by
  intro d r s h _ _
  simp only [exKey, Out.ok.injEq, Prod.mk.injEq] at h
  obtain ⟨rfl, rfl⟩ := h
  simp [exKey]
example : ecdsaSign (fun c => .ok c) (some 2) exKey [9, 1] = .ok [0, 9, 0, 7] := by decide
example : ecdsaSign (fun c => .ok c) none exKey [9, 1] = .ok [0, 9, 0, 7] := by decide

end C01

namespace C20

/-- a failing key makes the ECDSA signer fail with the key's error (the hash produces digests of
    the algorithm's size, so the digest check does not pre-empt the key) -/
theorem ecdsa_key_fault (H : HashFn) (hs : Option Nat) (hz : C17.HashSized H hs) (k : EcdsaKey)
    (content d : Bytes) (e : Err)
    (hH : H content = .ok d) (hk : k.sign d = .err e) : ecdsaSign H hs k content = .err e := by
  unfold ecdsaSign ecdsaSignDigest; rw [hH]
  simp only [hk, C17.checkDigest_of_sized H hs hz content d hH, Bool.true_eq_false, if_false]

/-- `HashSized` is needed there: with a "hash" of the wrong size the digest check answers first,
    and the key's own error is never seen -/
example : ecdsaSign (fun c => .ok c) (some 32) { n := 2, sign := fun _ => .err .signer, verify := fun _ _ _ => true }
    [1, 2, 3] = .err .other := by decide

/-- an unavailable hash function makes every signer and verifier fail before the key is used -/
theorem hash_fault (H : HashFn) (hs : Option Nat) (ke : EcdsaKey) (kr : RsaKey) (content sig : Bytes) (e : Err)
    (hH : H content = .err e) :
    ecdsaSign H hs ke content = .err e ∧ rsaSign H kr content = .err e ∧
    ecdsaVerify H hs ke content sig = .err e ∧ rsaVerify H kr content sig = .err e := by
  unfold ecdsaSign rsaSign ecdsaVerify rsaVerify
  simp only [hH, and_self]

/-- an (r, s) that does not fit the fixed width (negative, or ≥ 256^n) is an error, never a
    truncated or differently shaped signature -/
theorem ecdsa_unencodable_fault (H : HashFn) (hs : Option Nat) (k : EcdsaKey) (content d : Bytes) (r s : Int)
    (hH : H content = .ok d) (hk : k.sign d = .ok (r, s))
    (hbad : r < 0 ∨ s < 0 ∨ 256 ^ k.n ≤ r.toNat ∨ 256 ^ k.n ≤ s.toNat) :
    ecdsaSign H hs k content = .err .other := by
  unfold ecdsaSign ecdsaSignDigest
  rw [hH]
  simp only [hk]
  split
  · rfl
  cases he : encodeECDSASignature k.n r s with
  | none => rfl
  | some sg =>
    have hok := (C16.encode_ok_iff k.n r s).mp (by simp [he])
    omega

theorem rsa_key_fault (H : HashFn) (k : RsaKey) (content d : Bytes) (e : Err)
    (hH : H content = .ok d) (hk : k.sign d = .err e) : rsaSign H k content = .err e := by
  unfold rsaSign rsaSignDigest; rw [hH]; exact hk

end C20

namespace C03

/-- the built-in verifiers never turn a refusal of the primitive into success, whatever else
    the signature bytes are: ECDSA -/
theorem ecdsa_refused_by_primitive (H : HashFn) (hs : Option Nat) (k : EcdsaKey) (content d sig : Bytes)
    (hH : H content = .ok d)
    (hv : k.verify d (os2ip (sig.take k.n)) (os2ip (sig.drop k.n)) = false) :
    ecdsaVerify H hs k content sig = .err .verification := by
  have h1 := C17.ecdsa_verify_eq_verifyDigest H hs k content d sig hH
  rw [h1]
  unfold ecdsaVerifyDigest decodeECDSASignature
  split
  · rfl
  by_cases hl : sig.length ≠ k.n * 2
  · rw [if_pos hl]
  · rw [if_neg hl]
    simp only [hv, Bool.false_eq_true, if_false]

theorem rsa_refused_by_primitive (H : HashFn) (k : RsaKey) (content d sig : Bytes)
    (hH : H content = .ok d) (hv : k.verify d sig = false) :
    rsaVerify H k content sig = .err .verification := by
  unfold rsaVerify rsaVerifyDigest
  rw [hH]
  simp only [hv, Bool.false_eq_true, if_false]

theorem ed_verdict (k : EdKey) (content sig : Bytes) :
    (edVerifier k).verify content sig = .ok () ↔ k.verify content sig = true := by
  unfold edVerifier
  by_cases hv : k.verify content sig = true <;> simp [hv]

end C03
