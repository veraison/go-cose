/-
  CoseProofs.Deep.Tamper — tamper evidence (C03, C10); the algorithm gate of COSE_Signature,
  countersignatures and the hash envelope (C04); failing signers and verifiers in
  COSE_Signature, countersignatures, the `Sign1` helpers, `SignHashEnvelope` and COSE_Sign (C20).

  Computational unforgeability is not a proposition about a function.  The idealisation used
  here: a verifier is `Unique` when it accepts at most one message per signature value.  Under a
  unique verifier, "the same signature verifies for two inputs" forces the two ToBeSigned byte
  strings to coincide, and the injectivity of the RFC structures (`C02.sig1_binding`,
  `C02.sig_binding`, `C10.countersign_binding`) then forces every signed field to coincide.
-/
import CoseSpec
import CoseModel.Messages
import CoseModel.HashEnvelope
import CoseProofs.Lemmas.Steps
import CoseProofs.Props.C01
import CoseProofs.Props.C03
import CoseProofs.Props.C04
import CoseProofs.Props.C11
import CoseProofs.Props.C20
import CoseProofs.Deep.Tbs
import CoseProofs.Deep.Chain
open CoseModel CoseSpec

namespace C03

/-- idealised unforgeability: at most one message is accepted per signature value -/
def Unique (v : Verifier) : Prop :=
  ∀ t t' s, v.verify t s = .ok () → v.verify t' s = .ok () → t = t'

/-- the transparent scheme of the test harness (sig = 0x01 ‖ keyid ‖ content) is unique -/
theorem unique_transparent (alg : Int) (keyid : UInt8) :
    Unique { alg := alg,
             verify := fun t sg => if sg = 1 :: keyid :: t then .ok () else .err .verification } := by
  intro t t' s h h'
  simp only at h h'
  split at h
  · rename_i hs
    split at h'
    · rename_i hs'
      rw [hs] at hs'
      exact (List.cons.inj (List.cons.inj hs').2).2
    · cases h'
  · cases h

/-- non-vacuity: `Unique` is a real restriction (a verifier accepting everything is not unique) -/
example : ¬ Unique { alg := -7, verify := fun _ _ => .ok () } := by
  intro h
  have := h [] [0] [] rfl rfl
  cases this

/-- a byte string item determines its content, whatever the head width: `parseHead` reads width,
    length and content back -/
theorem isBstrEncoding_content_unique {raw c c' : Bytes}
    (h : IsBstrEncoding raw c) (h' : IsBstrEncoding raw c') : c = c' := by
  obtain ⟨w, hf, rfl⟩ := h
  obtain ⟨w', hf', he⟩ := h'
  have hp := congrArg parseHead he
  rw [parseHead_headBytes 2 _ w c (by decide) hf, parseHead_headBytes 2 _ w' c' (by decide) hf',
    Option.some.injEq, Prod.mk.injEq, Prod.mk.injEq, Prod.mk.injEq] at hp
  exact hp.2.2.2

/-- whenever `Sign1.toBeSigned` succeeds on a message with a payload, the result is the RFC 9052
    Sig_structure over the content of the protected bucket -/
theorem tbs1_rfc_of_ok {m : Sign1Msg} {ext : Option Bytes} {t pl : Bytes}
    (h : Sign1.toBeSigned m ext = .ok t) (hpl : m.payload = some pl) :
    ∃ raw c, marshalProtected m.h = .ok raw ∧ IsBstrEncoding raw c ∧
      c.length < 18446744073709551616 ∧ t = detEnc (sigStructure1 c (ext.getD []) pl) := by
  obtain ⟨P, P', hP, hd, -⟩ := C01.toBeSigned1_ok_inv h
  obtain ⟨c, hc, hl, -⟩ := C02.detBstr_ok_inv P P' hd
  refine ⟨P, c, hP, hc, hl, ?_⟩
  have := C02.tbs1_eq_rfc m ext P c pl hP hc hl hpl
  rw [h] at this
  exact Out.ok.inj this

/-- whenever `Signature.toBeSigned` succeeds with a payload, the result is the RFC 9052
    Sig_structure over the contents of the body's and the signer's protected buckets -/
theorem tbsSig_rfc_of_ok {s : SigV} {bprot : Bytes} {payload ext : Option Bytes} {t pl : Bytes}
    (h : Signature.toBeSigned s bprot payload ext = .ok t) (hpl : payload = some pl) :
    ∃ bc raw sc, IsBstrEncoding bprot bc ∧ bc.length < 18446744073709551616 ∧
      marshalProtected s.h = .ok raw ∧ IsBstrEncoding raw sc ∧
      sc.length < 18446744073709551616 ∧
      t = detEnc (sigStructure bc sc (ext.getD []) pl) := by
  obtain ⟨bp, hb, h'⟩ := Out.bind_eq_ok.mp h
  obtain ⟨raw, hP, h'⟩ := Out.bind_eq_ok.mp h'
  obtain ⟨sp, hd, -⟩ := Out.bind_eq_ok.mp h'
  obtain ⟨bc, hbc, hbl, -⟩ := C02.detBstr_ok_inv _ _ hb
  obtain ⟨sc, hsc, hsl, -⟩ := C02.detBstr_ok_inv _ _ hd
  refine ⟨bc, raw, sc, hbc, hbl, hP, hsc, hsl, ?_⟩
  have := C02.tbsSig_eq_rfc s bprot payload ext bc raw sc pl hbc hbl hP hsc hsl hpl
  rw [h] at this
  exact Out.ok.inj this

/-- `Countersignature.toBeSigned` is `countersignToBeSigned false` on the marshalled protected
    bucket of the countersignature -/
theorem ctbs_of_ok {cs : SigV} {parent : Parent} {ext : Option Bytes} {t : Bytes}
    (h : Countersignature.toBeSigned cs parent ext = .ok t) :
    ∃ sp, marshalProtected cs.h = .ok sp ∧ countersignToBeSigned false parent sp ext = .ok t :=
  Out.bind_eq_ok.mp h

/-- what an accepting `Sign1.verify` handed to the verifier: the RFC Sig_structure -/
theorem verify1_ok_rfc {m : Sign1Msg} {ext : Option Bytes} {v : Verifier}
    (h : (Sign1.verify m ext v).1 = .ok ()) :
    ∃ pl raw c, m.payload = some pl ∧ marshalProtected m.h = .ok raw ∧ IsBstrEncoding raw c ∧
      v.verify (detEnc (sigStructure1 c (ext.getD []) pl)) (m.sig.getD []) = .ok () := by
  obtain ⟨hp, -, -, t, ht, hv⟩ := (verify1_iff m ext v).mp h
  obtain ⟨pl, hpl⟩ := Option.isSome_iff_exists.mp hp
  obtain ⟨raw, c, hraw, hc, -, rfl⟩ := tbs1_rfc_of_ok ht hpl
  exact ⟨pl, raw, c, hpl, hraw, hc, hv⟩

theorem verifySig_ok_rfc {sg : SigV} {v : Verifier} {bprot : Bytes} {payload ext : Option Bytes}
    (h : (Signature.verify sg v bprot payload ext).1 = .ok ()) :
    ∃ pl bc raw sc, payload = some pl ∧ IsBstrEncoding bprot bc ∧
      marshalProtected sg.h = .ok raw ∧ IsBstrEncoding raw sc ∧
      v.verify (detEnc (sigStructure bc sc (ext.getD []) pl)) (sg.sig.getD []) = .ok () := by
  obtain ⟨hp, -, -, -, t, ht, hv⟩ := (verifySig_iff sg v bprot payload ext).mp h
  obtain ⟨pl, hpl⟩ := Option.isSome_iff_exists.mp hp
  obtain ⟨bc, raw, sc, hbc, -, hraw, hsc, -, rfl⟩ := tbsSig_rfc_of_ok ht hpl
  exact ⟨pl, bc, raw, sc, hpl, hbc, hraw, hsc, hv⟩

/-- COSE_Sign1: if one signature value verifies for two messages under a unique verifier, the
    content of the protected bucket, the payload and the external data coincide.  `c`, `c'` are
    the contents of the two protected byte strings (whatever head width they were received with). -/
theorem tamper_sign1 (m m' : Sign1Msg) (ext ext' : Option Bytes) (v : Verifier) (hu : Unique v)
    (hsig : m.sig = m'.sig)
    (h1 : (Sign1.verify m ext v).1 = .ok ()) (h2 : (Sign1.verify m' ext' v).1 = .ok ())
    (c c' raw raw' : Bytes)
    (hp : marshalProtected m.h = .ok raw) (hp' : marshalProtected m'.h = .ok raw')
    (hc : IsBstrEncoding raw c) (hc' : IsBstrEncoding raw' c')
    (hpl : blen m.payload < 2^64) (hpl' : blen m'.payload < 2^64)
    (he : blen ext < 2^64) (he' : blen ext' < 2^64) :
    c = c' ∧ m.payload = m'.payload ∧ ext.getD [] = ext'.getD [] := by
  obtain ⟨pl, r, d, hpay, hr, hd, hv⟩ := verify1_ok_rfc h1
  obtain ⟨pl', r', d', hpay', hr', hd', hv'⟩ := verify1_ok_rfc h2
  rw [hp] at hr; cases hr
  rw [hp'] at hr'; cases hr'
  cases isBstrEncoding_content_unique hc hd
  cases isBstrEncoding_content_unique hc' hd'
  rw [← hsig] at hv'
  have ht := hu _ _ _ hv hv'
  have hcl := hc.length_lt
  have hcl' := hc'.length_lt
  simp only [blen, hpay, hpay', Option.getD_some] at hpl hpl' he he'
  obtain ⟨h1, h2, h3⟩ := C02.sig1_binding c (ext.getD []) pl c' (ext'.getD []) pl'
    (by omega) he hpl (by omega) he' hpl' ht
  exact ⟨h1, by rw [hpay, hpay', h3], h2⟩

/-- `tamper_sign1` without naming the protected bytes: both protected buckets exist and have one
    and the same content -/
theorem tamper_sign1_exists (m m' : Sign1Msg) (ext ext' : Option Bytes) (v : Verifier)
    (hu : Unique v) (hsig : m.sig = m'.sig)
    (h1 : (Sign1.verify m ext v).1 = .ok ()) (h2 : (Sign1.verify m' ext' v).1 = .ok ())
    (hpl : blen m.payload < 2^64) (hpl' : blen m'.payload < 2^64)
    (he : blen ext < 2^64) (he' : blen ext' < 2^64) :
    (∃ raw raw' c, marshalProtected m.h = .ok raw ∧ marshalProtected m'.h = .ok raw' ∧
      IsBstrEncoding raw c ∧ IsBstrEncoding raw' c) ∧
    m.payload = m'.payload ∧ ext.getD [] = ext'.getD [] := by
  obtain ⟨pl, r, d, -, hr, hd, -⟩ := verify1_ok_rfc h1
  obtain ⟨pl', r', d', -, hr', hd', -⟩ := verify1_ok_rfc h2
  obtain ⟨rfl, h2, h3⟩ := tamper_sign1 m m' ext ext' v hu hsig h1 h2 d d' r r' hr hr' hd hd'
    hpl hpl' he he'
  exact ⟨⟨r, r', d, hr, hr', hd, hd'⟩, h2, h3⟩

/-- contrapositive: a received message that differs from a verifying one in protected content,
    payload or external data (same signature bytes) is rejected -/
theorem tamper_sign1_rejected (m m' : Sign1Msg) (ext ext' : Option Bytes) (v : Verifier)
    (hu : Unique v) (hsig : m.sig = m'.sig) (h1 : (Sign1.verify m ext v).1 = .ok ())
    (c c' raw raw' : Bytes)
    (hp : marshalProtected m.h = .ok raw) (hp' : marshalProtected m'.h = .ok raw')
    (hc : IsBstrEncoding raw c) (hc' : IsBstrEncoding raw' c')
    (hpl : blen m.payload < 2^64) (hpl' : blen m'.payload < 2^64)
    (he : blen ext < 2^64) (he' : blen ext' < 2^64)
    (hdiff : c ≠ c' ∨ m.payload ≠ m'.payload ∨ ext.getD [] ≠ ext'.getD []) :
    (Sign1.verify m' ext' v).1 ≠ .ok () := by
  intro h2
  obtain ⟨a, b, d⟩ := tamper_sign1 m m' ext ext' v hu hsig h1 h2 c c' raw raw' hp hp' hc hc'
    hpl hpl' he he'
  rcases hdiff with h | h | h
  · exact h a
  · exact h b
  · exact h d

/-- a COSE_Sign1 signature never verifies as a COSE_Signature of a COSE_Sign -/
theorem tamper_kind (m : Sign1Msg) (sg : SigV) (bprot : Bytes) (payload ext ext' : Option Bytes)
    (v : Verifier) (hu : Unique v) (hsig : m.sig = sg.sig)
    (h1 : (Sign1.verify m ext v).1 = .ok ()) :
    (Signature.verify sg v bprot payload ext').1 ≠ .ok () := by
  intro h2
  obtain ⟨pl, r, d, -, -, -, hv⟩ := verify1_ok_rfc h1
  obtain ⟨pl', bc, r', sc, -, -, -, -, hv'⟩ := verifySig_ok_rfc h2
  rw [← hsig] at hv'
  exact C02.kinds_separated _ _ _ _ _ _ _ (hu _ _ _ hv hv')

/-- … nor as a countersignature, full or abbreviated, on any parent -/
theorem tamper_kind_csig (m : Sign1Msg) (ext : Option Bytes) (v : Verifier) (hu : Unique v)
    (h1 : (Sign1.verify m ext v).1 = .ok ()) :
    (∀ (cs : SigV) (parent : Parent) (ext' : Option Bytes), cs.sig = m.sig →
      (Countersignature.verify cs v parent ext').1 ≠ .ok ()) ∧
    (∀ (s : Bytes) (parent : Parent) (ext' : Option Bytes), m.sig = some s →
      (verifyCountersign0 v parent ext' s).1 ≠ .ok ()) := by
  obtain ⟨pl, r, d, -, -, -, hv⟩ := verify1_ok_rfc h1
  constructor
  · intro cs parent ext' hsig h2
    obtain ⟨-, -, t, ht, hv'⟩ := (verifyCsig_iff cs v parent ext').mp h2
    obtain ⟨sp, -, hct⟩ := ctbs_of_ok ht
    rw [hsig] at hv'
    exact (C10.ctbs_ne_message_tbs false parent sp ext' t hct).1 _ _ _ (hu _ _ _ hv' hv)
  · intro s parent ext' hsig h2
    obtain ⟨t, hct, hv'⟩ := (verifyCsign0_iff v parent ext' s).mp h2
    rw [hsig] at hv
    exact (C10.ctbs_ne_message_tbs true parent _ ext' t hct).1 _ _ _ (hu _ _ _ hv' hv)

/-- COSE_Signature of a COSE_Sign: the body protected content, the signer's protected
    content, the payload and the external data are all bound -/
theorem tamper_signature (sg sg' : SigV) (v : Verifier) (hu : Unique v)
    (bprot bprot' : Bytes) (payload payload' ext ext' : Option Bytes)
    (hsig : sg.sig = sg'.sig)
    (h1 : (Signature.verify sg v bprot payload ext).1 = .ok ())
    (h2 : (Signature.verify sg' v bprot' payload' ext').1 = .ok ())
    (bc bc' raw raw' sc sc' : Bytes)
    (hb : IsBstrEncoding bprot bc) (hb' : IsBstrEncoding bprot' bc')
    (hp : marshalProtected sg.h = .ok raw) (hp' : marshalProtected sg'.h = .ok raw')
    (hs : IsBstrEncoding raw sc) (hs' : IsBstrEncoding raw' sc')
    (hpl : blen payload < 2^64) (hpl' : blen payload' < 2^64)
    (he : blen ext < 2^64) (he' : blen ext' < 2^64) :
    bc = bc' ∧ sc = sc' ∧ payload = payload' ∧ ext.getD [] = ext'.getD [] := by
  obtain ⟨pl, b, r, d, hpay, hbb, hr, hd, hv⟩ := verifySig_ok_rfc h1
  obtain ⟨pl', b', r', d', hpay', hbb', hr', hd', hv'⟩ := verifySig_ok_rfc h2
  rw [hp] at hr; cases hr
  rw [hp'] at hr'; cases hr'
  cases isBstrEncoding_content_unique hb hbb
  cases isBstrEncoding_content_unique hb' hbb'
  cases isBstrEncoding_content_unique hs hd
  cases isBstrEncoding_content_unique hs' hd'
  rw [← hsig] at hv'
  have ht := hu _ _ _ hv hv'
  have l1 := hb.length_lt
  have l2 := hb'.length_lt
  have l3 := hs.length_lt
  have l4 := hs'.length_lt
  simp only [blen, hpay, hpay', Option.getD_some] at hpl hpl' he he'
  obtain ⟨h1, h2, h3, h4⟩ := C02.sig_binding bc sc (ext.getD []) pl bc' sc' (ext'.getD []) pl'
    (by omega) (by omega) he hpl (by omega) (by omega) he' hpl' ht
  exact ⟨h1, h2, by rw [hpay, hpay', h4], h3⟩

end C03

namespace C10
open C02 C03

/-- whenever `countersignToBeSigned` succeeds on a COSE_Sign1 parent, the result is the RFC 9338
    Countersign_structure (V2 form: the parent's signature is in `other_fields`) -/
theorem ctbs_sign1_ok_inv {abbr : Bool} {m : Sign1Msg} {sp : Bytes} {ext : Option Bytes} {t : Bytes}
    (h : countersignToBeSigned abbr (.sign1 m) sp ext = .ok t) :
    ∃ raw bc sc pl sig, marshalProtected m.h = .ok raw ∧ IsBstrEncoding raw bc ∧
      IsBstrEncoding sp sc ∧ m.payload = some pl ∧ m.sig = some sig ∧ sig ≠ [] ∧
      t = detEnc (countersignStructure (if abbr then "CounterSignature0V2" else "CounterSignatureV2")
        bc sc (ext.getD []) pl (some sig)) := by
  have h0 := h
  simp only [countersignToBeSigned] at h
  -- the one way to `.ok`: parent signed, protected bucket marshals, payload present, both
  -- byte strings accepted by `detBstr`
  split at h <;> try cases h
  rename_i heq
  split at heq <;> try cases heq
  rename_i hz
  split at heq <;> try cases heq
  rename_i hP
  split at heq <;> cases heq
  rename_i hpn
  obtain ⟨_, hb, h⟩ := Out.bind_eq_ok.mp h
  obtain ⟨_, hs, -⟩ := Out.bind_eq_ok.mp h
  obtain ⟨bc, hbc, hbl, -⟩ := detBstr_ok_inv _ _ hb
  obtain ⟨sc, hsc, hsl, -⟩ := detBstr_ok_inv _ _ hs
  obtain ⟨pl, hpl⟩ := Option.isSome_iff_exists.mp (Option.isNone_eq_false_iff.mp ((Bool.not_eq_true _).mp hpn))
  cases hsg : m.sig with
  | none => exact absurd (by rw [hsg]; rfl) hz
  | some sig =>
    have hne : sig ≠ [] := fun hc => hz (by rw [hsg, hc]; rfl)
    refine ⟨_, bc, sc, pl, sig, hP, hbc, hsc, hpl, rfl, hne, ?_⟩
    have := ctbs_eq_rfc_sign1 abbr m sp ext _ bc sc pl sig hP hbc hsc hbl hsl hpl hsg hne
    rw [h0] at this
    exact Out.ok.inj this

theorem ctxCounterSignatureV2_length_lt : (utf8 "CounterSignatureV2").length < 2^64 := by
  show ctxCounterSignatureV2.length < 2^64
  rw [ctxCounterSignatureV2_bytes]; decide

/-- Two countersignature values carrying the same signature bytes verify, under
    a unique verifier, against COSE_Sign1 parents `m`, `m'` with external data `ext`, `ext'`.
    Then the parents' protected content, payloads and signatures, the external data and the
    countersigners' protected content all coincide. -/
theorem csig_binds_all (cs cs' : SigV) (v : Verifier) (hu : Unique v) (m m' : Sign1Msg)
    (ext ext' : Option Bytes) (hsig : cs.sig = cs'.sig)
    (h1 : (Countersignature.verify cs v (.sign1 m) ext).1 = .ok ())
    (h2 : (Countersignature.verify cs' v (.sign1 m') ext').1 = .ok ())
    (c c' raw raw' : Bytes)
    (hp : marshalProtected m.h = .ok raw) (hp' : marshalProtected m'.h = .ok raw')
    (hc : IsBstrEncoding raw c) (hc' : IsBstrEncoding raw' c')
    (hpl : blen m.payload < 2^64) (hpl' : blen m'.payload < 2^64)
    (hsl : blen m.sig < 2^64) (hsl' : blen m'.sig < 2^64)
    (he : blen ext < 2^64) (he' : blen ext' < 2^64) :
    c = c' ∧ m.payload = m'.payload ∧ m.sig = m'.sig ∧ ext.getD [] = ext'.getD [] ∧
    ∀ sraw sraw' sc sc', marshalProtected cs.h = .ok sraw → marshalProtected cs'.h = .ok sraw' →
      IsBstrEncoding sraw sc → IsBstrEncoding sraw' sc' → sc = sc' := by
  obtain ⟨-, -, t, ht, hv⟩ := (verifyCsig_iff cs v _ ext).mp h1
  obtain ⟨-, -, t', ht', hv'⟩ := (verifyCsig_iff cs' v _ ext').mp h2
  obtain ⟨sp, hsp, hct⟩ := ctbs_of_ok ht
  obtain ⟨sp', hsp', hct'⟩ := ctbs_of_ok ht'
  obtain ⟨r, bc, sc, pl, sig, hr, hbc, hsc, hpay, hsg, -, rfl⟩ := ctbs_sign1_ok_inv hct
  obtain ⟨r', bc', sc', pl', sig', hr', hbc', hsc', hpay', hsg', -, rfl⟩ := ctbs_sign1_ok_inv hct'
  rw [hp] at hr; cases hr
  rw [hp'] at hr'; cases hr'
  cases isBstrEncoding_content_unique hc hbc
  cases isBstrEncoding_content_unique hc' hbc'
  rw [← hsig] at hv'
  have hteq := hu _ _ _ hv hv'
  have l1 := hc.length_lt
  have l2 := hc'.length_lt
  have l3 := hsc.length_lt
  have l4 := hsc'.length_lt
  simp only [blen, hpay, hpay', hsg, hsg', Option.getD_some] at hpl hpl' hsl hsl' he he'
  simp only [Bool.false_eq_true, if_false] at hteq
  obtain ⟨-, a1, a2, a3, a4, a5⟩ := countersign_binding _ _ c sc (ext.getD []) pl c' sc'
    (ext'.getD []) pl' (some sig) (some sig') ctxCounterSignatureV2_length_lt
    ctxCounterSignatureV2_length_lt (by omega) (by omega) he hpl
    (by omega) (by omega) he' hpl'
    (by intro x hx; cases hx; exact hsl) (by intro x hx; cases hx; exact hsl') hteq
  refine ⟨a1, by rw [hpay, hpay', a4], by rw [hsg, hsg', Option.some.inj a5], a3, ?_⟩
  intro sraw sraw' s1 s1' e1 e1' i1 i1'
  rw [hsp] at e1; cases e1
  rw [hsp'] at e1'; cases e1'
  rw [isBstrEncoding_content_unique i1 hsc, isBstrEncoding_content_unique i1' hsc']
  exact a2

/-- one countersignature value (fixed headers and signature bytes) that verifies against two
    COSE_Sign1 parents: the parents agree on protected content, payload and signature, and the
    external data agree -/
theorem csig_binds_parent (cs : SigV) (v : Verifier) (hu : Unique v) (m m' : Sign1Msg)
    (ext ext' : Option Bytes)
    (h1 : (Countersignature.verify cs v (.sign1 m) ext).1 = .ok ())
    (h2 : (Countersignature.verify cs v (.sign1 m') ext').1 = .ok ())
    (c c' raw raw' : Bytes)
    (hp : marshalProtected m.h = .ok raw) (hp' : marshalProtected m'.h = .ok raw')
    (hc : IsBstrEncoding raw c) (hc' : IsBstrEncoding raw' c')
    (hpl : blen m.payload < 2^64) (hpl' : blen m'.payload < 2^64)
    (hsl : blen m.sig < 2^64) (hsl' : blen m'.sig < 2^64)
    (he : blen ext < 2^64) (he' : blen ext' < 2^64) :
    c = c' ∧ m.payload = m'.payload ∧ m.sig = m'.sig ∧ ext.getD [] = ext'.getD [] := by
  obtain ⟨a, b, d, e, -⟩ := csig_binds_all cs cs v hu m m' ext ext' rfl h1 h2 c c' raw raw' hp hp'
    hc hc' hpl hpl' hsl hsl' he he'
  exact ⟨a, b, d, e⟩

/-- the signature bytes of a verifying full countersignature never verify through
    `VerifyCountersign0` — for the same parent or any other, any external data -/
theorem csig_full_not_abbrev (cs : SigV) (v : Verifier) (hu : Unique v) (parent parent' : Parent)
    (ext ext' : Option Bytes) (h1 : (Countersignature.verify cs v parent ext).1 = .ok ()) :
    (verifyCountersign0 v parent' ext' (cs.sig.getD [])).1 ≠ .ok () := by
  intro h2
  obtain ⟨-, -, t, ht, hv⟩ := (verifyCsig_iff cs v parent ext).mp h1
  obtain ⟨sp, -, hct⟩ := ctbs_of_ok ht
  obtain ⟨t', hct', hv'⟩ := (verifyCsign0_iff v parent' ext' _).mp h2
  exact ctbs_full_ne_abbrev_any parent parent' sp _ ext ext' t t' hct hct' (hu _ _ _ hv hv')

/-- and conversely: an abbreviated countersignature never verifies as a full one -/
theorem csig_abbrev_not_full (cs : SigV) (v : Verifier) (hu : Unique v) (parent parent' : Parent)
    (ext ext' : Option Bytes)
    (h1 : (verifyCountersign0 v parent ext (cs.sig.getD [])).1 = .ok ()) :
    (Countersignature.verify cs v parent' ext').1 ≠ .ok () :=
  fun h2 => csig_full_not_abbrev cs v hu parent' parent ext' ext h2 h1

end C10

namespace C04

/-! The other structures go through the same two functions `ensureSigningAlgorithm` /
    `ensureVerificationAlgorithm` as COSE_Sign1, before ToBeSigned is built and before the key is
    used: every call of the key implies the gate had passed. -/

theorem signature_call_implies_gate (sg : SigV) (s : Signer) (bprot : Bytes)
    (payload ext : Option Bytes) (h : (Signature.sign sg s bprot payload ext).calls ≠ []) :
    ∃ p', ensureSigningAlgorithm sg.h.rawP sg.h.p s.alg ext = .ok p' := by
  rw [Signature.sign_eq] at h
  obtain ⟨p', _, hg, -, -, -⟩ := signStep_called _ _ _ _ _ _ h
  exact ⟨p', (Signature.signGate_eq_ok.mp hg).2.2.2⟩

theorem signature_verify_call_implies_gate (sg : SigV) (v : Verifier) (bprot : Bytes)
    (payload ext : Option Bytes) (h : (Signature.verify sg v bprot payload ext).2 ≠ []) :
    ensureVerificationAlgorithm sg.h.p v.alg ext = .ok () := by
  rw [Signature.verify_eq] at h
  obtain ⟨_, hg, -, -⟩ := callKey_called h
  exact (Signature.verifyGate_eq_ok.mp hg).2.2.2

theorem countersignature_call_implies_gate (cs : SigV) (s : Signer) (parent : Parent)
    (ext : Option Bytes) (h : (Countersignature.sign cs s parent ext).calls ≠ []) :
    ∃ p', ensureSigningAlgorithm cs.h.rawP cs.h.p s.alg ext = .ok p' := by
  rw [Countersignature.sign_eq] at h
  obtain ⟨p', _, hg, -, -, -⟩ := signStep_called _ _ _ _ _ _ h
  exact ⟨p', (Countersignature.signGate_eq_ok.mp hg).2⟩

theorem countersignature_verify_call_implies_gate (cs : SigV) (v : Verifier) (parent : Parent)
    (ext : Option Bytes) (h : (Countersignature.verify cs v parent ext).2 ≠ []) :
    ensureVerificationAlgorithm cs.h.p v.alg ext = .ok () := by
  rw [Countersignature.verify_eq] at h
  obtain ⟨_, hg, -, -⟩ := callKey_called h
  exact (Countersignature.verifyGate_eq_ok.mp hg).2

/-- COSE_Signature, signing: with an integer alg different from the signer's, the mismatch
    error is returned, the key is never invoked and the slot is left untouched -/
theorem signature_mismatch_no_call (sg : SigV) (s : Signer) (bprot : Bytes)
    (payload ext : Option Bytes) (c : Int)
    (hp : payload.isSome) (hs : blen sg.sig = 0) (hb : bodyProtOK bprot = true)
    (h : algorithmOf sg.h.p = .found c) (hne : c ≠ s.alg) :
    (Signature.sign sg s bprot payload ext).out = .err .algMismatch ∧
    (Signature.sign sg s bprot payload ext).calls = [] ∧
    (Signature.sign sg s bprot payload ext).state = sg := by
  have hg : Signature.signGate sg s bprot payload ext = .err .algMismatch := by
    rw [Signature.signGate, Option.isNone_eq_false_iff.mpr hp, hs, hb,
      sign_mismatch _ _ _ _ _ h hne]
    rfl
  rw [Signature.sign_eq, hg]
  exact ⟨rfl, rfl, rfl⟩

/-- COSE_Signature, verification: the verifier is never invoked and the result is not
    success (no preconditions); it is the mismatch error when the argument checks pass -/
theorem signature_verify_mismatch_no_call (sg : SigV) (v : Verifier) (bprot : Bytes)
    (payload ext : Option Bytes) (c : Int)
    (h : algorithmOf sg.h.p = .found c) (hne : c ≠ v.alg) :
    (Signature.verify sg v bprot payload ext).2 = [] ∧
    (Signature.verify sg v bprot payload ext).1 ≠ .ok () ∧
    (payload.isSome → blen sg.sig ≠ 0 → bodyProtOK bprot = true →
      (Signature.verify sg v bprot payload ext).1 = .err .algMismatch) := by
  have hg := verify_mismatch _ _ _ ext h hne
  refine ⟨?_, ?_, ?_⟩
  · refine Decidable.byContradiction fun hc => ?_
    have := signature_verify_call_implies_gate sg v bprot payload ext hc
    rw [hg] at this; cases this
  · intro hc
    have := ((C03.verifySig_iff sg v bprot payload ext).mp hc).2.2.2.1
    rw [hg] at this; cases this
  · intro hp hs hb
    rw [Signature.verify_eq, Signature.verifyGate, Option.isNone_eq_false_iff.mpr hp,
      if_neg Bool.false_ne_true, if_neg hs, hb, hg]
    rfl

/-- countersignature, signing: with an integer alg different from the signer's, the mismatch
    error is returned, the key is never invoked and the countersignature is left untouched -/
theorem countersignature_mismatch_no_call (cs : SigV) (s : Signer) (parent : Parent)
    (ext : Option Bytes) (c : Int) (hs : blen cs.sig = 0)
    (h : algorithmOf cs.h.p = .found c) (hne : c ≠ s.alg) :
    (Countersignature.sign cs s parent ext).out = .err .algMismatch ∧
    (Countersignature.sign cs s parent ext).calls = [] ∧
    (Countersignature.sign cs s parent ext).state = cs := by
  have hg : Countersignature.signGate cs s ext = .err .algMismatch := by
    rw [Countersignature.signGate, hs, sign_mismatch _ _ _ _ _ h hne]
    rfl
  rw [Countersignature.sign_eq, hg]
  exact ⟨rfl, rfl, rfl⟩

/-- countersignature, verification: the verifier is never invoked and the result is not
    success; it is the mismatch error when a signature is present -/
theorem countersignature_verify_mismatch_no_call (cs : SigV) (v : Verifier) (parent : Parent)
    (ext : Option Bytes) (c : Int)
    (h : algorithmOf cs.h.p = .found c) (hne : c ≠ v.alg) :
    (Countersignature.verify cs v parent ext).2 = [] ∧
    (Countersignature.verify cs v parent ext).1 ≠ .ok () ∧
    (blen cs.sig ≠ 0 → (Countersignature.verify cs v parent ext).1 = .err .algMismatch) := by
  have hg := verify_mismatch _ _ _ ext h hne
  refine ⟨?_, ?_, ?_⟩
  · refine Decidable.byContradiction fun hc => ?_
    have := countersignature_verify_call_implies_gate cs v parent ext hc
    rw [hg] at this; cases this
  · intro hc
    have := ((C03.verifyCsig_iff cs v parent ext).mp hc).2.1
    rw [hg] at this; cases this
  · intro hs
    rw [Countersignature.verify_eq, Countersignature.verifyGate, if_neg hs, hg]
    rfl

/-- `SignHashEnvelope`: the emitted bytes are the serialisation of a COSE_Sign1 state whose
    protected map passes the verification gate for the signer's algorithm — with no external
    data this means the alg found in the emitted protected map is the signer's -/
theorem henv_alg_gate (s : Signer) (h : Hdrs) (p : HashPayload) (b : Bytes)
    (hs : (signHashEnvelope s h p).1 = .ok b) :
    ∃ u st, st = (Sign1.sign { h := { h with p := setHashEnvelopeProtectedHeader h.p p,
                                              rawP := none, u := u },
                               payload := p.value, sig := none } none s).state ∧
      Sign1.marshal true st = .ok b ∧
      ensureVerificationAlgorithm st.h.p s.alg none = .ok () ∧
      algorithmOf st.h.p = .found s.alg := by
  obtain ⟨u, -, -, hh⟩ := C01.signHashEnvelope_ok_inv s h p b hs
  obtain ⟨hok, hm⟩ := C01.sign1Helper_ok_inv true _ _ _ s b hh
  obtain ⟨p', tbs, sig, -, hgate, -, -, hst⟩ := C01.sign1_sign_ok_inv _ none s hok
  have hv := C01.gate_after_sign _ _ _ _ _ hgate
  refine ⟨u, _, rfl, hm, ?_, ?_⟩
  · rw [hst]; exact hv
  · rw [hst]
    rcases (verify_gate_iff _ _ _).mp hv with hf | ⟨-, hl⟩
    · exact hf
    · simp at hl

end C04

namespace C20

/-- COSE_Signature with a failing signer: never success; the signer's error once the signer
    was reached; no signature stored -/
theorem signature_fault (sg : SigV) (s : Signer) (bprot : Bytes) (payload ext : Option Bytes)
    (e : Err) (hs : ∀ tbs, s.sign tbs = .err e) :
    (Signature.sign sg s bprot payload ext).out ≠ .ok () ∧
    ((Signature.sign sg s bprot payload ext).calls ≠ [] →
      (Signature.sign sg s bprot payload ext).out = .err e) ∧
    (Signature.sign sg s bprot payload ext).state.sig = sg.sig :=
  signature_failing_signer sg s bprot payload ext fun t => answer_of_err (hs t)

/-- full countersignature with a failing signer -/
theorem countersignature_fault (cs : SigV) (s : Signer) (parent : Parent) (ext : Option Bytes)
    (e : Err) (hs : ∀ tbs, s.sign tbs = .err e) :
    (Countersignature.sign cs s parent ext).out ≠ .ok () ∧
    ((Countersignature.sign cs s parent ext).calls ≠ [] →
      (Countersignature.sign cs s parent ext).out = .err e) ∧
    (Countersignature.sign cs s parent ext).state.sig = cs.sig :=
  countersignature_failing_signer cs s parent ext fun t => answer_of_err (hs t)

/-- `Countersign0` with a failing signer: no bytes are returned; the signer's error once the
    signer was reached -/
theorem countersign0_fault (s : Signer) (parent : Parent) (ext : Option Bytes)
    (e : Err) (hs : ∀ tbs, s.sign tbs = .err e) :
    (∀ b, (countersign0 s parent ext).1 ≠ .ok b) ∧
    ((countersign0 s parent ext).2 ≠ [] → (countersign0 s parent ext).1 = .err e) :=
  countersign0_failing_signer s parent ext fun t => answer_of_err (hs t)

/-- the `Sign1` / `Sign1Untagged` helpers with a failing signer -/
theorem sign1Helper_fault (tagged : Bool) (h : Hdrs) (payload ext : Option Bytes) (s : Signer)
    (e : Err) (hs : ∀ tbs, s.sign tbs = .err e) :
    (∀ b, (sign1Helper tagged h payload ext s).1 ≠ .ok b) ∧
    ((sign1Helper tagged h payload ext s).2 ≠ [] →
      (sign1Helper tagged h payload ext s).1 = .err e) := by
  obtain ⟨h1, h2, -⟩ := sign1_failing_signer { h := h, payload := payload, sig := none } ext s
    fun t => answer_of_err (hs t)
  rw [sign1Helper_eq]
  refine ⟨fun b hb => ?_, fun hc => ?_⟩
  · obtain ⟨_, hu, -⟩ := Out.bind_eq_ok.mp hb
    exact h1 hu
  · rw [h2 hc]
    rfl

/-- `SignHashEnvelope` with a failing signer -/
theorem henv_fault (s : Signer) (h : Hdrs) (p : HashPayload)
    (e : Err) (hs : ∀ tbs, s.sign tbs = .err e) :
    (∀ b, (signHashEnvelope s h p).1 ≠ .ok b) ∧
    ((signHashEnvelope s h p).2 ≠ [] → (signHashEnvelope s h p).1 = .err e) := by
  rcases C01.signHashEnvelope_cases s h p with ⟨x, hx, hne⟩ | ⟨u, -, -, hu⟩
  · rw [hx]; exact ⟨hne, fun hc => absurd rfl hc⟩
  · rw [hu]; exact sign1Helper_fault true _ _ _ s e hs

/-! ### verifier errors -/

/-- whatever the verifier returns for the single (content, signature) pair it is handed is the
    result; if it is handed nothing, the result is not success -/
theorem verifySig_calls (sg : SigV) (v : Verifier) (bprot : Bytes) (payload ext : Option Bytes) :
    ((Signature.verify sg v bprot payload ext).2 = [] ∧
      (Signature.verify sg v bprot payload ext).1 ≠ .ok ()) ∨
    ∃ t, (Signature.verify sg v bprot payload ext).2 = [t] ∧
      (Signature.verify sg v bprot payload ext).1 = v.verify t (sg.sig.getD []) := by
  rw [Signature.verify_eq]
  exact callKey_calls _ _ _

theorem verifyCsig_calls (cs : SigV) (v : Verifier) (parent : Parent) (ext : Option Bytes) :
    ((Countersignature.verify cs v parent ext).2 = [] ∧
      (Countersignature.verify cs v parent ext).1 ≠ .ok ()) ∨
    ∃ t, (Countersignature.verify cs v parent ext).2 = [t] ∧
      (Countersignature.verify cs v parent ext).1 = v.verify t (cs.sig.getD []) := by
  rw [Countersignature.verify_eq]
  exact callKey_calls _ _ _

theorem verifyCsign0_calls (v : Verifier) (parent : Parent) (ext : Option Bytes) (sig : Bytes) :
    ((verifyCountersign0 v parent ext sig).2 = [] ∧
      (verifyCountersign0 v parent ext sig).1 ≠ .ok ()) ∨
    ∃ t, (verifyCountersign0 v parent ext sig).2 = [t] ∧
      (verifyCountersign0 v parent ext sig).1 = v.verify t sig := by
  rw [verifyCountersign0_eq]
  exact callKey_calls _ _ _

/-- a verifier that returns `.err e` for every input: no entry point reports success, and
    each reports exactly `.err e` once the verifier was reached -/
theorem verify_error_propagates_all (v : Verifier) (e : Err) (hv : ∀ t s, v.verify t s = .err e) :
    (∀ sg bprot payload ext,
      (Signature.verify sg v bprot payload ext).1 ≠ .ok () ∧
      ((Signature.verify sg v bprot payload ext).2 ≠ [] →
        (Signature.verify sg v bprot payload ext).1 = .err e)) ∧
    (∀ cs parent ext,
      (Countersignature.verify cs v parent ext).1 ≠ .ok () ∧
      ((Countersignature.verify cs v parent ext).2 ≠ [] →
        (Countersignature.verify cs v parent ext).1 = .err e)) ∧
    (∀ parent ext sig,
      (verifyCountersign0 v parent ext sig).1 ≠ .ok () ∧
      ((verifyCountersign0 v parent ext sig).2 ≠ [] →
        (verifyCountersign0 v parent ext sig).1 = .err e)) := by
  refine ⟨fun sg bprot payload ext => ?_, fun cs parent ext => ?_, fun parent ext sig => ?_⟩
  · rw [Signature.verify_eq]
    exact (callKey_failing_key _ _ fun t => hv t _).imp_left (· ())
  · rw [Countersignature.verify_eq]
    exact (callKey_failing_key _ _ fun t => hv t _).imp_left (· ())
  · rw [verifyCountersign0_eq]
    exact (callKey_failing_key _ _ fun t => hv t _).imp_left (· ())

/-! ### COSE_Sign -/

/-- when the signing loop reports a non-ok outcome there is a first failing index: every earlier
    slot was signed, the slot itself failed, its outcome is the loop's outcome, later slots are
    untouched, and the slot holds the state `Signature.sign` left -/
theorem signLoop_not_ok_has_first_failure (bprot : Bytes) (payload ext : Option Bytes) :
    ∀ (sgs : List SigV) (ss : List Signer),
      (signLoop bprot payload ext sgs ss).2.1 ≠ .ok () →
      ∃ (i : Nat) (h1 : i < sgs.length) (h2 : i < ss.length),
        (∀ j (hj1 : j < sgs.length) (hj2 : j < ss.length), j < i →
          (Signature.sign sgs[j] ss[j] bprot payload ext).out = .ok ()) ∧
        (Signature.sign sgs[i] ss[i] bprot payload ext).out ≠ .ok () ∧
        (signLoop bprot payload ext sgs ss).2.1 = (Signature.sign sgs[i] ss[i] bprot payload ext).out ∧
        (signLoop bprot payload ext sgs ss).1.drop (i + 1) = sgs.drop (i + 1) ∧
        (signLoop bprot payload ext sgs ss).1[i]? =
          some (Signature.sign sgs[i] ss[i] bprot payload ext).state
  | sgs, ss, h => by
    rcases signLoop_spec bprot payload ext sgs ss with ⟨hok, -⟩ | h'
    · exact absurd hok h
    · exact h'

/-- a failed signing loop over unsigned slots leaves an unsigned slot -/
theorem signLoop_not_ok_leaves_empty_slot (bprot : Bytes) (payload ext : Option Bytes)
    (sgs : List SigV) (ss : List Signer)
    (h : (signLoop bprot payload ext sgs ss).2.1 ≠ .ok ())
    (h0 : ∀ s ∈ sgs, blen s.sig = 0) :
    ∃ s ∈ (signLoop bprot payload ext sgs ss).1, blen s.sig = 0 := by
  obtain ⟨i, h1, h2, -, hfail, -, -, hat⟩ :=
    signLoop_not_ok_has_first_failure bprot payload ext sgs ss h
  refine ⟨_, List.mem_of_getElem? hat, ?_⟩
  rw [signature_sign_fail_keeps_sig _ _ _ _ _ hfail]
  exact h0 _ (List.getElem_mem h1)

/-- a COSE_Sign whose signing failed (starting from unsigned slots) cannot be serialised:
    some slot is still empty.  (`m.sigs.length = signers.length` and `m.payload.isSome` are not
    needed: when they fail nothing was signed at all.) -/
theorem signmsg_fault_marshal (m : SignMsg) (ext : Option Bytes) (signers : List Signer)
    (h : (Sign.sign m ext signers).out ≠ .ok ())
    (h0 : ∀ s ∈ m.sigs, blen s.sig = 0) (hne : m.sigs ≠ []) :
    ∀ b, Sign.marshal (Sign.sign m ext signers).state ≠ .ok b := by
  have hm : ∃ s ∈ m.sigs, blen s.sig = 0 := by
    cases hq : m.sigs with
    | nil => exact absurd hq hne
    | cons a r => exact ⟨a, by simp, h0 a (by simp [hq])⟩
  suffices hx : ∃ s ∈ (Sign.sign m ext signers).state.sigs, blen s.sig = 0 by
    obtain ⟨s, hs, hz⟩ := hx
    exact C11.signmsg_no_empty_on_wire _ s hs hz
  rcases Sign.sign_cases m ext signers with ⟨bprot, -, heq⟩ | ⟨-, hst⟩
  · rw [heq] at h ⊢
    exact signLoop_not_ok_leaves_empty_slot bprot m.payload ext m.sigs signers h h0
  · rw [hst]
    exact hm

end C20

/-! ### the hypotheses are satisfiable -/
namespace TamperExamples
open TbsExamples

/-- the harness's transparent verifier with key id 7 -/
def tv : Verifier :=
  { alg := -7, verify := fun t sg => if sg = 1 :: 7 :: t then .ok () else .err .verification }

theorem tv_unique : C03.Unique tv := C03.unique_transparent (-7) 7

/-- `m1` (non-minimal protected bucket `58 01 a0`, payload 01 02 03) signed with the transparent
    scheme over external data 01 -/
def signed : Sign1Msg :=
  { m1 with sig := some (1 :: 7 :: detEnc (sigStructure1 [0xa0] [1] [1, 2, 3])) }

theorem signed_verifies : (Sign1.verify signed (some [1]) tv).1 = .ok () := by
  rw [C03.verify1_iff]
  refine ⟨rfl, by simp [signed, blen], by decide,
    detEnc (sigStructure1 [0xa0] [1] [1, 2, 3]), ?_, ?_⟩
  · exact C02.tbs1_eq_rfc signed (some [1]) [0x58, 0x01, 0xa0] [0xa0] [1, 2, 3] m1_protected
      ⟨.w1, by decide, rfl⟩ (by decide) rfl
  · simp [tv, signed]

/-- the same signature bytes on a message with another payload are rejected -/
example : (Sign1.verify { signed with payload := some [1, 2, 4] } (some [1]) tv).1 ≠ .ok () :=
  C03.tamper_sign1_rejected signed _ (some [1]) (some [1]) tv tv_unique rfl signed_verifies
    [0xa0] [0xa0] [0x58, 0x01, 0xa0] [0x58, 0x01, 0xa0] m1_protected m1_protected
    ⟨.w1, by decide, rfl⟩ ⟨.w1, by decide, rfl⟩ (by decide) (by decide) (by decide) (by decide)
    (.inr (.inl (by decide)))

/-- … and so are they with other external data, or when offered as a COSE_Signature or as an
    abbreviated countersignature -/
example : (Sign1.verify signed (some [2]) tv).1 ≠ .ok () :=
  C03.tamper_sign1_rejected signed signed (some [1]) (some [2]) tv tv_unique rfl signed_verifies
    [0xa0] [0xa0] [0x58, 0x01, 0xa0] [0x58, 0x01, 0xa0] m1_protected m1_protected
    ⟨.w1, by decide, rfl⟩ ⟨.w1, by decide, rfl⟩ (by decide) (by decide) (by decide) (by decide)
    (.inr (.inr (by decide)))

example (bprot : Bytes) (payload ext' : Option Bytes) :
    (Signature.verify { sig := signed.sig } tv bprot payload ext').1 ≠ .ok () :=
  C03.tamper_kind signed _ bprot payload (some [1]) ext' tv tv_unique rfl signed_verifies

example (parent : Parent) (ext' : Option Bytes) :
    (verifyCountersign0 tv parent ext' (1 :: 7 :: detEnc (sigStructure1 [0xa0] [1] [1, 2, 3]))).1
      ≠ .ok () :=
  (C03.tamper_kind_csig signed (some [1]) tv tv_unique signed_verifies).2 _ parent ext' rfl

end TamperExamples
