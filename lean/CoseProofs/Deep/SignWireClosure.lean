/-
  Deep/SignWireClosure — the wire round trip of `Deep/WireClosure` for the two other message
  kinds, COSE_Sign with any number n ≥ 1 of signer slots and stand-alone countersignatures on any
  parent kind, for flat header maps (`RoundTrip.FlatMap`, no caller-supplied raw header bytes).
  A flat map item is within the parser's limits at any depth ≤ 31, so also inside a signer slot
  (`FlatSlot.wire`); everything above the buckets is `Deep/WireGeneric`, where namespace
  `SignWireClosure` begins (`SlotWire`, `GoSigner`, `signmsg_wire`, … are there).

  Hypotheses that remain, and why (as in `C01.sign1_wire_flat` unless said otherwise):
  * `Matches ss[i] vs[i]`, `ss.length = vs.length`: crypto is a parameter.  That
    `ss.length = m.sigs.length` follows from `hok`.
  * `FlatMap`, `UintOK`, `length ≤ maxElems` for the body of a COSE_Sign (not strict:
    `SignMessage.Sign` never touches the body headers); the same with `p.length < maxElems` for
    every signer slot (`FlatSlot`) and for a countersignature, where `Sign` may add `alg`.
  * `GoSigner s`: `int64Range s.alg` (`countersignature_wire_flat_needs_halg`) and signatures
    shorter than 2^64 bytes.
  * `hn : m.sigs.length ≤ maxElems` — library behaviour: the encoder emits any number of
    signatures, the decoder refuses arrays of more than 131072 elements
    (`signmsg_wire_flat_needs_hn`: 131073 slots are signed and encoded, and refused).
  Nothing is asked of the parent of a countersignature: whatever `countersignToBeSigned`
  computed at signing time it computes again at verification time, and the countersignature
  enters only through its protected bytes, which the decoded value re-emits verbatim.
-/
import CoseProofs.Deep.WireClosure
open CoseModel CoseSpec RoundTrip

namespace SignWireClosure
open WireClosure

/-- the scope for one signer slot: no caller-supplied raw buckets, flat header maps, room for the
    `alg` entry `Sign` may add -/
def FlatSlot (sg : SigV) : Prop :=
  sg.h.rawP = none ∧ sg.h.rawU = none ∧ FlatMap sg.h.p ∧ FlatMap sg.h.u ∧
    (∀ e ∈ sg.h.p, UintOK e.2) ∧ (∀ e ∈ sg.h.u, UintOK e.2) ∧
    sg.h.p.length < maxElems ∧ sg.h.u.length ≤ maxElems

theorem FlatSlot.wire {sg : SigV} (h : FlatSlot sg) :
    SlotWire (fun g => (sortEntries g).map decEntry) (fun g => (sortEntries g).map normEntry)
      sg := by
  obtain ⟨hrp, hru, hfp, hfu, hup, huu, hlp, hlu⟩ := h
  exact ⟨hrp, hru, gated_flat hfp hup hlp, unprotWire_flat hfu huu hlu (by decide)⟩

end SignWireClosure

namespace C01
open WireClosure SignWireClosure

/-- countersignature, end to end, every parent kind: a countersignature with flat header maps
    that the library signed (on `parent`, with external data `ext`) and encoded is decoded by the
    library, and the decoded countersignature verifies on the same parent under the matching
    verifier with the same external data; it carries the signer's signature.  Decoding and the
    algorithm gate are conclusions; nothing is assumed of the parent. -/
theorem countersignature_wire_flat (cs : SigV) (s : Signer) (v : Verifier) (parent : Parent)
    (ext : Option Bytes) (b : Bytes) (hm : Matches s v)
    (hrp : cs.h.rawP = none) (hru : cs.h.rawU = none)
    (hfp : FlatMap cs.h.p) (hfu : FlatMap cs.h.u)
    (hup : ∀ e ∈ cs.h.p, UintOK e.2) (huu : ∀ e ∈ cs.h.u, UintOK e.2)
    (hlp : cs.h.p.length < maxElems) (hlu : cs.h.u.length ≤ maxElems)
    (halg : int64Range s.alg)
    (hsl : ∀ t sg, s.sign t = .ok sg → sg.length < 18446744073709551616)
    (hok : (Countersignature.sign cs s parent ext).out = .ok ())
    (henc : Signature.marshal (Countersignature.sign cs s parent ext).state = .ok b) :
    ∃ c2, Signature.unmarshal b = .ok c2 ∧ (Countersignature.verify c2 v parent ext).1 = .ok () ∧
      c2.sig = (Countersignature.sign cs s parent ext).state.sig := by
  obtain ⟨c2, h1, h2, h3, -⟩ :=
    countersignature_wire _ cs s parent ext b hrp hru (gated_flat hfp hup hlp)
      (unprotWire_flat hfu huu hlu (by decide)) halg hsl hok henc
  exact ⟨c2, h1, h2 v hm, h3⟩

/-- COSE_Sign (any number n ≥ 1 of signers), end to end: a message with flat header maps in the
    body and in every signer slot that the library signed and encoded is decoded by the library,
    the decoded message verifies under the positionally matching verifiers with the same external
    data, and carries the signed payload, as many signer entries, and the signers' signatures.
    Decoding and the algorithm gate are conclusions. -/
theorem signmsg_wire_flat (m : SignMsg) (ext : Option Bytes) (ss : List Signer)
    (vs : List Verifier) (b : Bytes) (hlen : ss.length = vs.length)
    (hm : ∀ i (h1 : i < ss.length) (h2 : i < vs.length), Matches ss[i] vs[i])
    (hrp : m.h.rawP = none) (hru : m.h.rawU = none)
    (hfp : FlatMap m.h.p) (hfu : FlatMap m.h.u)
    (hup : ∀ e ∈ m.h.p, UintOK e.2) (huu : ∀ e ∈ m.h.u, UintOK e.2)
    (hlp : m.h.p.length ≤ maxElems) (hlu : m.h.u.length ≤ maxElems)
    (hslots : ∀ sg ∈ m.sigs, FlatSlot sg) (hn : m.sigs.length ≤ maxElems)
    (hpl : blen m.payload < 18446744073709551616) (hgs : ∀ s ∈ ss, GoSigner s)
    (hok : (Sign.sign m ext ss).out = .ok ())
    (henc : Sign.marshal (Sign.sign m ext ss).state = .ok b) :
    ∃ m2, Sign.unmarshal b = .ok m2 ∧ (Sign.verify m2 ext vs).1 = .ok () ∧
      m2.payload = m.payload ∧ m2.sigs.length = m.sigs.length ∧
      ∀ i (h1 : i < m2.sigs.length) (h2 : i < (Sign.sign m ext ss).state.sigs.length),
        m2.sigs[i].sig = (Sign.sign m ext ss).state.sigs[i].sig := by
  obtain ⟨m2, h1, h2, h3, h4, h5, -⟩ :=
    signmsg_wire _ _ m ext ss b hrp hru (protWire_flat hfp hup hlp)
      (unprotWire_flat hfu huu hlu (by decide)) (fun sg hsg => (hslots sg hsg).wire) hn hpl hgs
      hok henc
  exact ⟨m2, h1, h2 vs hlen hm, h3, h4, h5⟩

/-- COSE_Sign with detached payload, end to end: sign, encode without the payload
    (`payload := nil`), decode, put the original payload back, verify.  No bound on the payload. -/
theorem signmsg_wire_detached_flat (m : SignMsg) (ext : Option Bytes) (ss : List Signer)
    (vs : List Verifier) (b : Bytes) (hlen : ss.length = vs.length)
    (hm : ∀ i (h1 : i < ss.length) (h2 : i < vs.length), Matches ss[i] vs[i])
    (hrp : m.h.rawP = none) (hru : m.h.rawU = none)
    (hfp : FlatMap m.h.p) (hfu : FlatMap m.h.u)
    (hup : ∀ e ∈ m.h.p, UintOK e.2) (huu : ∀ e ∈ m.h.u, UintOK e.2)
    (hlp : m.h.p.length ≤ maxElems) (hlu : m.h.u.length ≤ maxElems)
    (hslots : ∀ sg ∈ m.sigs, FlatSlot sg) (hn : m.sigs.length ≤ maxElems)
    (hgs : ∀ s ∈ ss, GoSigner s)
    (hok : (Sign.sign m ext ss).out = .ok ())
    (henc : Sign.marshal { (Sign.sign m ext ss).state with payload := none } = .ok b) :
    ∃ m2, Sign.unmarshal b = .ok m2 ∧
      (Sign.verify { m2 with payload := m.payload } ext vs).1 = .ok () ∧ m2.payload = none ∧
      m2.sigs.length = m.sigs.length := by
  obtain ⟨m2, hdec, hpay, hver, hl2, -⟩ :=
    signmsg_wire_with _ _ m ext ss none b hrp hru (protWire_flat hfp hup hlp)
      (unprotWire_flat hfu huu hlu (by decide)) (fun sg hsg => (hslots sg hsg).wire) hn
      (by simp [blen]) hgs hok henc
  exact ⟨m2, hdec, hver vs hlen hm, hpay, hl2⟩

/-! ### non-vacuity

`exS7`, `exV7`, `exSV7`, `ex_det2` come from `Deep/Chain`; `exF_mpP`, `exF_mpU`, `exS7_go` from
`Deep/WireClosure`. -/

/-- protected `{1: ES256}`, unprotected `{4: h'3131'}` (a kid); nothing retained from a decoder -/
def exHd : Hdrs := { p := [(lbl 1, .alg (-7))], u := [(lbl 4, .bytes [0x31, 0x31])] }

theorem exHd_mpP : marshalProtected exHd = .ok [0x43, 0xa1, 0x01, 0x26] := exF_mpP
theorem exHd_mpU : marshalUnprotected exHd = .ok [0xa1, 0x04, 0x42, 0x31, 0x31] := exF_mpU
theorem exHd_iv : ensureIV exHd.p exHd.u = true := by decide
theorem exHd_gate : ensureSigningAlgorithm exHd.rawP exHd.p (-7) none = .ok exHd.p := by rfl
theorem exHd_marshal : exHd.marshal
    = .ok ([0x43, 0xa1, 0x01, 0x26], [0xa1, 0x04, 0x42, 0x31, 0x31]) := by
  simp [Hdrs.marshal, exHd_iv, exHd_mpP, exHd_mpU, bind, Out.bind]

theorem exHd_flatSlot : FlatSlot { h := exHd } := by
  obtain ⟨h1, h2, h3, h4⟩ := exF_flat
  exact ⟨rfl, rfl, h1, h2, h3, h4, by simp [exHd, maxElems], by simp [exHd, maxElems]⟩

/-- a signed COSE_Sign1 as the parent of a countersignature -/
def exPar : Sign1Msg := { h := exHd, payload := some [1, 2, 3], sig := some [7] }

/-- a fresh countersignature with headers `exHd` -/
def exCs : SigV := { h := exHd }

theorem exCs_sign : (Countersignature.sign exCs exS7 (.sign1 exPar) none).out = .ok () ∧
    (Countersignature.sign exCs exS7 (.sign1 exPar) none).state
      = { h := exHd, sig := some [7] } := by
  have hs : exCs.sig = none := rfl
  have hh : exCs.h = exHd := rfl
  have hps : exPar.sig = some [7] := rfl
  have hph : exPar.h = exHd := rfl
  have hpp : exPar.payload = some [1, 2, 3] := rfl
  obtain ⟨t, ht⟩ : ∃ t, Countersignature.toBeSigned { h := exHd, sig := none } (.sign1 exPar) none
      = .ok t := by
    simp [Countersignature.toBeSigned, countersignToBeSigned, exHd_mpP, hps, hph, hpp, blen, ex_det2,
      bind, Out.bind]
  simp [Countersignature.sign, hs, hh, blen, exHd_gate, ht, exS7]

/-- non-vacuity: every hypothesis of `countersignature_wire_flat` holds for a fresh
    countersignature with headers `exHd` on a signed COSE_Sign1, with the matching pair
    `exS7`/`exV7`; the theorem yields the decoded, verified countersignature -/
example : ∃ b c2, Signature.marshal (Countersignature.sign exCs exS7 (.sign1 exPar) none).state
      = .ok b ∧ Signature.unmarshal b = .ok c2 ∧
    (Countersignature.verify c2 exV7 (.sign1 exPar) none).1 = .ok () ∧ c2.sig = some [7] := by
  have hb : Signature.marshal (Countersignature.sign exCs exS7 (.sign1 exPar) none).state
      = .ok (0x83 :: ([0x43, 0xa1, 0x01, 0x26] ++ ([0xa1, 0x04, 0x42, 0x31, 0x31] ++ encBstr [7]))) := by
    rw [exCs_sign.2]
    simp [Signature.marshal, exHd_marshal, blen, bind, Out.bind]
  obtain ⟨hrp, hru, h1, h2, h3, h4, h5, h6⟩ := exHd_flatSlot
  obtain ⟨c2, hdec, hver, hsig⟩ :=
    countersignature_wire_flat exCs exS7 exV7 (.sign1 exPar) none _ exSV7 hrp hru h1 h2 h3 h4 h5 h6
      exS7_go.1 exS7_go.2 exCs_sign.1 hb
  exact ⟨_, c2, hb, hdec, hver, by rw [hsig, exCs_sign.2]⟩

/-- a COSE_Sign with body headers `exHd` and two empty signer slots with headers `exHd` -/
def exSlotF : SigV := { h := exHd }
def exMsgF : SignMsg := { h := exHd, payload := some [1, 2, 3], sigs := [exSlotF, exSlotF] }

theorem exSlotF_sign :
    (Signature.sign exSlotF exS7 [0x43, 0xa1, 0x01, 0x26] (some [1, 2, 3]) none).out = .ok () ∧
    (Signature.sign exSlotF exS7 [0x43, 0xa1, 0x01, 0x26] (some [1, 2, 3]) none).state
      = { h := exHd, sig := some [7] } := by
  have hs : exSlotF.sig = none := rfl
  have hh : exSlotF.h = exHd := rfl
  obtain ⟨t, ht⟩ : ∃ t, Signature.toBeSigned { h := exHd, sig := none } [0x43, 0xa1, 0x01, 0x26]
      (some [1, 2, 3]) none = .ok t := by
    simp [Signature.toBeSigned, exHd_mpP, ex_det2, bind, Out.bind]
  simp [Signature.sign, hs, hh, blen, bodyProtOK, exHd_gate, ht, exS7]

theorem exMsgF_sign : (Sign.sign exMsgF none [exS7, exS7]).out = .ok () ∧
    (Sign.sign exMsgF none [exS7, exS7]).state =
      { h := exHd, payload := some [1, 2, 3],
        sigs := [{ h := exHd, sig := some [7] }, { h := exHd, sig := some [7] }] } := by
  have hp : exMsgF.payload = some [1, 2, 3] := rfl
  have hh : exMsgF.h = exHd := rfl
  have hsg : exMsgF.sigs = [exSlotF, exSlotF] := rfl
  simp [Sign.sign, hp, hh, hsg, exHd_mpP, signLoop, exSlotF_sign.1, exSlotF_sign.2]

theorem exMsgF_marshal : ∃ b, Sign.marshal (Sign.sign exMsgF none [exS7, exS7]).state = .ok b := by
  rw [exMsgF_sign.2]
  have hsm : Signature.marshal { h := exHd, sig := some [7] }
      = .ok (0x83 :: ([0x43, 0xa1, 0x01, 0x26] ++ ([0xa1, 0x04, 0x42, 0x31, 0x31] ++ encBstr [7]))) := by
    simp [Signature.marshal, exHd_marshal, blen, bind, Out.bind]
  simp [Sign.marshal, marshalSigs, exHd_marshal, hsm, bind, Out.bind]

/-- non-vacuity with two signer slots: every hypothesis of `signmsg_wire_flat` holds for
    `exMsgF` with the matching pairs `exS7`/`exV7`; the theorem yields the decoded message, which
    verifies and carries the payload and two signer entries -/
example : ∃ b m2, Sign.marshal (Sign.sign exMsgF none [exS7, exS7]).state = .ok b ∧
    Sign.unmarshal b = .ok m2 ∧ (Sign.verify m2 none [exV7, exV7]).1 = .ok () ∧
    m2.payload = some [1, 2, 3] ∧ m2.sigs.length = 2 := by
  obtain ⟨b, hb⟩ := exMsgF_marshal
  obtain ⟨-, -, h1, h2, h3, h4, -, -⟩ := exHd_flatSlot
  obtain ⟨m2, hdec, hver, hpay, hl2, -⟩ :=
    signmsg_wire_flat exMsgF none [exS7, exS7] [exV7, exV7] b rfl
      (by
        intro i h1 h2
        have : i = 0 ∨ i = 1 := by simp at h1; omega
        rcases this with rfl | rfl <;> exact exSV7)
      rfl rfl h1 h2 h3 h4 (by simp [exMsgF, exHd, maxElems]) (by simp [exMsgF, exHd, maxElems])
      (by
        intro sg hsg
        simp only [exMsgF, List.mem_cons, List.not_mem_nil, or_false, or_self] at hsg
        subst hsg
        exact exHd_flatSlot)
      (by simp [exMsgF, maxElems]) (by simp [exMsgF, blen])
      (by
        intro s hs
        simp only [List.mem_cons, List.not_mem_nil, or_false, or_self] at hs
        subst hs
        exact exS7_go)
      exMsgF_sign.1 hb
  exact ⟨b, m2, hb, hdec, hver, hpay, hl2⟩

/-! ### why `countersignature_wire_flat` needs `halg` -/

theorem exCsBig_sign : (Countersignature.sign {} exSbig (.sign1 exPar) none).out = .ok () ∧
    (Countersignature.sign {} exSbig (.sign1 exPar) none).state
      = { h := { p := [(lbl 1, .alg 18446744073709551616)] }, sig := some [7] } := by
  have hg : ensureSigningAlgorithm none [] 18446744073709551616 none
      = .ok [(lbl 1, .alg 18446744073709551616)] := by rfl
  have hps : exPar.sig = some [7] := rfl
  have hph : exPar.h = exHd := rfl
  have hpp : exPar.payload = some [1, 2, 3] := rfl
  obtain ⟨t, ht⟩ : ∃ t, Countersignature.toBeSigned
      { h := { p := [(lbl 1, .alg 18446744073709551616)] }, sig := none } (.sign1 exPar) none
        = .ok t := by
    simp [Countersignature.toBeSigned, countersignToBeSigned, exbig_mpP, exbig_det, exHd_mpP, hps,
      hph, hpp, blen, ex_det2, bind, Out.bind]
  simp [Countersignature.sign, blen, hg, ht, exSbig]

/-- `halg` (the signer's algorithm identifier lies in Go's `int64` range) cannot be dropped from
    `countersignature_wire_flat` either — a modelling artefact exactly as in
    `sign1_wire_flat_needs_halg`: the model's `Int` allows 2^64 (no Go `Algorithm` value does); its
    head wraps to `1b 00…00`, the decoder reads algorithm 0, and the gate refuses the verifier. -/
theorem countersignature_wire_flat_needs_halg :
    Matches exSbig exVbig ∧ (Countersignature.sign {} exSbig (.sign1 exPar) none).out = .ok () ∧
    ∃ b c2, Signature.marshal (Countersignature.sign {} exSbig (.sign1 exPar) none).state = .ok b ∧
      Signature.unmarshal b = .ok c2 ∧ algorithmOf c2.h.p = .found 0 ∧
      (Countersignature.verify c2 exVbig (.sign1 exPar) none).1 = .err .algMismatch := by
  refine ⟨exSVbig, exCsBig_sign.1, ?_⟩
  have hmU : marshalUnprotected { p := [(lbl 1, .alg 18446744073709551616)] } = .ok exU.bytes := by
    simp [marshalUnprotected, GoVal.modelledPairs, encodeBucket, exU_bytes]
  have hb : Signature.marshal (Countersignature.sign {} exSbig (.sign1 exPar) none).state =
      .ok (Wire.arr .imm [exPbig, exU, .bstr .imm [7]]).bytes := by
    rw [exCsBig_sign.2]
    have hiv : ensureIV [(lbl 1, .alg 18446744073709551616)] [] = true := by decide
    simp [Signature.marshal, Hdrs.marshal, exbig_mpP, hmU, hiv, blen, bind, Out.bind]
    decide
  have hdec := C07.wf_signature_accepted_full (p := exPbig) (u := exU) (hw := .imm) (c := [7])
    (by simp [Wire.wf, Wire.wfList, Wire.wfPairs, HW.fits, exPbig, exU])
    (by simp [Wire.inLimits, Wire.inLimitsList, Wire.inLimitsPairs, exPbig, exU, maxNested, maxElems])
    exbig_decP ex_decU (by decide) (by decide)
  refine ⟨_, _, hb, hdec, ?_, ?_⟩
  · simp [algorithmOf, lookupLabel, GoMap.lookup, lbl, GoVal.keyEq]
  · simp [Countersignature.verify, blen, ensureVerificationAlgorithm, algorithmOf,
      lookupLabel, GoMap.lookup, lbl, GoVal.keyEq, exVbig]

/-! ### why `signmsg_wire_flat` needs `hn` (at most 131072 signer slots) -/

/-- a COSE_Sign with `n` empty signer slots, body and slot headers `exHd` -/
def exMsgN (n : Nat) : SignMsg :=
  { h := exHd, payload := some [1, 2, 3], sigs := List.replicate n exSlotF }

/-- a signed slot -/
def exStF : SigV := { h := exHd, sig := some [7] }

/-- the wire form of a signed slot -/
def exUk : Wire := .map .imm [(.uint .imm 4, .bstr .imm [0x31, 0x31])]
def exX : Wire := .arr .imm [exP, exUk, .bstr .imm [7]]

theorem exStF_marshal : Signature.marshal exStF = .ok exX.bytes := by
  have : exX.bytes = 0x83 :: ([0x43, 0xa1, 0x01, 0x26] ++ ([0xa1, 0x04, 0x42, 0x31, 0x31] ++
      encBstr [7])) := by decide
  rw [this]
  simp [Signature.marshal, exStF, exHd_marshal, blen, bind, Out.bind]

theorem exX_wf : exX.wf = true := by
  simp [exX, exP, exUk, Wire.wf, Wire.wfList, Wire.wfPairs, HW.fits]

theorem signLoop_replicate (bprot : Bytes) (payload ext : Option Bytes) (sg st : SigV) (s : Signer)
    (hout : (Signature.sign sg s bprot payload ext).out = .ok ())
    (hstate : (Signature.sign sg s bprot payload ext).state = st) : ∀ n : Nat,
    (signLoop bprot payload ext (List.replicate n sg) (List.replicate n s)).1
        = List.replicate n st ∧
      (signLoop bprot payload ext (List.replicate n sg) (List.replicate n s)).2.1 = .ok ()
  | 0 => by simp [signLoop]
  | n + 1 => by
    obtain ⟨ih1, ih2⟩ := signLoop_replicate bprot payload ext sg st s hout hstate n
    simp only [List.replicate_succ, signLoop, hout, hstate]
    exact ⟨by rw [ih1], ih2⟩

theorem marshalSigs_replicate (st : SigV) (a : Bytes) (h : Signature.marshal st = .ok a) :
    ∀ n : Nat, marshalSigs (List.replicate n st) = .ok (List.replicate n a).flatten
  | 0 => rfl
  | n + 1 => by
    simp [List.replicate_succ, marshalSigs, h, marshalSigs_replicate st a h n, bind, Out.bind]

theorem bytesList_replicate (x : Wire) : ∀ n : Nat,
    Wire.bytesList (List.replicate n x) = (List.replicate n x.bytes).flatten
  | 0 => rfl
  | n + 1 => by simp [List.replicate_succ, Wire.bytesList, bytesList_replicate x n]

theorem wfList_replicate (x : Wire) (h : x.wf = true) : ∀ n : Nat,
    Wire.wfList (List.replicate n x) = true
  | 0 => rfl
  | n + 1 => by simp [List.replicate_succ, Wire.wfList, h, wfList_replicate x h n]

theorem exMsgN_sign (n : Nat) (hn : 0 < n) :
    (Sign.sign (exMsgN n) none (List.replicate n exS7)).out = .ok () ∧
    (Sign.sign (exMsgN n) none (List.replicate n exS7)).state =
      { h := exHd, payload := some [1, 2, 3], sigs := List.replicate n exStF } := by
  obtain ⟨h1, h2⟩ := signLoop_replicate [0x43, 0xa1, 0x01, 0x26] (some [1, 2, 3]) none exSlotF exStF
    exS7 exSlotF_sign.1 exSlotF_sign.2 n
  have hp : (exMsgN n).payload = some [1, 2, 3] := rfl
  have hh : (exMsgN n).h = exHd := rfl
  have hsg : (exMsgN n).sigs = List.replicate n exSlotF := rfl
  have hne : n ≠ 0 := by omega
  simp only [Sign.sign, hp, hh, hsg, exHd_mpP, h1, h2, List.isEmpty_replicate, List.length_replicate,
    Option.isNone_some, Bool.false_eq_true, if_false, ne_eq, not_true_eq_false, decide_eq_true_eq,
    hne, and_self]

/-- the bytes the encoder emits for `n` signed slots: tag 98, then the tree `signTree …` -/
theorem exMsgN_marshal (n : Nat) (hn : 0 < n) :
    Sign.marshal (Sign.sign (exMsgN n) none (List.replicate n exS7)).state =
      .ok (0xd8 :: 0x62 :: (signTree exP exUk
        (some [1, 2, 3]) (List.replicate n exX)).bytes) := by
  rw [(exMsgN_sign n hn).2, signTree_bytes, bytesList_replicate, List.length_replicate]
  have hne : n ≠ 0 := by omega
  have hU : exUk.bytes = [0xa1, 0x04, 0x42, 0x31, 0x31] := by decide
  simp [Sign.marshal, exHd_marshal, marshalSigs_replicate exStF _ exStF_marshal n, hne, exP_bytes, hU,
    bind, Out.bind]

/-- `hn` cannot be dropped from `signmsg_wire_flat`, and this is real library behaviour, not a
    model artefact: the encoder has no limit on the number of signatures, the decoder refuses
    arrays of more than 131072 elements (`MaxArrayElements`).  A COSE_Sign with 131073 signer
    slots satisfies every other hypothesis, is signed and encoded — and the emitted bytes are
    refused by `UnmarshalCBOR`. -/
theorem signmsg_wire_flat_needs_hn :
    (List.replicate (maxElems + 1) exS7).length = (List.replicate (maxElems + 1) exV7).length ∧
    (∀ i (h1 : i < (List.replicate (maxElems + 1) exS7).length)
        (h2 : i < (List.replicate (maxElems + 1) exV7).length),
      Matches ((List.replicate (maxElems + 1) exS7)[i]'h1)
        ((List.replicate (maxElems + 1) exV7)[i]'h2)) ∧
    (∀ sg ∈ (exMsgN (maxElems + 1)).sigs, FlatSlot sg) ∧
    (∀ s ∈ List.replicate (maxElems + 1) exS7, GoSigner s) ∧
    (Sign.sign (exMsgN (maxElems + 1)) none (List.replicate (maxElems + 1) exS7)).out = .ok () ∧
    ∃ b, Sign.marshal (Sign.sign (exMsgN (maxElems + 1)) none
        (List.replicate (maxElems + 1) exS7)).state = .ok b ∧
      ∀ m2, Sign.unmarshal b ≠ .ok m2 := by
  refine ⟨by rw [List.length_replicate, List.length_replicate], ?_, ?_, ?_, (exMsgN_sign _ (by omega)).1, _, exMsgN_marshal _ (by omega), ?_⟩
  · intro i h1 h2
    simp only [List.getElem_replicate]
    exact exSV7
  · intro sg hsg
    obtain rfl := List.eq_of_mem_replicate hsg
    exact exHd_flatSlot
  · intro s hs
    obtain rfl := List.eq_of_mem_replicate hs
    exact exS7_go
  · intro m2 hdec
    obtain ⟨hws, p, u, pl, sgs, hb, -, hwf, -, hlim, -⟩ := C05.sign_accept_envelope_full hdec
    have hwf0 : (signTree exP exUk
        (some [1, 2, 3]) (List.replicate (maxElems + 1) exX)).wf = true := by
      have hfit : (HW.shortest (maxElems + 1)).fits (maxElems + 1) = true :=
        C02.shortest_fits (by unfold maxElems; omega)
      have h4 : HW.fits .imm 4 = true := by decide
      have hP : exP.wf = true := by simp [exP, Wire.wf, HW.fits]
      have hU : exUk.wf = true := by simp [exUk, Wire.wf, Wire.wfPairs, HW.fits]
      have hpl := shortItem_wf_of_lt (some [1, 2, 3]) (by simp [blen])
      simp only [signTree, Wire.wf, Wire.wfList, List.length_replicate, List.length_cons,
        List.length_nil, Nat.zero_add, Nat.reduceAdd, h4, hP, hU, hpl, hfit,
        wfList_replicate exX exX_wf, Bool.and_self]
    have hbytes := (List.cons.inj (List.cons.inj hb).2).2
    have heq := Reencode.bytes_inj hwf0 hwf hbytes
    simp only [signTree, Wire.arr.injEq, List.cons.injEq, and_true] at heq
    obtain ⟨-, -, -, -, -, hsgs⟩ := heq
    simp only [Wire.inLimits, Wire.inLimitsList, Bool.and_eq_true, decide_eq_true_eq] at hlim
    obtain ⟨-, -, -, -, ⟨⟨-, hlen⟩, -⟩, -⟩ := hlim
    rw [← hsgs, List.length_replicate] at hlen
    omega

end C01
