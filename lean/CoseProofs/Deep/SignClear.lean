/-
  Deep/SignClear — two developments about the multi-signer structure COSE_Sign and the stand-alone
  COSE_Signature / COSE_Countersignature.  They share this file because both need all of
  `Deep/CsigClosures` below them and the same decoded example messages (`exSB`, `exSCB`, the last
  section); neither uses a lemma of the other.
  * namespaces `SignClear`, `SignClearC`, `C09`: the clear-raw fixpoint for a decoded message — body
    and every signer slot.  A signer entry sees its header layer go through a clear-raw cycle
    (`ClearRaw.LayerCycle`) and goes through one itself (`SigCycle`, `sigElem_cycle`); so does the
    signatures array (`sigList_cycle`) and the message (`sign_cycle`).  Which layers go through a
    cycle depends on the header values: `Clearing` names what the message-level argument uses of a
    way of discarding raw bytes, and it is instantiated for nested header values (`nestedClearing`,
    on `NestedClosures.layer_cycleN`) and for countersignature values cleared at every level
    (`SignClearC.csigClearing`, on `CsigClosures.layer_cycleC`).
  * namespace `C04` (with `Deep/AlgWire`): C04 across the wire for the slots of a decoded COSE_Sign
    and for a decoded stand-alone countersignature: the verifier is reached only if the algorithm
    encoded in the received protected bytes is the verifier's.  "Verifier `i` was invoked" is stated
    as `i < calls.length`: the model's call list is a plain `List Bytes`, and `C04.verifyLoop_call`
    shows that `verifyLoop` records one content per invoked verifier, in order, stopping at the
    first slot that does not verify.

  Hypotheses that remain, and why:
  * clear-raw: only the data-model predicates on the decoded maps, at the depth the parser met the
    values: protected buckets `NestedMap` (depth 1: a byte string parsed on its own); body /
    stand-alone signature unprotected `NestedMapAt 2` (`DMap 2`); slot unprotected `NestedMapAt 4`
    (`DMap 4`: message array ∋ signatures array ∋ slot array ∋ map item, cf.
    `NestedClosures.NestedSlot`, `C01.signmsg_wire_nested_needs_depth4`).  They exclude floats,
    simple values other than false/true/null/undefined, duplicate keys inside nested maps; `DMap`
    additionally asks the retained `RawProtected` of every countersignature to be shorter than
    2^64 bytes (true of every Go slice; see `Deep/CsigClosures`).  `UintOK`, sizes, validation,
    `ensureIV`, `modelledPairs`, non-empty signatures, `FlatLabel` are all derived from acceptance.
  * C04: none beyond "decoded" and "called".
  Expected clear-raw behaviour, outside these statements: re-encoding a protected bucket whose
  content was not canonical (the body of `exSB`, keys out of order) changes the protected content,
  hence every `ToBeSigned` computed over it; a non-shortest head alone (the slot of `exSB`) does
  not, `deterministicBinaryString` normalises it.
-/
import CoseProofs.Deep.CsigClosures
import CoseProofs.Deep.AlgWire
open CoseModel CoseSpec RoundTrip

/-! ## clear-raw for COSE_Sign / COSE_Signature -/

namespace SignClear
open WireClosure SignWireClosure NestedBuckets NestedClosures ClearRaw

/-! ### one signer entry -/

/-- the signer entry `s` was decoded from the item `x`, which the parser met at depth `d` (its
    unprotected map item at depth `d + 1`) -/
structure DecodedSig (d : Nat) (x : Wire) (s : SigV) : Prop where
  elem : C05.SigElem x s
  wf : x.wf = true
  lim : x.inLimits false d = true

theorem DecodedSig.layer {d : Nat} {x : Wire} {s : SigV} (D : DecodedSig d x s) :
    ∃ p u, DecodedLayer (d + 1) p u s.h := by
  obtain ⟨p, u, sg, rfl, hp, hu, hiv, -⟩ := D.elem
  exact ⟨p, u, .of_arr D.wf D.lim hp hu hiv⟩

/-- one clear-raw cycle of a signer entry, as the signatures array around it sees it
    (`ClearRaw.LayerCycle` one level up): `s₁` is emitted as the item `X`, well formed, within the
    limits at depth `d`, which the per-signer decoder reads back as `sc`; and `s₂` is emitted as
    the same bytes -/
structure SigCycle (d : Nat) (s₁ sc s₂ : SigV) (X : Wire) : Prop where
  enc : Signature.marshal s₁ = .ok X.bytes
  wf : X.wf = true
  lim : X.inLimits false d = true
  dec : C05.SigElem X sc
  enc' : Signature.marshal s₂ = .ok X.bytes

/-- a decoded signer entry whose header layer goes through a clear-raw cycle goes through one
    itself; the signature is re-emitted with the shortest head -/
theorem sigElem_cycle {d : Nat} {x : Wire} {s : SigV} (D : DecodedSig d x s) {h₁ hc h₂ : Hdrs}
    {P U : Wire} (L : LayerCycle (d + 1) h₁ hc h₂ P U) :
    SigCycle d { s with h := h₁ } { s with h := hc } { s with h := h₂ }
      (.arr .imm [P, U, C09.shortItem s.sig]) := by
  obtain ⟨p, u, hw, c, rfl, hc', hs, -⟩ := C09.sigElem_shape D.elem
  have hz : blen s.sig ≠ 0 := by rw [hs]; exact C09.blen_some_ne hc'
  have hwf := D.wf
  have hlim := D.lim
  simp only [Wire.wf, Wire.wfList, Bool.and_eq_true] at hwf
  simp only [Wire.inLimits, Wire.inLimitsList, Bool.and_eq_true, decide_eq_true_eq] at hlim
  obtain ⟨hp, hu, hiv, hrp, hru⟩ := C09.decHeaders_ok L.dec
  have hbytes : (Wire.arr .imm [P, U, C09.shortItem s.sig]).bytes
      = 0x83 :: (P.bytes ++ (U.bytes ++ encBstr (s.sig.getD []))) := by
    rw [Accept.arr3_bytes, hs]; rfl
  have hsgfit : (HW.shortest c.length).fits c.length = true :=
    C08.shortest_fits _ (HW.fits_lt hwf.2.2.2.1)
  refine ⟨?_, ?_, ?_, ⟨P, U, _, rfl, hp, hu, hiv, hrp, hru, C09.shortItem_dec _, hz⟩, ?_⟩
  · rw [hbytes]
    exact signature_marshal_of_hdrs (s := { s with h := h₁ }) hz L.enc
  · have h3 : HW.fits .imm 3 = true := by decide
    simp [hs, C09.shortItem, Wire.wf, Wire.wfList, h3, L.wfP, L.wfU, hsgfit]
  · simp [Wire.inLimits, Wire.inLimitsList, hlim.1.1, maxElems, L.limU, L.limP,
      C09.shortItem_inLimits]
  · rw [hbytes]
    exact signature_marshal_of_hdrs (s := { s with h := h₂ }) hz L.enc'

theorem signature_unmarshal_of_sigElem {x : Wire} {s : SigV} (hel : C05.SigElem x s)
    (hwf : x.wf = true) (hlim : x.inLimits false 0 = true) :
    Signature.unmarshal x.bytes = .ok s := by
  obtain ⟨p, u, hw, c, rfl, hc, hs, hp, hu, hiv, hrp, hru⟩ := C09.sigElem_shape hel
  rw [C07.wf_signature_accepted_full hwf hlim hp hu hiv hc]
  obtain ⟨⟨rp, pm, ru, um⟩, sig⟩ := s
  simp only at hs hrp hru
  subst hs hrp hru
  rfl

/-- a stand-alone decoded COSE_Signature / COSE_Countersignature is a signer entry met at depth 0 -/
theorem signature_decoded {b : Bytes} {s : SigV} (hd : Signature.unmarshal b = .ok s) :
    ∃ x, DecodedSig 0 x s := by
  obtain ⟨p, u, sg, -, -, hwf, hlim, -, hsg, hz, hp, hu, hiv, hrp, hru⟩ :=
    C05.signature_accept_envelope_full b s hd
  exact ⟨_, ⟨p, u, sg, rfl, hp, hu, hiv, hrp, hru, hsg, hz⟩, hwf, hlim⟩

/-- … and its clear-raw cycle, read at top level: decodable and fixpoint -/
theorem signature_cycle {s₁ sc s₂ : SigV} {X : Wire} (C : SigCycle 0 s₁ sc s₂ X) :
    ∃ b', Signature.marshal s₁ = .ok b' ∧ Signature.unmarshal b' = .ok sc ∧
      Signature.marshal s₂ = .ok b' :=
  ⟨_, C.enc, signature_unmarshal_of_sigElem C.dec C.wf C.lim, C.enc'⟩

/-! ### all signer entries; the message -/

theorem decSigList_decoded {d : Nat} : ∀ (xs : List Wire) (l : List SigV), decSigList xs = .ok l →
    Wire.wfList xs = true → Wire.inLimitsList false d xs = true → ∀ s ∈ l, ∃ x, DecodedSig d x s
  | [], l, h, _, _, s, hs => by
    rw [C05.decSigList_nil] at h
    cases h
    cases hs
  | x :: xs, l, h, hwf, hlim, s, hs => by
    obtain ⟨s0, r, hel, hr, rfl⟩ := C05.decSigList_cons_elem h
    simp only [Wire.wfList, Bool.and_eq_true] at hwf
    simp only [Wire.inLimitsList, Bool.and_eq_true] at hlim
    rcases List.mem_cons.mp hs with rfl | hs
    · exact ⟨x, hel, hwf.1, hlim.1⟩
    · exact decSigList_decoded xs r hr hwf.2 hlim.2 s hs

/-- entries that each go through a clear-raw cycle, as a signatures array -/
theorem sigList_cycle {d : Nat} {f₁ fc f₂ : SigV → SigV} {X : SigV → Wire} : ∀ (l : List SigV),
    (∀ s ∈ l, SigCycle d (f₁ s) (fc s) (f₂ s) (X s)) →
    marshalSigs (l.map f₁) = .ok (Wire.bytesList (l.map X)) ∧
      Wire.wfList (l.map X) = true ∧ Wire.inLimitsList false d (l.map X) = true ∧
      decSigList (l.map X) = .ok (l.map fc) ∧
      marshalSigs (l.map f₂) = .ok (Wire.bytesList (l.map X))
  | [], _ => ⟨rfl, rfl, rfl, C05.decSigList_nil, rfl⟩
  | s :: r, h => by
    have a := h s (List.mem_cons_self ..)
    obtain ⟨b1, b2, b3, b4, b5⟩ := sigList_cycle r (fun t ht => h t (List.mem_cons_of_mem _ ht))
    refine ⟨?_, ?_, ?_, C09.decSigList_cons_of a.dec b4, ?_⟩
    · simp [marshalSigs, a.enc, b1, Wire.bytesList, bind, Out.bind]
    · simp [Wire.wfList, a.wf, b2]
    · simp [Wire.inLimitsList, a.lim, b3]
    · simp [marshalSigs, a.enc', b5, Wire.bytesList, bind, Out.bind]

/-- body layer and signer entries of a decoded COSE_Sign, with the depths the parser met them at -/
theorem sign_decoded {b : Bytes} {m : SignMsg} (hd : Sign.unmarshal b = .ok m) :
    (∃ p u, DecodedLayer 1 p u m.h) ∧ ∀ s ∈ m.sigs, ∃ x, DecodedSig 2 x s := by
  obtain ⟨hws, p, u, pl, sgs, -, -, hwf, -, hlim, -, hh, -, hs⟩ := C05.sign_accept_envelope_full hd
  obtain ⟨hp, hu, hiv, -, -⟩ := C09.decHeaders_ok hh
  refine ⟨⟨p, u, .of_arr hwf hlim hp hu hiv⟩, ?_⟩
  simp only [Wire.wf, Wire.wfList, Bool.and_eq_true] at hwf
  simp only [Wire.inLimits, Wire.inLimitsList, Bool.and_eq_true] at hlim
  obtain ⟨-, -, -, -, ⟨-, hwfSigs⟩, -⟩ := hwf
  obtain ⟨-, -, -, -, ⟨-, hlimSigs⟩, -⟩ := hlim
  exact decSigList_decoded sgs m.sigs hs hwfSigs hlimSigs

/-- a decoded COSE_Sign whose body layer and whose signer entries each go through a clear-raw
    cycle is emitted as bytes `b'` that decode to the message made of the decoded layer and
    entries, and the message made of those, cleared again, is emitted as `b'` again -/
theorem sign_cycle {b : Bytes} {m : SignMsg} (hd : Sign.unmarshal b = .ok m) {h₁ hc h₂ : Hdrs}
    {P U : Wire} (L : LayerCycle 1 h₁ hc h₂ P U) {f₁ fc f₂ : SigV → SigV} {X : SigV → Wire}
    (S : ∀ s ∈ m.sigs, SigCycle 2 (f₁ s) (fc s) (f₂ s) (X s)) :
    ∃ b', Sign.marshal { h := h₁, payload := m.payload, sigs := m.sigs.map f₁ } = .ok b' ∧
      Sign.unmarshal b' = .ok { h := hc, payload := m.payload, sigs := m.sigs.map fc } ∧
      Sign.marshal { h := h₂, payload := m.payload, sigs := m.sigs.map f₂ } = .ok b' := by
  obtain ⟨hws, p, u, pl, sgs, -, -, hwf, -, hlim, hpl, -, hne, hs⟩ :=
    C05.sign_accept_envelope_full hd
  obtain ⟨hlen, -⟩ := C05.decSigList_ok sgs m.sigs hs
  simp only [Wire.wf, Wire.wfList, Bool.and_eq_true] at hwf
  obtain ⟨-, -, -, hplwf, ⟨hsfit, -⟩, -⟩ := hwf
  simp only [Wire.inLimits, Wire.inLimitsList, Bool.and_eq_true, decide_eq_true_eq] at hlim
  obtain ⟨-, -, -, -, ⟨⟨-, hslen⟩, -⟩, -⟩ := hlim
  obtain ⟨b1, b2, b3, b4, b5⟩ := sigList_cycle m.sigs S
  have hmne : m.sigs ≠ [] := by
    intro hc
    rw [hc] at hlen
    exact hne (List.eq_nil_of_length_eq_zero hlen.symm)
  have hxn : m.sigs.map X ≠ [] := fun hc => hmne (List.map_eq_nil_iff.mp hc)
  have hwfT : (signTree P U m.payload (m.sigs.map X)).wf = true := by
    have h4 : HW.fits .imm 4 = true := by decide
    have hnf : (HW.shortest m.sigs.length).fits m.sigs.length = true :=
      C08.shortest_fits _ (by rw [hlen]; exact HW.fits_lt hsfit)
    simp [signTree, Wire.wf, Wire.wfList, h4, L.wfP, L.wfU, C09.shortItem_wf hplwf hpl, hnf, b2]
  have hlimT : (signTree P U m.payload (m.sigs.map X)).inLimits false 0 = true := by
    have hxl : (m.sigs.map X).length ≤ maxElems := by
      rw [List.length_map, hlen]; exact hslen
    simp [signTree, Wire.inLimits, Wire.inLimitsList, maxNested, L.limU, L.limP,
      C09.shortItem_inLimits, b3]
    constructor
    · unfold maxElems; omega
    · simpa using hxl
  have hpt := parseTop_complete hwfT hlimT
  have hbytes : ∀ (l' : List SigV), l'.length = m.sigs.length →
      0xd8 :: 0x62 :: 0x84 :: (P.bytes ++ (U.bytes ++
        (optBytesEnc m.payload ++ (encHead 4 l'.length ++ Wire.bytesList (m.sigs.map X)))))
      = 0xd8 :: 0x62 :: (signTree P U m.payload (m.sigs.map X)).bytes := by
    intro l' hl'
    rw [signTree_bytes, List.length_map, hl']
  rw [signTree_bytes] at hpt
  refine ⟨0xd8 :: 0x62 :: (signTree P U m.payload (m.sigs.map X)).bytes, ?_, ?_, ?_⟩
  · rw [← hbytes (m.sigs.map f₁) (List.length_map _)]
    exact sign_marshal_of_hdrs (m := { h := h₁, payload := m.payload, sigs := m.sigs.map f₁ })
      (fun hc => hmne (List.map_eq_nil_iff.mp hc)) L.enc b1
  · rw [signTree_bytes]
    exact C09.sign_unmarshal_of hpt (C09.shortItem_dec m.payload) hxn b4 L.dec
  · rw [← hbytes (m.sigs.map f₂) (List.length_map _)]
    exact sign_marshal_of_hdrs (m := { h := h₂, payload := m.payload, sigs := m.sigs.map f₂ })
      (fun hc => hmne (List.map_eq_nil_iff.mp hc)) L.enc' b5

/-! ### a clearing of header layers, applied to every layer of a message -/

/-- content of the protected byte string the encoder emits for a typed protected map -/
def pContent : GoMap → Bytes
  | [] => []
  | e :: es => (mapWireN (e :: es)).bytes

/-- the protected byte-string item the encoder emits -/
def pItem (p : GoMap) : Wire := .bstr (HW.shortest (pContent p).length) (pContent p)

theorem pItem_bytes (p : GoMap) : (pItem p).bytes = encBstr (pContent p) := rfl

theorem pContent_eq {p : GoMap} {content : Bytes}
    (h : (p = [] → content = []) ∧ (p ≠ [] → content = (mapWireN p).bytes)) :
    content = pContent p := by
  cases p with
  | nil => exact h.1 rfl
  | cons e es => exact h.2 (List.cons_ne_nil _ _)

def mapSig (f : Hdrs → Hdrs) (s : SigV) : SigV := { h := f s.h, sig := s.sig }

def mapSign (f : Hdrs → Hdrs) (m : SignMsg) : SignMsg :=
  { h := f m.h, payload := m.payload, sigs := m.sigs.map (mapSig f) }

/-- `clr` discards retained raw bytes from a header layer.  For a decoded layer `h` whose
    unprotected values satisfy the data-model predicate `Q` at the depth the parser met them,
    `clr h` goes through a clear-raw cycle: it is emitted as `pItem h.p`, `U h.u`, the decoder reads
    these as `dec h`, and `clr (dec h)` is emitted as the same items; `R` is what the cycle keeps
    of the layer.  Instances: `nestedClearing`, `SignClearC.csigClearing`. -/
structure Clearing (Q : Nat → GoMap → Prop) (clr dec : Hdrs → Hdrs) (U : GoMap → Wire)
    (R : Nat → Hdrs → Hdrs → Prop) : Prop where
  cycle : ∀ {d : Nat} {p u : Wire} {h : Hdrs}, DecodedLayer d p u h → NestedMap h.p →
    Q (d + 1) h.u → LayerCycle d (clr h) (dec h) (clr (dec h)) (pItem h.p) (U h.u)
  keeps : ∀ {d : Nat} {p u : Wire} {h : Hdrs}, DecodedLayer d p u h → NestedMap h.p →
    Q (d + 1) h.u → R (d + 1) h (dec h)

section
variable {Q : Nat → GoMap → Prop} {clr dec : Hdrs → Hdrs} {U : GoMap → Wire}
  {R : Nat → Hdrs → Hdrs → Prop}

/-- one decoded signer entry met at depth `d` (the values of its unprotected map at depth
    `d + 2`) -/
theorem Clearing.sig (C : Clearing Q clr dec U R) {d : Nat} {x : Wire} {s : SigV}
    (D : DecodedSig d x s) (hfp : NestedMap s.h.p) (hfu : Q (d + 2) s.h.u) :
    SigCycle d (mapSig clr s) (mapSig dec s) (mapSig clr (mapSig dec s))
      (.arr .imm [pItem s.h.p, U s.h.u, C09.shortItem s.sig]) := by
  obtain ⟨p, u, DL⟩ := D.layer
  exact sigElem_cycle D (C.cycle DL hfp hfu)

/-- a decoded COSE_Sign whose header values (body and every signer slot) are in the data model,
    cleared, is emitted as bytes `b'` which decode to the explicit message `mapSign dec m`; and
    that message, cleared, is emitted as the same bytes again -/
theorem Clearing.sign_core (C : Clearing Q clr dec U R) {b : Bytes} {m : SignMsg}
    (hd : Sign.unmarshal b = .ok m) (hfp : NestedMap m.h.p) (hfu : Q 2 m.h.u)
    (hslots : ∀ s ∈ m.sigs, NestedMap s.h.p ∧ Q 4 s.h.u) :
    ∃ b', Sign.marshal (mapSign clr m) = .ok b' ∧ Sign.unmarshal b' = .ok (mapSign dec m) ∧
      Sign.marshal (mapSign clr (mapSign dec m)) = .ok b' := by
  obtain ⟨⟨p, u, D⟩, hsl⟩ := sign_decoded hd
  obtain ⟨b', h1, h2, h3⟩ := sign_cycle hd (C.cycle D hfp hfu)
    (f₁ := mapSig clr) (fc := mapSig dec) (f₂ := fun s => mapSig clr (mapSig dec s))
    (fun s hs => by
      obtain ⟨x, Ds⟩ := hsl s hs
      exact C.sig Ds (hslots s hs).1 (hslots s hs).2)
  refine ⟨b', h1, h2, ?_⟩
  rw [← h3, mapSign, mapSign, List.map_map]
  rfl

theorem Clearing.sign_decodable (C : Clearing Q clr dec U R) {b : Bytes} {m : SignMsg}
    (hd : Sign.unmarshal b = .ok m) (hfp : NestedMap m.h.p) (hfu : Q 2 m.h.u)
    (hslots : ∀ s ∈ m.sigs, NestedMap s.h.p ∧ Q 4 s.h.u) :
    ∃ b', Sign.marshal (mapSign clr m) = .ok b' ∧
      ∃ m', Sign.unmarshal b' = .ok m' ∧ m'.payload = m.payload ∧ R 2 m.h m'.h ∧
        m'.sigs.length = m.sigs.length ∧
        ∀ i (h1 : i < m.sigs.length) (h2 : i < m'.sigs.length),
          m'.sigs[i].sig = m.sigs[i].sig ∧ R 4 m.sigs[i].h m'.sigs[i].h := by
  obtain ⟨b', h1, h2, -⟩ := C.sign_core hd hfp hfu hslots
  obtain ⟨⟨p, u, D⟩, hsl⟩ := sign_decoded hd
  refine ⟨b', h1, _, h2, rfl, C.keeps D hfp hfu, List.length_map _, ?_⟩
  intro i hi hi'
  obtain ⟨x, Ds⟩ := hsl _ (List.getElem_mem hi)
  obtain ⟨pi, ui, Di⟩ := Ds.layer
  obtain ⟨hfpi, hfui⟩ := hslots _ (List.getElem_mem hi)
  simp only [mapSign, List.getElem_map]
  exact ⟨rfl, C.keeps Di hfpi hfui⟩

theorem Clearing.signature (C : Clearing Q clr dec U R) {b : Bytes} {s : SigV}
    (hd : Signature.unmarshal b = .ok s) (hfp : NestedMap s.h.p) (hfu : Q 2 s.h.u) :
    ∃ b', Signature.marshal (mapSig clr s) = .ok b' ∧
      ∃ s', Signature.unmarshal b' = .ok s' ∧ s'.sig = s.sig ∧ R 2 s.h s'.h ∧
        Signature.marshal (mapSig clr s') = .ok b' := by
  obtain ⟨x, D⟩ := signature_decoded hd
  obtain ⟨p, u, DL⟩ := D.layer
  obtain ⟨b', h1, h2, h3⟩ := signature_cycle (C.sig D hfp hfu)
  exact ⟨b', h1, _, h2, rfl, C.keeps DL hfp hfu, h3⟩

end

/-! ### nested header values -/

/-- `RawProtected = nil`, `RawUnprotected = nil` of one header layer -/
def clearH (h : Hdrs) : Hdrs := { rawP := none, p := h.p, rawU := none, u := h.u }

def clearRawSig (s : SigV) : SigV := { h := clearH s.h, sig := s.sig }

def clearRawSign (m : SignMsg) : SignMsg :=
  { h := clearH m.h, payload := m.payload, sigs := m.sigs.map clearRawSig }

def canonH (h : Hdrs) : Hdrs := { p := canonP h.p, u := canonU h.u }

/-- the canonical header layer as decoded from the re-encoding: raw buckets = the emitted items -/
def canonHD (h : Hdrs) : Hdrs :=
  { rawP := some (pItem h.p).bytes, p := canonP h.p, rawU := some (mapWireN h.u).bytes,
    u := canonU h.u }

theorem clearH_canonHD (h : Hdrs) : clearH (canonHD h) = canonH h := rfl

def canonS (s : SigV) : SigV := { h := canonH s.h, sig := s.sig }
def canonSD (s : SigV) : SigV := { h := canonHD s.h, sig := s.sig }

theorem clearRawSig_canonSD (s : SigV) : clearRawSig (canonSD s) = canonS s := rfl

/-- what one clear-raw cycle makes of a decoded header layer `h` (`h'` = the layer decoded from
    the re-encoding; unprotected values met at depth `d`): the same parameters in both buckets —
    entries in the encoder's order, maps nested inside values sorted (`decEntryN` / `normEntryN`)
    — every lookup agrees up to that normalisation, `Algorithm()` agrees, and the new maps are
    again in the data model -/
def LayerCanon (d : Nat) (h h' : Hdrs) : Prop :=
  h'.p = (sortEntries h.p).map decEntryN ∧ h'.u = (sortEntries h.u).map normEntryN ∧
  h'.p.Perm (h.p.map decEntryN) ∧ h'.u.Perm (h.u.map normEntryN) ∧
  (∀ e ∈ h.p, ∀ l, normalizeLabel l = normalizeLabel e.1 →
    lookupLabel h.p l = some e.2 ∧ lookupLabel h'.p l = some (decEntryN e).2) ∧
  (∀ e ∈ h.u, ∀ l, normalizeLabel l = normalizeLabel e.1 →
    lookupLabel h.u l = some e.2 ∧ lookupLabel h'.u l = some (normValN e.2)) ∧
  algorithmOf h'.p = algorithmOf h.p ∧ NestedMap h'.p ∧ NestedMapAt d h'.u

theorem nestedClearing : Clearing NestedMapAt clearH canonHD mapWireN LayerCanon where
  cycle D hfp hfu := by
    obtain ⟨content, hc, L⟩ := layer_cycleN D hfp hfu
    cases pContent_eq hc
    exact L
  keeps D hfp hfu := ⟨rfl, rfl, layer_canonN D hfp hfu⟩

end SignClear

namespace C09
open WireClosure SignWireClosure NestedBuckets NestedClosures ClearRaw SignClear

/-- `clear_raw_decodable_nested` for COSE_Sign.  A COSE_Sign the library decoded,
    whose decoded header values are in the nested data model — body protected and every slot's
    protected at depth 1 (`NestedMap`), body unprotected at depth 2, every slot's unprotected at
    depth 4 (where the parser met them) — is re-encodable after the application discards the
    retained raw header bytes of the body and of every signer slot (`clearRawSign`), and what is
    emitted is decodable again: same payload, as many signer entries, entry by entry the same
    signature, and in the body and in every slot the same header parameters in canonical form
    (`LayerCanon`). -/
theorem sign_clear_raw_decodable_nested (b : Bytes) (m : SignMsg) (hd : Sign.unmarshal b = .ok m)
    (hfp : NestedMap m.h.p) (hfu : NestedMapAt 2 m.h.u)
    (hslots : ∀ s ∈ m.sigs, NestedMap s.h.p ∧ NestedMapAt 4 s.h.u) :
    ∃ b', Sign.marshal (clearRawSign m) = .ok b' ∧
      ∃ m', Sign.unmarshal b' = .ok m' ∧ m'.payload = m.payload ∧ LayerCanon 2 m.h m'.h ∧
        m'.sigs.length = m.sigs.length ∧
        ∀ i (h1 : i < m.sigs.length) (h2 : i < m'.sigs.length),
          m'.sigs[i].sig = m.sigs[i].sig ∧ LayerCanon 4 m.sigs[i].h m'.sigs[i].h :=
  nestedClearing.sign_decodable hd hfp hfu hslots

/-- `clear_raw_fixpoint_nested` for COSE_Sign.  With `b'`, `m'` as above (any
    result of encoding the cleared message and decoding that): discarding the raw bytes of `m'`
    (body and every slot) and encoding again gives `b'` again — the canonical form is reached
    after one cycle — and decoding it gives `m'` again (exactly, raw fields included). -/
theorem sign_clear_raw_fixpoint_nested (b : Bytes) (m : SignMsg) (hd : Sign.unmarshal b = .ok m)
    (hfp : NestedMap m.h.p) (hfu : NestedMapAt 2 m.h.u)
    (hslots : ∀ s ∈ m.sigs, NestedMap s.h.p ∧ NestedMapAt 4 s.h.u)
    (b' : Bytes) (m' : SignMsg) (he : Sign.marshal (clearRawSign m) = .ok b')
    (hd' : Sign.unmarshal b' = .ok m') :
    ∃ b'', Sign.marshal (clearRawSign m') = .ok b'' ∧ b'' = b' ∧ Sign.unmarshal b'' = .ok m' := by
  obtain ⟨b₁, h1, h2, h3⟩ := nestedClearing.sign_core hd hfp hfu hslots
  exact fixpoint_of_core (e := Sign.marshal) (c := clearRawSign) h1 h2 h3 he hd'

/-- one decode / discard-raw (body and slots) / encode cycle of a COSE_Sign -/
def signClearCycle (b : Bytes) : Out Bytes := do
  let m ← Sign.unmarshal b
  Sign.marshal (clearRawSign m)

/-- the cycle is idempotent on inputs whose decoded header values are in the nested data
    model -/
theorem signClearCycle_idempotent_nested (b b1 : Bytes)
    (hnest : ∀ m, Sign.unmarshal b = .ok m → NestedMap m.h.p ∧ NestedMapAt 2 m.h.u ∧
      ∀ s ∈ m.sigs, NestedMap s.h.p ∧ NestedMapAt 4 s.h.u)
    (h : signClearCycle b = .ok b1) : signClearCycle b1 = .ok b1 := by
  refine idempotent_of_core (e := Sign.marshal) (c := clearRawSign) (fun m hd => ?_) h
  obtain ⟨b₁, h1, h2, h3⟩ :=
    nestedClearing.sign_core hd (hnest m hd).1 (hnest m hd).2.1 (hnest m hd).2.2
  exact ⟨b₁, _, h1, h2, h3⟩

/-- clear-raw for a stand-alone decoded COSE_Signature / COSE_Countersignature
    (`Signature.unmarshal`; a top-level 3-array: protected values at depth 1, unprotected values
    at depth 2), decodable and fixpoint: with the retained raw header bytes discarded it is
    re-encodable, the result decodes to `s'` with the same signature and the header parameters in
    canonical form, and `s'`, raw bytes discarded, encodes to the same bytes again. -/
theorem signature_clear_raw_fixpoint_nested (b : Bytes) (s : SigV)
    (hd : Signature.unmarshal b = .ok s) (hfp : NestedMap s.h.p) (hfu : NestedMapAt 2 s.h.u) :
    ∃ b', Signature.marshal (clearRawSig s) = .ok b' ∧
      ∃ s', Signature.unmarshal b' = .ok s' ∧ s'.sig = s.sig ∧ LayerCanon 2 s.h s'.h ∧
        Signature.marshal (clearRawSig s') = .ok b' :=
  nestedClearing.signature hd hfp hfu

end C09

/-! ### countersignature values in the unprotected buckets -/

namespace SignClearC
open CsigRT WireClosure SignWireClosure NestedBuckets NestedClosures ClearRaw CsigClosures SignClear

/-- `RawProtected = nil`, `RawUnprotected = nil` of one header layer and, recursively, of every
    countersignature in its unprotected bucket (`CsigClosures.clearPairs`) -/
def clearHD (h : Hdrs) : Hdrs := { rawP := none, p := h.p, rawU := none, u := clearPairs h.u }

def clearRawSigDeep (s : SigV) : SigV := { h := clearHD s.h, sig := s.sig }

/-- a COSE_Sign with all retained raw header bytes discarded: body, every signer slot, and every
    countersignature inside any of their unprotected buckets, at every level -/
def clearRawSignDeep (m : SignMsg) : SignMsg :=
  { h := clearHD m.h, payload := m.payload, sigs := m.sigs.map clearRawSigDeep }

/-- the header layer as decoded from the re-encoding -/
def canonHDC (h : Hdrs) : Hdrs :=
  { rawP := some (pItem h.p).bytes, p := canonP h.p, rawU := some (umapWire h.u).bytes,
    u := canonUC h.u }

/-- what one deep clear-raw cycle makes of a decoded header layer `h` (the form of
    `SignClear.LayerCanon`; unprotected values in the decoder's normal form `cnorm`:
    countersignatures decoded again from their canonical bytes) -/
def LayerCanonC (d : Nat) (h h' : Hdrs) : Prop :=
  h'.p = (sortEntries h.p).map decEntryN ∧ h'.u = (sortEntries h.u).map cnormEntry ∧
  h'.p.Perm (h.p.map decEntryN) ∧ h'.u.Perm (h.u.map cnormEntry) ∧
  (∀ e ∈ h.p, ∀ l, normalizeLabel l = normalizeLabel e.1 →
    lookupLabel h.p l = some e.2 ∧ lookupLabel h'.p l = some (decEntryN e).2) ∧
  (∀ e ∈ h.u, ∀ l, normalizeLabel l = normalizeLabel e.1 →
    lookupLabel h.u l = some e.2 ∧ lookupLabel h'.u l = some (cnorm e.2)) ∧
  algorithmOf h'.p = algorithmOf h.p ∧ NestedMap h'.p ∧ DMap d h'.u

theorem csigClearing : Clearing DMap clearHD canonHDC umapWire LayerCanonC where
  cycle D hfp hfu := by
    obtain ⟨content, hc, -, -, L⟩ := layer_cycleC D hfp hfu
    cases pContent_eq hc
    exact L
  keeps D hfp hfu := ⟨rfl, rfl, layer_canonC D hfp hfu⟩

end SignClearC

namespace C09
open CsigRT WireClosure SignWireClosure NestedBuckets NestedClosures ClearRaw CsigClosures
open SignClear SignClearC

/-- `sign_clear_raw_decodable_nested` with countersignature values (that is, for a
    decoded COSE_Sign whose unprotected buckets — of the body and of every signer slot —
    may hold, under labels 7 / 11, decoded countersignature values, each retaining its own raw
    buckets, to any depth).  Data model: `NestedMap` for every protected map, `DMap 2` for the
    body's unprotected map, `DMap 4` for a slot's.  After the application discards the retained
    raw bytes at every level (`clearRawSignDeep`) the message is encoded, the bytes are decoded
    again: same payload, as many slots, slot by slot the same signature, and in the body and in
    every slot the header parameters in canonical form (`LayerCanonC`: every countersignature
    decoded again from its canonical bytes). -/
theorem sign_clear_raw_decodable_csig (b : Bytes) (m : SignMsg) (hd : Sign.unmarshal b = .ok m)
    (hfp : NestedMap m.h.p) (hfu : DMap 2 m.h.u)
    (hslots : ∀ s ∈ m.sigs, NestedMap s.h.p ∧ DMap 4 s.h.u) :
    ∃ b', Sign.marshal (clearRawSignDeep m) = .ok b' ∧
      ∃ m', Sign.unmarshal b' = .ok m' ∧ m'.payload = m.payload ∧ LayerCanonC 2 m.h m'.h ∧
        m'.sigs.length = m.sigs.length ∧
        ∀ i (h1 : i < m.sigs.length) (h2 : i < m'.sigs.length),
          m'.sigs[i].sig = m.sigs[i].sig ∧ LayerCanonC 4 m.sigs[i].h m'.sigs[i].h :=
  csigClearing.sign_decodable hd hfp hfu hslots

/-- `sign_clear_raw_fixpoint_nested` with countersignature values: with `b'`, `m'` as above,
    discarding all raw bytes of `m'` — body, slots, and those the decoder retained inside every
    countersignature — and encoding again gives `b'` again, and decoding it gives `m'` again:
    one cycle reaches the fixpoint at every level of nesting. -/
theorem sign_clear_raw_fixpoint_csig (b : Bytes) (m : SignMsg) (hd : Sign.unmarshal b = .ok m)
    (hfp : NestedMap m.h.p) (hfu : DMap 2 m.h.u)
    (hslots : ∀ s ∈ m.sigs, NestedMap s.h.p ∧ DMap 4 s.h.u)
    (b' : Bytes) (m' : SignMsg) (he : Sign.marshal (clearRawSignDeep m) = .ok b')
    (hd' : Sign.unmarshal b' = .ok m') :
    ∃ b'', Sign.marshal (clearRawSignDeep m') = .ok b'' ∧ b'' = b' ∧
      Sign.unmarshal b'' = .ok m' := by
  obtain ⟨b₁, h1, h2, h3⟩ := csigClearing.sign_core hd hfp hfu hslots
  exact fixpoint_of_core (e := Sign.marshal) (c := clearRawSignDeep) h1 h2 h3 he hd'

/-- one decode / discard-all-raw / encode cycle of a COSE_Sign -/
def signClearCycleDeep (b : Bytes) : Out Bytes := do
  let m ← Sign.unmarshal b
  Sign.marshal (clearRawSignDeep m)

/-- the deep cycle is idempotent on inputs whose decoded header values are in the data
    model -/
theorem signClearCycleDeep_idempotent_csig (b b1 : Bytes)
    (hdm : ∀ m, Sign.unmarshal b = .ok m → NestedMap m.h.p ∧ DMap 2 m.h.u ∧
      ∀ s ∈ m.sigs, NestedMap s.h.p ∧ DMap 4 s.h.u)
    (h : signClearCycleDeep b = .ok b1) : signClearCycleDeep b1 = .ok b1 := by
  refine idempotent_of_core (e := Sign.marshal) (c := clearRawSignDeep) (fun m hd => ?_) h
  obtain ⟨b₁, h1, h2, h3⟩ :=
    csigClearing.sign_core hd (hdm m hd).1 (hdm m hd).2.1 (hdm m hd).2.2
  exact ⟨b₁, _, h1, h2, h3⟩

/-- deep clear-raw for a stand-alone decoded COSE_Signature / COSE_Countersignature whose own
    unprotected bucket may hold decoded countersignatures (`DMap 2`), decodable and fixpoint -/
theorem signature_clear_raw_fixpoint_csig (b : Bytes) (s : SigV)
    (hd : Signature.unmarshal b = .ok s) (hfp : NestedMap s.h.p) (hfu : DMap 2 s.h.u) :
    ∃ b', Signature.marshal (clearRawSigDeep s) = .ok b' ∧
      ∃ s', Signature.unmarshal b' = .ok s' ∧ s'.sig = s.sig ∧ LayerCanonC 2 s.h s'.h ∧
        Signature.marshal (clearRawSigDeep s') = .ok b' :=
  csigClearing.signature hd hfp hfu

/-- the deep clearing agrees with the plain one when no unprotected bucket holds a
    countersignature value -/
theorem clearRawSigDeep_of_nested {d : Nat} (s : SigV) (hfu : NestedMapAt d s.h.u) :
    clearRawSigDeep s = clearRawSig s := by
  have : clearPairs s.h.u = s.h.u := by
    rw [clearPairs_eq]
    exact map_eq_self (fun e he => by
      simp only [clearEntry, clearV_other (isCs_rtVal (hfu e he).2)])
  simp only [clearRawSigDeep, clearRawSig, clearHD, clearH, this]

end C09

/-! ## C04 across the wire: decoded COSE_Sign slots, decoded countersignatures -/

namespace C04
open WireClosure SignWireClosure NestedBuckets NestedClosures

/-! ### what reaches the verifiers -/

/-- what `Signature.verify` handed to the verifier, if anything: exactly one content, the
    `ToBeSigned` of the entry -/
theorem verifySig_call (sg : SigV) (v : Verifier) (bprot : Bytes) (payload ext : Option Bytes)
    (h : (Signature.verify sg v bprot payload ext).2 ≠ []) :
    ∃ tbs, (Signature.verify sg v bprot payload ext).2 = [tbs] ∧
      Signature.toBeSigned sg bprot payload ext = .ok tbs ∧ payload.isSome = true := by
  rw [Signature.verify_eq] at h ⊢
  obtain ⟨t, hg, ht, heq⟩ := callKey_called h
  exact ⟨t, congrArg Prod.snd heq, ht, (Signature.verifyGate_eq_ok.mp hg).1⟩

/-- the same for `Countersignature.verify` -/
theorem verifyCsig_call (cs : SigV) (v : Verifier) (parent : Parent) (ext : Option Bytes)
    (h : (Countersignature.verify cs v parent ext).2 ≠ []) :
    ∃ tbs, (Countersignature.verify cs v parent ext).2 = [tbs] ∧
      Countersignature.toBeSigned cs parent ext = .ok tbs := by
  rw [Countersignature.verify_eq] at h ⊢
  obtain ⟨t, -, ht, heq⟩ := callKey_called h
  exact ⟨t, congrArg Prod.snd heq, ht⟩

/-- a slot that reached its verifier, its protected bytes being the item `raw` with content
    `content`: the algorithm check passed, and the one content handed over is the RFC 9052
    Sig_structure over the contents of `bprot` and `raw` -/
theorem verifySig_call_rfc {sg : SigV} {v : Verifier} {bprot raw content : Bytes}
    {payload ext : Option Bytes} (hmp : marshalProtected sg.h = .ok raw)
    (hc : IsBstrEncoding raw content)
    (hcall : (Signature.verify sg v bprot payload ext).2 ≠ []) :
    (algorithmOf sg.h.p = .found v.alg ∨
      (algorithmOf sg.h.p = .notFound ∧ (ext.getD []).length > 0)) ∧
    ∃ bcontent pl, IsBstrEncoding bprot bcontent ∧ payload = some pl ∧
      (Signature.verify sg v bprot payload ext).2
        = [detEnc (sigStructure bcontent content (ext.getD []) pl)] := by
  obtain ⟨tbs, hcalls, ht, hsome⟩ := verifySig_call sg v bprot payload ext hcall
  obtain ⟨pl, hpl⟩ := Option.isSome_iff_exists.mp hsome
  obtain ⟨bc, raw', sc, hbc, -, hmp', hsc, -, rfl⟩ := C03.tbsSig_rfc_of_ok ht hpl
  cases hmp.symm.trans hmp'
  cases C03.isBstrEncoding_content_unique hc hsc
  exact ⟨(verify_gate_iff _ _ _).mp (signature_verify_call_implies_gate _ _ _ _ _ hcall),
    bc, pl, hbc, hpl, hcalls⟩

/-- the calls of the loop: those of the first slot, then, if it verified, those of the rest -/
theorem verifyLoop_cons_calls (bprot : Bytes) (payload ext : Option Bytes) (sg : SigV)
    (sgs : List SigV) (v : Verifier) (vs : List Verifier) :
    (verifyLoop bprot payload ext (sg :: sgs) (v :: vs)).2 =
      (Signature.verify sg v bprot payload ext).2 ++
        if (Signature.verify sg v bprot payload ext).1 = .ok () then
          (verifyLoop bprot payload ext sgs vs).2 else [] := by
  rw [verifyLoop]
  cases Signature.verify sg v bprot payload ext with
  | mk o calls => cases o <;> simp

/-- `verifyLoop` records the contents handed to the
    verifiers in order, one per slot, and stops at the first slot that does not verify.  So the
    list has an `i`-th entry exactly when verifier `i` was invoked: then every earlier slot
    verified, slot `i` handed its verifier exactly one content `t`, and `t` is that entry. -/
theorem verifyLoop_call (bprot : Bytes) (payload ext : Option Bytes) :
    ∀ (sgs : List SigV) (vs : List Verifier) (i : Nat),
      i < (verifyLoop bprot payload ext sgs vs).2.length →
      ∃ (h1 : i < sgs.length) (h2 : i < vs.length) (t : Bytes),
        (Signature.verify sgs[i] vs[i] bprot payload ext).2 = [t] ∧
        (verifyLoop bprot payload ext sgs vs).2[i]? = some t ∧
        ∀ j (hj : j < i), (Signature.verify (sgs[j]'(by omega)) (vs[j]'(by omega)) bprot payload
          ext).1 = .ok ()
  | [], _, i, h => by simp [verifyLoop] at h
  | _ :: _, [], i, h => by simp [verifyLoop] at h
  | sg :: sgs, v :: vs, i, h => by
    rw [verifyLoop_cons_calls] at h ⊢
    rcases C20.verifySig_calls sg v bprot payload ext with ⟨hc, hne⟩ | ⟨t, hc, -⟩
    · -- nothing handed to verifier 0: the loop stops with an empty list
      rw [hc, if_neg hne] at h
      exact absurd h (Nat.not_lt_zero _)
    · rw [hc] at h ⊢
      cases i with
      | zero => exact ⟨Nat.zero_lt_succ _, Nat.zero_lt_succ _, t, hc, rfl, nofun⟩
      | succ k =>
        by_cases hok : (Signature.verify sg v bprot payload ext).1 = .ok ()
        · rw [if_pos hok] at h ⊢
          obtain ⟨h1, h2, t', ha, hb, hall⟩ :=
            verifyLoop_call bprot payload ext sgs vs k (Nat.lt_of_succ_lt_succ h)
          refine ⟨Nat.succ_lt_succ h1, Nat.succ_lt_succ h2, t', ha, hb, ?_⟩
          intro j hj
          cases j with
          | zero => exact hok
          | succ j' => exact hall j' (Nat.lt_of_succ_lt_succ hj)
        · -- the loop stops here: the one content handed to verifier 0 is the whole list
          rw [if_neg hok] at h
          exact absurd (Nat.lt_of_succ_lt_succ h) (Nat.not_lt_zero _)

/-- verifier `i` of `Sign.verify` was invoked: every earlier slot verified, and slot `i` handed its
    verifier exactly one content, the `i`-th entry of the call list -/
theorem signVerify_call (m : SignMsg) (ext : Option Bytes) (vs : List Verifier) (i : Nat)
    (hcall : i < (Sign.verify m ext vs).2.length) :
    ∃ (bprot : Bytes) (h1 : i < m.sigs.length) (h2 : i < vs.length) (t : Bytes),
      marshalProtected m.h = .ok bprot ∧
      (Signature.verify m.sigs[i] vs[i] bprot m.payload ext).2 = [t] ∧
      (Sign.verify m ext vs).2[i]? = some t ∧
      ∀ j (hj : j < i), (Signature.verify (m.sigs[j]'(by omega)) (vs[j]'(by omega)) bprot
        m.payload ext).1 = .ok () := by
  revert hcall
  fun_cases Sign.verify m ext vs <;> intro hcall
  -- only behind the argument checks, with the body protected bytes encoded, is anything called
  case case4 _ _ _ bprot hbp =>
    obtain ⟨h1, h2, t, r⟩ := verifyLoop_call bprot m.payload ext m.sigs vs i hcall
    exact ⟨bprot, h1, h2, t, hbp, r⟩
  all_goals exact absurd hcall (Nat.not_lt_zero _)

/-! ### the received protected bytes of a decoded layer -/

/-- one decoded header layer (wire items `p`, `u`): the retained raw protected bytes are one
    byte-string item whose content `ProtectedHeader.UnmarshalCBOR` decoded to the typed map, and
    `MarshalProtected` re-emits them verbatim -/
theorem decoded_layer_protected {p : Wire} {h : Hdrs} (hp : decProtected p = .ok h.p)
    (hrp : h.rawP = some p.bytes) (hwf : p.wf = true) :
    ∃ content, IsBstrEncoding p.bytes content ∧ decProtectedContent content = .ok h.p ∧
      marshalProtected h = .ok p.bytes := by
  obtain ⟨hw, enc, rfl, -⟩ := C05.protected_is_bstr_of_map p _ hp
  exact ⟨enc, Verifies.isBstrEncoding_of_wf hwf, hp,
    C09.marshalProtected_raw hrp (C01.decProtected_modelled hp)⟩

theorem bytesList_split : ∀ (xs : List Wire) (i : Nat) (h : i < xs.length),
    ∃ a c, Wire.bytesList xs = a ++ (xs[i].bytes ++ c)
  | [], i, h => absurd h (Nat.not_lt_zero _)
  | x :: xs, 0, _ => ⟨[], Wire.bytesList xs, by simp [Wire.bytesList]⟩
  | x :: xs, i + 1, h => by
    obtain ⟨a, c, hac⟩ := bytesList_split xs i (by simpa using h)
    exact ⟨x.bytes ++ a, c, by simp [Wire.bytesList, hac]⟩

/-- what the decoder establishes about the protected buckets of an accepted COSE_Sign: body and
    every slot — the retained raw bytes are sub-slices of the input, each one byte-string item
    whose content decoded to the typed map, re-emitted verbatim by `MarshalProtected` -/
theorem sign_decoded_protected_bytes {b : Bytes} {m : SignMsg} (hd : Sign.unmarshal b = .ok m) :
    (∃ braw bcontent rest, b = 0xd8 :: 0x62 :: 0x84 :: (braw ++ rest) ∧ m.h.rawP = some braw ∧
      IsBstrEncoding braw bcontent ∧ decProtectedContent bcontent = .ok m.h.p ∧
      marshalProtected m.h = .ok braw) ∧
    ∀ i (hi : i < m.sigs.length), ∃ raw content pre rest, b = pre ++ (raw ++ rest) ∧
      m.sigs[i].h.rawP = some raw ∧ IsBstrEncoding raw content ∧
      decProtectedContent content = .ok m.sigs[i].h.p ∧
      marshalProtected m.sigs[i].h = .ok raw := by
  obtain ⟨hws, p, u, pl, sgs, hb, -, hwf, -, -, -, hh, -, hs⟩ := C05.sign_accept_envelope_full hd
  obtain ⟨hp, -, -, hrp, -⟩ := C09.decHeaders_ok hh
  obtain ⟨hlen, hidx⟩ := C05.decSigList_ok sgs m.sigs hs
  simp only [Wire.wf, Wire.wfList, Bool.and_eq_true] at hwf
  obtain ⟨-, hpwf, -, -, ⟨-, hswf⟩, -⟩ := hwf
  have h84 : headBytes 4 .imm 4 = [0x84] := by decide
  constructor
  · obtain ⟨c, hc, hdc, hmp⟩ := decoded_layer_protected hp hrp hpwf
    refine ⟨p.bytes, c, Wire.bytesList [u, pl, .arr hws sgs], ?_, hrp, hc, hdc, hmp⟩
    rw [hb]
    simp [Wire.bytes, Wire.bytesList, h84]
  · intro i hi
    have hi' : i < sgs.length := hlen ▸ hi
    obtain ⟨pi, ui, sgi, hx, hpi, -, -, hrpi, -, -, -⟩ := hidx i hi' hi
    have hxwf := (wfList_iff sgs).mp hswf _ (List.getElem_mem hi')
    rw [hx] at hxwf
    simp only [Wire.wf, Wire.wfList, Bool.and_eq_true] at hxwf
    obtain ⟨c, hc, hdc, hmp⟩ := decoded_layer_protected hpi hrpi hxwf.2.1
    obtain ⟨a, r, hsplit⟩ := bytesList_split sgs i hi'
    have h83 : headBytes 4 .imm 3 = [0x83] := by decide
    refine ⟨pi.bytes, c, 0xd8 :: 0x62 :: 0x84 :: (p.bytes ++ (u.bytes ++ (pl.bytes ++
      (headBytes 4 hws sgs.length ++ (a ++ [0x83]))))),
      Wire.bytesList [ui, sgi] ++ r, ?_, hrpi, hc, hdc, hmp⟩
    rw [hb]
    simp [Wire.bytes, Wire.bytesList, h84, hsplit, hx, h83]

/-! ### COSE_Sign, slot by slot; stand-alone countersignature and signature -/

/-- "for a decoded message the alg consulted is the one encoded in the protected bytes that
    are signed", COSE_Sign, slot by slot.  For a decoded COSE_Sign (`Sign.unmarshal b = .ok m`), if
    `Verify` invokes verifier `i` at all — its call list has an `i`-th entry (`verifyLoop_call`:
    one entry per invoked verifier, in order, stopping at the first slot that does not verify) —
    then slot `i`'s received protected byte string `raw` (a sub-slice of the input, retained in
    `m.sigs[i].h.rawP`) has a content that `ProtectedHeader.UnmarshalCBOR` decodes to a map whose
    `Algorithm()` is `vs[i].alg` (or names none, and external data is non-empty); every earlier
    slot verified; and the content handed to verifier `i` is the RFC 9052 Sig_structure over
    exactly the received body protected content and that slot content.  No hypotheses beyond
    "decoded" and "verifier `i` was called". -/
theorem sign_verify_consults_wire_alg (b : Bytes) (m : SignMsg) (ext : Option Bytes)
    (vs : List Verifier) (hd : Sign.unmarshal b = .ok m) (i : Nat)
    (hcall : i < (Sign.verify m ext vs).2.length) :
    ∃ (h1 : i < m.sigs.length) (h2 : i < vs.length) (raw content pre rest : Bytes) (pm : GoMap),
      b = pre ++ (raw ++ rest) ∧ m.sigs[i].h.rawP = some raw ∧ IsBstrEncoding raw content ∧
      decProtectedContent content = .ok pm ∧
      (algorithmOf pm = .found vs[i].alg ∨
        (algorithmOf pm = .notFound ∧ (ext.getD []).length > 0)) ∧
      (∀ j (hj : j < i), ∃ bprot, marshalProtected m.h = .ok bprot ∧
        (Signature.verify (m.sigs[j]'(by omega)) (vs[j]'(by omega)) bprot m.payload ext).1
          = .ok ()) ∧
      ∃ braw bcontent pl, m.h.rawP = some braw ∧ IsBstrEncoding braw bcontent ∧
        m.payload = some pl ∧
        (Sign.verify m ext vs).2[i]?
          = some (detEnc (sigStructure bcontent content (ext.getD []) pl)) := by
  obtain ⟨bprot, h1, h2, t, hbp, hcalls, hget, hprev⟩ := signVerify_call m ext vs i hcall
  obtain ⟨⟨braw, bcontent, -, -, hbrp, hbc, -, hbmp⟩, hslot⟩ := sign_decoded_protected_bytes hd
  obtain ⟨raw, content, pre, rest, hb, hrp, hc, hdc, hmp⟩ := hslot i h1
  cases hbp.symm.trans hbmp
  have hcne : (Signature.verify m.sigs[i] vs[i] bprot m.payload ext).2 ≠ [] := by
    rw [hcalls]
    exact List.cons_ne_nil _ _
  obtain ⟨hgate, bc, pl, hbc', hpl, hcalls'⟩ := verifySig_call_rfc hmp hc hcne
  cases C03.isBstrEncoding_content_unique hbc' hbc
  cases hcalls.symm.trans hcalls'
  exact ⟨h1, h2, raw, content, pre, rest, m.sigs[i].h.p, hb, hrp, hc, hdc, hgate,
    fun j hj => ⟨bprot, hbp, hprev j hj⟩, bprot, bcontent, pl, hbrp, hbc, hpl, hget⟩

/-- contrapositive of `sign_verify_consults_wire_alg`: a decoded COSE_Sign whose slot `i` names, in
    its received protected bytes, an integer algorithm other than `vs[i].alg` never reaches verifier
    `i` (nor any later one): the call list has at most `i` entries, and `Verify` does not succeed -/
theorem sign_verify_other_wire_alg_no_call (b : Bytes) (m : SignMsg) (ext : Option Bytes)
    (vs : List Verifier) (hd : Sign.unmarshal b = .ok m) (i : Nat) (h1 : i < m.sigs.length)
    (h2 : i < vs.length) (raw content : Bytes) (pm : GoMap) (c : Int)
    (hrp : m.sigs[i].h.rawP = some raw) (hc : IsBstrEncoding raw content)
    (hdc : decProtectedContent content = .ok pm) (ha : algorithmOf pm = .found c)
    (hne : c ≠ vs[i].alg) :
    (Sign.verify m ext vs).2.length ≤ i ∧ (Sign.verify m ext vs).1 ≠ .ok () := by
  obtain ⟨-, hslot⟩ := sign_decoded_protected_bytes hd
  obtain ⟨raw', content', -, -, -, hrp', hc', hdc', -⟩ := hslot i h1
  cases hrp'.symm.trans hrp
  cases C03.isBstrEncoding_content_unique hc' hc
  cases hdc'.symm.trans hdc
  have hmis := fun bprot =>
    signature_verify_mismatch_no_call m.sigs[i] vs[i] bprot m.payload ext c ha hne
  constructor
  · refine Nat.le_of_not_lt fun hlt => ?_
    obtain ⟨bprot, _, _, t, -, hcalls, -⟩ := signVerify_call m ext vs i hlt
    rw [(hmis bprot).1] at hcalls
    cases hcalls
  · intro hok
    obtain ⟨-, -, -, bprot, -, hall⟩ := (C11.signmsg_verify_iff m ext vs).mp hok
    exact (hmis bprot).2.1 (hall i h1 h2)

/-- accepted messages: `Verify` returning nil on a decoded COSE_Sign implies that every slot's
    received protected bytes name the algorithm of the verifier at that position (or none, with
    external data) -/
theorem sign_verify_ok_wire_alg (b : Bytes) (m : SignMsg) (ext : Option Bytes)
    (vs : List Verifier) (hd : Sign.unmarshal b = .ok m)
    (hok : (Sign.verify m ext vs).1 = .ok ()) :
    m.sigs.length = vs.length ∧
    ∀ i (h1 : i < m.sigs.length) (h2 : i < vs.length), ∃ raw content pm,
      m.sigs[i].h.rawP = some raw ∧ IsBstrEncoding raw content ∧
      decProtectedContent content = .ok pm ∧
      (algorithmOf pm = .found vs[i].alg ∨
        (algorithmOf pm = .notFound ∧ (ext.getD []).length > 0)) := by
  obtain ⟨-, -, hl, bprot, -, hall⟩ := (C11.signmsg_verify_iff m ext vs).mp hok
  refine ⟨hl, ?_⟩
  intro i h1 h2
  obtain ⟨-, hslot⟩ := sign_decoded_protected_bytes hd
  obtain ⟨raw, content, -, -, -, hrp, hc, hdc, -⟩ := hslot i h1
  exact ⟨raw, content, _, hrp, hc, hdc, (verify_gate_iff _ _ _).mp
    ((C03.verifySig_iff _ _ _ _ _).mp (hall i h1 h2)).2.2.2.1⟩

/-- what the decoder establishes about the protected bucket of an accepted stand-alone
    COSE_Signature / COSE_Countersignature -/
theorem signature_decoded_protected_bytes {b : Bytes} {s : SigV}
    (hd : Signature.unmarshal b = .ok s) :
    ∃ raw content rest, b = 0x83 :: (raw ++ rest) ∧ s.h.rawP = some raw ∧
      IsBstrEncoding raw content ∧ decProtectedContent content = .ok s.h.p ∧
      marshalProtected s.h = .ok raw := by
  obtain ⟨p, u, sg, -, hb, hwf, -, -, -, -, hp, -, -, hrp, -⟩ :=
    C05.signature_accept_envelope_full b s hd
  simp only [Wire.wf, Wire.wfList, Bool.and_eq_true] at hwf
  obtain ⟨c, hc, hdc, hmp⟩ := decoded_layer_protected hp hrp hwf.2.1
  refine ⟨p.bytes, c, Wire.bytesList [u, sg], ?_, hrp, hc, hdc, hmp⟩
  rw [hb, Accept.arr3_bytes]
  simp [Wire.bytesList]

/-- the same for a decoded stand-alone COSE_Countersignature (`Signature.unmarshal b = .ok
    cs`) verified against any parent: if `Countersignature.Verify` reaches the verifier at all,
    then the received protected byte string `raw` (a sub-slice of the input) has a content that
    decodes to a map whose `Algorithm()` is the verifier's (or names none, with non-empty external
    data), and the one content handed to the verifier is `countersignToBeSigned` over exactly
    those received bytes. -/
theorem countersignature_verify_consults_wire_alg (b : Bytes) (cs : SigV) (v : Verifier)
    (parent : Parent) (ext : Option Bytes) (hd : Signature.unmarshal b = .ok cs)
    (hcall : (Countersignature.verify cs v parent ext).2 ≠ []) :
    ∃ raw content rest pm tbs, b = 0x83 :: (raw ++ rest) ∧ cs.h.rawP = some raw ∧
      IsBstrEncoding raw content ∧ decProtectedContent content = .ok pm ∧
      (algorithmOf pm = .found v.alg ∨
        (algorithmOf pm = .notFound ∧ (ext.getD []).length > 0)) ∧
      (Countersignature.verify cs v parent ext).2 = [tbs] ∧
      countersignToBeSigned false parent raw ext = .ok tbs := by
  obtain ⟨raw, content, rest, hb, hrp, hc, hdc, hmp⟩ := signature_decoded_protected_bytes hd
  have hgate := (verify_gate_iff _ _ _).mp
    (countersignature_verify_call_implies_gate cs v parent ext hcall)
  obtain ⟨tbs, hcalls, ht⟩ := verifyCsig_call cs v parent ext hcall
  obtain ⟨sp, hsp, hct⟩ := C03.ctbs_of_ok ht
  rw [hmp] at hsp
  cases hsp
  exact ⟨raw, content, rest, cs.h.p, tbs, hb, hrp, hc, hdc, hgate, hcalls, hct⟩

/-- contrapositive of `countersignature_verify_consults_wire_alg` -/
theorem countersignature_verify_other_wire_alg_no_call (b : Bytes) (cs : SigV) (v : Verifier)
    (parent : Parent) (ext : Option Bytes) (hd : Signature.unmarshal b = .ok cs)
    (raw content : Bytes) (pm : GoMap) (c : Int) (hrp : cs.h.rawP = some raw)
    (hc : IsBstrEncoding raw content) (hdc : decProtectedContent content = .ok pm)
    (ha : algorithmOf pm = .found c) (hne : c ≠ v.alg) :
    (Countersignature.verify cs v parent ext).2 = [] ∧
      (Countersignature.verify cs v parent ext).1 ≠ .ok () := by
  obtain ⟨raw', content', -, -, hrp', hc', hdc', -⟩ := signature_decoded_protected_bytes hd
  cases hrp'.symm.trans hrp
  cases C03.isBstrEncoding_content_unique hc' hc
  cases hdc'.symm.trans hdc
  obtain ⟨h1, h2, -⟩ := countersignature_verify_mismatch_no_call cs v parent ext c ha hne
  exact ⟨h1, h2⟩

/-- the same for a decoded stand-alone COSE_Signature handed to `Signature.Verify` with any
    body protected bytes / payload -/
theorem signature_verify_consults_wire_alg (b : Bytes) (sg : SigV) (v : Verifier)
    (bprot : Bytes) (payload ext : Option Bytes) (hd : Signature.unmarshal b = .ok sg)
    (hcall : (Signature.verify sg v bprot payload ext).2 ≠ []) :
    ∃ raw content rest pm bcontent pl, b = 0x83 :: (raw ++ rest) ∧ sg.h.rawP = some raw ∧
      IsBstrEncoding raw content ∧ decProtectedContent content = .ok pm ∧
      (algorithmOf pm = .found v.alg ∨
        (algorithmOf pm = .notFound ∧ (ext.getD []).length > 0)) ∧
      IsBstrEncoding bprot bcontent ∧ payload = some pl ∧
      (Signature.verify sg v bprot payload ext).2
        = [detEnc (sigStructure bcontent content (ext.getD []) pl)] := by
  obtain ⟨raw, content, rest, hb, hrp, hc, hdc, hmp⟩ := signature_decoded_protected_bytes hd
  obtain ⟨hgate, bc, pl, hbc, hpl, hcalls⟩ := verifySig_call_rfc hmp hc hcall
  exact ⟨raw, content, rest, sg.h.p, bc, pl, hb, hrp, hc, hdc, hgate, hbc, hpl, hcalls⟩

end C04

/-! ## non-vacuity -/

namespace SignClearExamples
open SignClear ClearRaw NestedBuckets NestedClosures ClearRawExamples CsigClearRawExamples

/-- the signer slot as sent: protected bucket `{1: -7}` under a non-shortest head
    (`58 03 a10126` instead of `43 a10126`), empty unprotected map, signature `h'07'` -/
def exSlotW : Wire := .arr .imm [.bstr .w1 [0xa1, 0x01, 0x26], .map .imm [], .bstr .imm [7]]

/-- `98([h'a20441310126', {}, h'010203', [[h'a10126' (long head), {}, h'07']]])`: the body
    protected bucket `{4: h'31', 1: -7}` has its keys out of order -/
def exSB : Bytes :=
  [0xd8, 0x62, 0x84, 0x46, 0xa2, 0x04, 0x41, 0x31, 0x01, 0x26, 0xa0, 0x43, 1, 2, 3,
   0x81, 0x83, 0x58, 0x03, 0xa1, 0x01, 0x26, 0xa0, 0x41, 7]

/-- the same message after one clear-raw cycle: body protected keys sorted (`a2 01 26 04 41 31`),
    slot protected bucket under the shortest head (`43 a10126`) -/
def exSB' : Bytes :=
  [0xd8, 0x62, 0x84, 0x46, 0xa2, 0x01, 0x26, 0x04, 0x41, 0x31, 0xa0, 0x43, 1, 2, 3,
   0x81, 0x83, 0x43, 0xa1, 0x01, 0x26, 0xa0, 0x41, 7]

/-- the slot as decoded: `RawProtected` is the 5 bytes as sent -/
def exSlotD : SigV :=
  { h := { rawP := some (Wire.bstr .w1 [0xa1, 0x01, 0x26]).bytes, p := [(lbl 1, .alg (-7))],
           rawU := some (Wire.map .imm []).bytes, u := [] },
    sig := some [7] }

/-- the message as decoded -/
def exSM : SignMsg :=
  { h := { rawP := some exPu.bytes, p := exPm, rawU := some (Wire.map .imm []).bytes, u := [] },
    payload := some [1, 2, 3], sigs := [exSlotD] }

def exSTree : Wire := .arr .imm [exPu, .map .imm [], .bstr .imm [1, 2, 3], .arr .imm [exSlotW]]

theorem exS_slot_raw : exSlotD.h.rawP = some [0x58, 0x03, 0xa1, 0x01, 0x26] := by decide

theorem encU_nil : encodeBucket encCfg false none [] = some [0xa0] := by
  simp [encodeBucket]

theorem exS_unmarshal : Sign.unmarshal exSB = .ok exSM := by
  have hpt := parseTop_complete (w := exSTree) (t := false) (by decide) (by decide)
  rw [show exSTree.bytes = 0x84 :: exSB.drop 3 by decide] at hpt
  have hel : C05.SigElem exSlotW exSlotD :=
    ⟨_, _, _, rfl, exC_decP7 .w1, exC_decU0, by decide, rfl, rfl, rfl, by decide⟩
  exact C09.sign_unmarshal_of hpt (pay := some [1, 2, 3]) rfl (by simp)
    (C09.decSigList_cons_of hel C05.decSigList_nil)
    (C09.decHeaders_of ex_decPu exC_decU0 (by decide))

theorem exS_model : NestedMap exSM.h.p ∧ NestedMapAt 2 exSM.h.u ∧
    ∀ s ∈ exSM.sigs, NestedMap s.h.p ∧ NestedMapAt 4 s.h.u := by
  have h0 : ∀ d, NestedMapAt d [] := fun d e he => by cases he
  refine ⟨ex_flat.1.nested, h0 2, ?_⟩
  intro s hs
  cases List.mem_singleton.mp hs
  exact ⟨C01.exP7_nested.1, h0 4⟩

/-- discarding the raw bytes (body and slot) and encoding gives `exSB'` -/
theorem exS_marshal_cleared : Sign.marshal (clearRawSign exSM) = .ok exSB' := by
  have hsig := signature_marshal_of_hdrs (s := clearRawSig exSlotD) (by decide)
    (hdrs_marshal_of_buckets (by decide) (by decide) (by decide) CsigExamples.exP7_enc encU_nil)
  rw [sign_marshal_of_hdrs (m := clearRawSign exSM) (by simp [clearRawSign, exSM])
    (hdrs_marshal_of_buckets (by decide) (by decide) (by decide) ex_encP encU_nil)
    (by simp only [clearRawSign, exSM, List.map, marshalSigs, hsig]; rfl)]
  rfl

/-- non-vacuity of `C09.sign_clear_raw_decodable_nested` / `sign_clear_raw_fixpoint_nested`.
    `exSB` decodes to `exSM` (body protected map in wire order `{4, 1}`, slot `RawProtected` = the
    5 bytes `58 03 a1 01 26`); the data-model hypotheses hold; the theorems apply: discarding the
    raw bytes of the body and of the slot and encoding gives `exSB' ≠ exSB`, `exSB'` decodes to a
    message with the same payload, one slot with the same signature, `Algorithm()` ES256 in body
    and slot, and clearing and encoding that gives `exSB'` again. -/
example : ∃ m', Sign.unmarshal exSB = .ok exSM ∧
    exSM.h.p = [(lbl 4, .bytes [0x31]), (lbl 1, .alg (-7))] ∧
    exSM.sigs.map (fun s => s.h.rawP) = [some [0x58, 0x03, 0xa1, 0x01, 0x26]] ∧
    Sign.marshal (clearRawSign exSM) = .ok exSB' ∧ exSB' ≠ exSB ∧
    Sign.unmarshal exSB' = .ok m' ∧ m'.payload = some [1, 2, 3] ∧
    m'.h.p.Perm (exSM.h.p.map decEntryN) ∧ algorithmOf m'.h.p = .found (-7) ∧
    m'.sigs.map (fun s => (s.sig, algorithmOf s.h.p)) = [(some [7], .found (-7))] ∧
    Sign.marshal (clearRawSign m') = .ok exSB' ∧
    C09.signClearCycle exSB = .ok exSB' ∧ C09.signClearCycle exSB' = .ok exSB' := by
  obtain ⟨hfp, hfu, hslots⟩ := exS_model
  obtain ⟨b', h1, m', h2, hpay, hbody, hlen, hidx⟩ :=
    C09.sign_clear_raw_decodable_nested exSB _ exS_unmarshal hfp hfu hslots
  have hb : b' = exSB' := Out.ok.inj (h1.symm.trans exS_marshal_cleared)
  subst hb
  obtain ⟨b'', h3, rfl, -⟩ :=
    C09.sign_clear_raw_fixpoint_nested exSB _ exS_unmarshal hfp hfu hslots _ m' h1 h2
  have hcyc : C09.signClearCycle exSB = .ok exSB' := by
    simp [C09.signClearCycle, exS_unmarshal, h1, bind, Out.bind]
  obtain ⟨-, -, hpp, -, -, -, halg, -, -⟩ := hbody
  have hl1 : m'.sigs.length = 1 := hlen
  obtain ⟨hs0, -, -, -, -, -, -, halg0, -, -⟩ := hidx 0 (by decide) (by omega)
  refine ⟨m', exS_unmarshal, rfl, by decide, h1, by decide, h2, hpay, hpp, ?_, ?_, h3, hcyc,
    C09.signClearCycle_idempotent_nested exSB _ (fun m hm => ?_) hcyc⟩
  · rw [halg]; decide
  · match hm : m'.sigs, hl1 with
    | [s], _ =>
      simp only [hm, List.getElem_cons_zero] at hs0 halg0
      simp only [List.map_cons, List.map_nil, hs0, halg0]
      decide
  · rw [exS_unmarshal] at hm
    cases hm
    exact exS_model

/-- the slot of `exSB` taken as a stand-alone COSE_Signature `83 5803a10126 a0 4107` -/
theorem exSlot_unmarshal : Signature.unmarshal exSlotW.bytes = .ok exSlotD :=
  C07.wf_signature_accepted_full (p := .bstr .w1 [0xa1, 0x01, 0x26]) (u := .map .imm [])
    (hw := .imm) (c := [7]) (by decide) (by decide) (exC_decP7 .w1) exC_decU0 (by decide)
    (by simp)

/-- non-vacuity of `C09.signature_clear_raw_fixpoint_nested`: the slot of `exSB` taken as a
    stand-alone COSE_Signature `83 5803a10126 a0 4107` -/
example : ∃ s b' s', Signature.unmarshal exSlotW.bytes = .ok s ∧
    Signature.marshal (clearRawSig s) = .ok b' ∧ Signature.unmarshal b' = .ok s' ∧
    s'.sig = some [7] ∧ algorithmOf s'.h.p = .found (-7) ∧
    Signature.marshal (clearRawSig s') = .ok b' := by
  obtain ⟨b', h1, s', h2, hs, ⟨-, -, -, -, -, -, halg, -, -⟩, h3⟩ :=
    C09.signature_clear_raw_fixpoint_nested _ _ exSlot_unmarshal C01.exP7_nested.1
      (show NestedMapAt 2 [] from fun e he => by cases he)
  refine ⟨_, b', s', exSlot_unmarshal, h1, h2, hs, ?_, h3⟩
  rw [halg]; decide

/-! ### clear-raw with countersignature values -/

section CsigExample
open CsigRT CsigExamples CsigClosures SignClearC

/-- a signer slot as sent whose unprotected bucket is `{11: [cs1, cs2]}` — two countersignatures,
    the first with a non-canonical protected bucket (`58 03 a10126`) -/
def exSlotCW : Wire := .arr .imm [exPuC, exUnC, .bstr .imm [7]]

/-- `98([h'a10126', {}, h'010203', [[h'a10126', {11: [cs1 (long head), cs2]}, h'07']]])` -/
def exSCB : Bytes :=
  [0xd8, 0x62, 0x84, 0x43, 0xa1, 0x01, 0x26, 0xa0, 0x43, 1, 2, 3, 0x81,
   0x83, 0x43, 0xa1, 0x01, 0x26,
   0xa1, 0x0b, 0x82,
   0x83, 0x58, 0x03, 0xa1, 0x01, 0x26, 0xa1, 0x04, 0x41, 0x32, 0x42, 0x01, 0x02,
   0x83, 0x43, 0xa1, 0x01, 0x27, 0xa0, 0x41, 0x03,
   0x41, 7]

/-- the same message after one deep clear-raw cycle: the protected bucket of the countersignature
    inside the slot re-encoded with the shortest head -/
def exSCB' : Bytes :=
  [0xd8, 0x62, 0x84, 0x43, 0xa1, 0x01, 0x26, 0xa0, 0x43, 1, 2, 3, 0x81,
   0x83, 0x43, 0xa1, 0x01, 0x26,
   0xa1, 0x0b, 0x82,
   0x83, 0x43, 0xa1, 0x01, 0x26, 0xa1, 0x04, 0x41, 0x32, 0x42, 0x01, 0x02,
   0x83, 0x43, 0xa1, 0x01, 0x27, 0xa0, 0x41, 0x03,
   0x41, 7]

def exSlotCD : SigV :=
  { h := { rawP := some exPuC.bytes, p := [(lbl 1, .alg (-7))], rawU := some exUnC.bytes,
           u := exUmC },
    sig := some [7] }

def exSCM : SignMsg :=
  { h := { rawP := some exPuC.bytes, p := [(lbl 1, .alg (-7))],
           rawU := some (Wire.map .imm []).bytes, u := [] },
    payload := some [1, 2, 3], sigs := [exSlotCD] }

def exSCTree : Wire := .arr .imm [exPuC, .map .imm [], .bstr .imm [1, 2, 3], .arr .imm [exSlotCW]]

theorem exSC_unmarshal : Sign.unmarshal exSCB = .ok exSCM := by
  have hpt := parseTop_complete (w := exSCTree) (t := false) (by decide) (by decide)
  rw [show exSCTree.bytes = 0x84 :: exSCB.drop 3 by decide] at hpt
  have hel : C05.SigElem exSlotCW exSlotCD :=
    ⟨_, _, _, rfl, exC_decP7 .imm, exC_decUn, by decide, rfl, rfl, rfl, by decide⟩
  exact C09.sign_unmarshal_of hpt (pay := some [1, 2, 3]) rfl (by simp)
    (C09.decSigList_cons_of hel C05.decSigList_nil)
    (C09.decHeaders_of (exC_decP7 .imm) exC_decU0 (by decide))

theorem exSC_model : NestedMap exSCM.h.p ∧ DMap 2 exSCM.h.u ∧
    ∀ s ∈ exSCM.sigs, NestedMap s.h.p ∧ DMap 4 s.h.u := by
  refine ⟨C01.exP7_nested.1, (fun e he => nomatch he : DMap 2 []), ?_⟩
  intro s hs
  cases List.mem_singleton.mp hs
  exact ⟨C01.exP7_nested.1, exUmC_dmap 4⟩

/-- discarding all raw bytes (body, slot, and inside both countersignatures of the slot) and
    encoding gives `exSCB'` -/
theorem exSC_marshal_cleared : Sign.marshal (clearRawSignDeep exSCM) = .ok exSCB' := by
  have hsig := signature_marshal_of_hdrs (s := clearRawSigDeep exSlotCD) (by decide)
    (hdrs_marshal_of_buckets (by decide) (by decide) (by decide) exP7_enc exU3_enc)
  rw [sign_marshal_of_hdrs (m := clearRawSignDeep exSCM) (by simp [clearRawSignDeep, exSCM])
    (hdrs_marshal_of_buckets (by decide) (by decide) (by decide) exP7_enc encU_nil)
    (by simp only [clearRawSignDeep, exSCM, List.map, marshalSigs, hsig]; rfl)]
  rfl

/-- non-vacuity of `C09.sign_clear_raw_decodable_csig` / `sign_clear_raw_fixpoint_csig`.  `exSCB`
    decodes to `exSCM`, whose signer slot carries `{11: [cs1D, cs2N]}` — two decoded
    countersignatures, each retaining its own raw buckets, the first with a non-canonical
    protected bucket; the data-model hypotheses hold; clearing the raw bytes at every level and
    encoding gives `exSCB' ≠ exSCB`; `exSCB'` decodes to a message whose slot carries
    `{11: [cs1N, cs2N]}` (decoded normal forms), and clearing and encoding that gives `exSCB'`
    again. -/
example : ∃ m', Sign.unmarshal exSCB = .ok exSCM ∧
    exSCM.sigs.map (fun s => s.h.u) = [[(lbl 11, .csigs [cs1D, cs2N])]] ∧
    Sign.marshal (clearRawSignDeep exSCM) = .ok exSCB' ∧ exSCB' ≠ exSCB ∧
    Sign.unmarshal exSCB' = .ok m' ∧ m'.payload = some [1, 2, 3] ∧
    m'.sigs.map (fun s => (s.sig, s.h.u)) = [(some [7], [(lbl 11, .csigs [cs1N, cs2N])])] ∧
    Sign.marshal (clearRawSignDeep m') = .ok exSCB' := by
  obtain ⟨hfp, hfu, hslots⟩ := exSC_model
  obtain ⟨b', h1, m', h2, hpay, -, hlen, hidx⟩ :=
    C09.sign_clear_raw_decodable_csig exSCB _ exSC_unmarshal hfp hfu hslots
  have hb : b' = exSCB' := Out.ok.inj (h1.symm.trans exSC_marshal_cleared)
  subst hb
  obtain ⟨b'', h3, rfl, -⟩ :=
    C09.sign_clear_raw_fixpoint_csig exSCB _ exSC_unmarshal hfp hfu hslots _ m' h1 h2
  have hl1 : m'.sigs.length = 1 := hlen
  obtain ⟨hs0, -, hu0, -⟩ := hidx 0 (by decide) (by omega)
  refine ⟨m', exSC_unmarshal, rfl, h1, by decide, h2, hpay, ?_, h3⟩
  match hm : m'.sigs, hl1 with
  | [s], _ =>
    simp only [hm, List.getElem_cons_zero] at hs0 hu0
    have hu1 : s.h.u = [(lbl 11, .csigs [cs1N, cs2N])] := hu0.trans exC_norm
    simp only [List.map_cons, List.map_nil, hs0, hu1]
    rfl

end CsigExample

/-! ### C04 across the wire -/

/-- the ES256 verifier `exV7` is invoked for slot 0 of the decoded `exSM` (one call) -/
theorem exS_verify_calls : (Sign.verify exSM none [C01.exV7]).2.length = 1 := by
  have hmpB : marshalProtected exSM.h = .ok exPu.bytes :=
    C09.marshalProtected_raw rfl (C01.decProtected_modelled ex_decPu)
  have hmpS : marshalProtected exSlotD.h = .ok (Wire.bstr .w1 [0xa1, 0x01, 0x26]).bytes :=
    C09.marshalProtected_raw rfl (C01.decProtected_modelled (exC_decP7 .w1))
  have ht := C02.tbsSig_eq_rfc exSlotD exPu.bytes (some [1, 2, 3]) none
    [0xa2, 0x04, 0x41, 0x31, 0x01, 0x26] _ [0xa1, 0x01, 0x26] [1, 2, 3]
    ⟨.imm, by decide, by decide⟩ (by decide) hmpS ⟨.w1, by decide, by decide⟩ (by decide) rfl
  have hg : ensureVerificationAlgorithm exSlotD.h.p C01.exV7.alg none = .ok () := by decide
  have hbo : bodyProtOK exPu.bytes = true := by decide
  have hsv : Signature.verify exSlotD C01.exV7 exPu.bytes (some [1, 2, 3]) none
      = (.ok (), [detEnc (sigStructure [0xa2, 0x04, 0x41, 0x31, 0x01, 0x26] [0xa1, 0x01, 0x26] []
          [1, 2, 3])]) := by
    have hz : blen exSlotD.sig ≠ 0 := by simp [exSlotD, blen]
    have hsg : exSlotD.sig.getD [] = [7] := rfl
    have hg' : ensureVerificationAlgorithm exSlotD.h.p (-7) none = .ok () := hg
    simp [Signature.verify, hz, hbo, hg', ht, hsg, C01.exV7]
  have hp : exSM.payload = some [1, 2, 3] := rfl
  have hsl : exSM.sigs = [exSlotD] := rfl
  simp [Sign.verify, hp, hsl, hmpB, verifyLoop, hsv]

/-- non-vacuity of `C04.sign_verify_consults_wire_alg`: `exSM` is decoded from `exSB`, verifier 0
    is invoked, and the alg encoded in slot 0's received protected bytes `58 03 a1 01 26` is
    ES256, the verifier's -/
example : ∃ content pm, IsBstrEncoding [0x58, 0x03, 0xa1, 0x01, 0x26] content ∧
    decProtectedContent content = .ok pm ∧ algorithmOf pm = .found C01.exV7.alg := by
  obtain ⟨h1, h2, raw, content, -, -, pm, -, hrp, hc, hdc, hg, -⟩ :=
    C04.sign_verify_consults_wire_alg exSB exSM none [C01.exV7] exS_unmarshal 0
      (by rw [exS_verify_calls]; decide)
  have hrw : raw = [0x58, 0x03, 0xa1, 0x01, 0x26] := by
    have := hrp.symm.trans exS_slot_raw
    exact Option.some.inj this
  subst hrw
  refine ⟨content, pm, hc, hdc, ?_⟩
  rcases hg with h | ⟨-, hx⟩
  · exact h
  · simp at hx

/-- non-vacuity of `C04.sign_verify_other_wire_alg_no_call`: an ES384 verifier (alg −35) is never
    invoked for the decoded `exSM`, whose slot's received protected bytes name ES256 -/
example : (Sign.verify exSM none [{ alg := -35, verify := fun _ _ => .ok () }]).2 = [] := by
  have h := (C04.sign_verify_other_wire_alg_no_call exSB exSM none
    [{ alg := -35, verify := fun _ _ => .ok () }] exS_unmarshal 0 (by decide) (by decide)
    [0x58, 0x03, 0xa1, 0x01, 0x26] [0xa1, 0x01, 0x26] [(lbl 1, .alg (-7))] (-7) exS_slot_raw
    ⟨.w1, by decide, by decide⟩ (exC_decP7 .w1) (by decide) (by decide)).1
  exact List.eq_nil_of_length_eq_zero (by omega)

/-- non-vacuity of `C04.countersignature_verify_consults_wire_alg`: the slot of `exSB` taken as a
    stand-alone countersignature on the signed COSE_Sign1 `exPar`, verified by `exV7` -/
example : ∃ raw content pm tbs, exSlotD.h.rawP = some raw ∧ IsBstrEncoding raw content ∧
    decProtectedContent content = .ok pm ∧ algorithmOf pm = .found (-7) ∧
    (Countersignature.verify exSlotD C01.exV7 (.sign1 C01.exPar) none).2 = [tbs] := by
  have hok : (Countersignature.verify exSlotD C01.exV7 (.sign1 C01.exPar) none).2 ≠ [] := by
    have hmpS : marshalProtected exSlotD.h = .ok (Wire.bstr .w1 [0xa1, 0x01, 0x26]).bytes :=
      C09.marshalProtected_raw rfl (C01.decProtected_modelled (exC_decP7 .w1))
    have hg : ensureVerificationAlgorithm exSlotD.h.p C01.exV7.alg none = .ok () := by decide
    have hz : blen exSlotD.sig ≠ 0 := by simp [exSlotD, blen]
    have hd1 : detBstr (Wire.bstr .w1 [0xa1, 0x01, 0x26]).bytes
        = .ok (detEnc (.bstr [0xa1, 0x01, 0x26])) :=
      C02.detBstr_spec _ _ ⟨.w1, by decide, by decide⟩ (by decide)
    have hd2 : detBstr [0x43, 0xa1, 0x01, 0x26] = .ok (detEnc (.bstr [0xa1, 0x01, 0x26])) :=
      C02.detBstr_spec _ _ ⟨.imm, by decide, by decide⟩ (by decide)
    have hpar : marshalProtected C01.exPar.h = .ok [0x43, 0xa1, 0x01, 0x26] := C01.exHd_mpP
    have hps : blen C01.exPar.sig ≠ 0 := by simp [C01.exPar, blen]
    have hpp : C01.exPar.payload = some [1, 2, 3] := rfl
    simp [Countersignature.verify, hz, hg, Countersignature.toBeSigned, hmpS, countersignToBeSigned,
      hpar, hps, hpp, hd1, hd2, bind, Out.bind]
  obtain ⟨raw, content, -, pm, tbs, -, hrp, hc, hdc, hg, hcalls, -⟩ :=
    C04.countersignature_verify_consults_wire_alg _ exSlotD C01.exV7 (.sign1 C01.exPar) none
      exSlot_unmarshal hok
  refine ⟨raw, content, pm, tbs, hrp, hc, hdc, ?_, hcalls⟩
  rcases hg with h | ⟨-, hx⟩
  · exact h
  · simp at hx

end SignClearExamples
