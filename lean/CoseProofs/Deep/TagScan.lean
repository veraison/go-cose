/-
  CoseProofs.Deep.TagScan — what the scan for the self-described CBOR tag (55799) achieves.

  `CoseModel.TagScan` transcribes `headArgument`, `scanSelfDescribedTag`, `typeCheckedHeaderLabel`
  and `ensureUntaggedHeaderLabels` (headers.go) over bytes; the model calls it where go-cose does
  (`validateHeaderLabelCBOR` in both bucket decoders, `Key.UnmarshalCBOR`).  On the bytes of a
  well-formed item, wherever it stands in a larger byte string, the byte-level scan computes the
  structural predicate `Wire.hasSelfDescribed`, and `ensureUntaggedHeaderLabels` on the bytes of a
  well-formed map is `Wire.pairsUntagged` (Lemmas/TagScan).  Hence, for C05 / C13, an accepted
  header bucket has, in the bytes as received, no tag 55799 in a label nor in the value of a
  type-checked label; for C15, the same holds of a COSE_Key with every label checked, and its first
  byte is a map head; for C07, the scan refuses nothing else.
-/
import CoseModel.Messages
import CoseModel.Key
import CoseProofs.Lemmas.Parse
import CoseProofs.Lemmas.TagScan
import CoseProofs.Props.C05
open CoseModel

/-! ### the structural predicate, entry by entry -/

namespace CoseModel

theorem Wire.pairsUntagged_iff (c : Option (Nat → Bool)) (kvs : List (Wire × Wire)) :
    Wire.pairsUntagged c kvs = true ↔
      ∀ p ∈ kvs, p.1.hasSelfDescribed = false ∧
        (p.1.labelChecked c = true → p.2.hasSelfDescribed = false) := by
  induction kvs with
  | nil => simp [Wire.pairsUntagged]
  | cons p r ih =>
    obtain ⟨k, v⟩ := p
    simp only [Wire.pairsUntagged, Bool.and_eq_true, ih, List.forall_mem_cons]
    cases k.hasSelfDescribed <;> cases v.hasSelfDescribed <;> cases k.labelChecked c <;> simp

/-- with every label checked the predicate says: no tag 55799 anywhere in the map -/
theorem Wire.pairsUntagged_none (kvs : List (Wire × Wire)) :
    Wire.pairsUntagged none kvs = !Wire.hasSelfDescribedPairs kvs := by
  induction kvs with
  | nil => rfl
  | cons p r ih =>
    obtain ⟨k, v⟩ := p
    simp only [Wire.pairsUntagged, Wire.hasSelfDescribedPairs, ih, Wire.labelChecked_none]
    cases k.hasSelfDescribed <;> cases v.hasSelfDescribed <;> simp

end CoseModel

namespace C05

/-- the transcription of `scanSelfDescribedTag`, run on the bytes of a well-formed item,
    returns the offset just past the item and whether tag 55799 occurs in it -/
theorem scan_bridge {w : Wire} {t : Bool} {d : Nat} (hwf : w.wf = true)
    (hl : w.inLimits t d = true) :
    scanSelfDescribedTag w.bytes 0 = (w.bytes.length, w.hasSelfDescribed) :=
  scanSelfDescribedTag_bytes hwf hl

/-- the same wherever the item stands in a larger byte string -/
theorem scan_bridge_at {w : Wire} {t : Bool} {d : Nat} (pre post : Bytes) (hwf : w.wf = true)
    (hl : w.inLimits t d = true) :
    scanSelfDescribedTag (pre ++ (w.bytes ++ post)) pre.length
      = (pre.length + w.bytes.length, w.hasSelfDescribed) :=
  scanSelfDescribedTag_at pre post hwf hl

/-- `ensureUntaggedHeaderLabels` on the bytes of a well-formed map is the structural
    predicate: no label holds tag 55799, and no value of a checked label does -/
theorem ensure_bridge {hw : HW} {kvs : List (Wire × Wire)} {t : Bool} {d : Nat}
    (c : Option (Nat → Bool)) (hwf : (Wire.map hw kvs).wf = true)
    (hl : (Wire.map hw kvs).inLimits t d = true) :
    ensureUntaggedHeaderLabels (Wire.map hw kvs).bytes c = true ↔
      ∀ p ∈ kvs, p.1.hasSelfDescribed = false ∧
        (p.1.labelChecked c = true → p.2.hasSelfDescribed = false) := by
  rw [ensureUntagged_map_bytes c hwf hl, Wire.pairsUntagged_iff]

/-- what a parsed input passing the scan means, on the parse tree of the bytes as received -/
theorem scanned_parse {t : Bool} {data : Bytes} {hw : HW} {kvs : List (Wire × Wire)}
    (c : Option (Nat → Bool)) (hp : parseTop t data = some (.map hw kvs))
    (hs : ensureUntaggedHeaderLabels data c = true) : Wire.pairsUntagged c kvs = true := by
  obtain ⟨rfl, hwf, hl⟩ := parseTop_sound hp
  rwa [ensureUntagged_map_bytes c hwf hl] at hs

/-- the protected bucket: an accepted non-empty content parses to a map in which, as
    received, no label holds tag 55799 and no value of a type-checked label does -/
theorem protected_accept_untagged (enc : Bytes) (m : GoMap)
    (h : decProtectedContent enc = .ok m) :
    enc = [] ∨ ∃ hw kvs, parseTop true enc = some (.map hw kvs) ∧
      Wire.pairsUntagged (some typeCheckedHeaderLabel) kvs = true := by
  unfold decProtectedContent at h
  split at h
  · exact .inl rfl
  · right
    split at h
    · cases h
    · split at h
      · rename_i hw kvs hpt
        obtain ⟨_, -, h⟩ := Out.bind_eq_ok.mp h
        split at h
        · cases h
        · rename_i hs
          simp only [Bool.not_eq_true', Bool.not_eq_false] at hs
          exact ⟨hw, kvs, hpt, scanned_parse _ hpt hs⟩
      · cases h

/-- the unprotected bucket decoder ran the scan on the bytes of the map it accepted -/
theorem decUnprot_accept_scanned (u : Wire) (um : GoMap) (h : decUnprot u = .ok um) :
    ∃ hw kvs, u = .map hw kvs ∧ headerLabelsUntagged u.bytes = true := by
  cases u with
  | map hw kvs =>
    refine ⟨hw, kvs, rfl, ?_⟩
    unfold decUnprot at h
    cases hl : labelsOK kvs [] with
    | ok x =>
      simp only [hl] at h
      split at h
      · cases h
      · rename_i hs
        simpa using hs
    | err e => simp [hl] at h
    | panic => simp [hl] at h
    | unmodelled => simp [hl] at h
  | _ => simp [decUnprot] at h

/-- direct call of `UnprotectedHeader.UnmarshalCBOR` -/
theorem unprotected_accept_untagged (data : Bytes) (m : GoMap)
    (h : Unprotected.unmarshal data = .ok m) :
    ∃ hw kvs, parseTop true data = some (.map hw kvs) ∧
      Wire.pairsUntagged (some typeCheckedHeaderLabel) kvs = true := by
  unfold Unprotected.unmarshal at h
  split at h
  · cases h
  · split at h
    · cases h
    · split at h
      · rename_i w hp
        split at h
        · -- tagged input is refused: the tags-forbidden well-formedness pass comes first
          cases h
        · obtain ⟨hw, kvs, rfl, hs⟩ := decUnprot_accept_scanned w m h
          have hd := (parseTop_sound hp).1
          exact ⟨hw, kvs, hp, scanned_parse _ hp (by rw [hd]; exact hs)⟩
      · cases h

/-- direct call of `ProtectedHeader.UnmarshalCBOR`: the item is a byte string whose
    content, when not empty, satisfies `protected_accept_untagged` -/
theorem protected_unmarshal_untagged (data : Bytes) (m : GoMap)
    (h : Protected.unmarshal data = .ok m) :
    ∃ hw enc, parseTop false data = some (.bstr hw enc) ∧
      (enc = [] ∨ ∃ hw' kvs, parseTop true enc = some (.map hw' kvs) ∧
        Wire.pairsUntagged (some typeCheckedHeaderLabel) kvs = true) := by
  unfold Protected.unmarshal at h
  split at h
  · rename_i w hp
    unfold decProtected at h
    split at h
    · rename_i hw enc
      exact ⟨hw, enc, hp, protected_accept_untagged enc m h⟩
    · cases h
  · cases h

/-- at item level: an accepted protected bucket is a byte string whose content, when not
    empty, satisfies `protected_accept_untagged` -/
theorem decProtected_accept_untagged (p : Wire) (pm : GoMap) (h : decProtected p = .ok pm) :
    ∃ hw enc, p = .bstr hw enc ∧
      (enc = [] ∨ ∃ hw' kvs, parseTop true enc = some (.map hw' kvs) ∧
        Wire.pairsUntagged (some typeCheckedHeaderLabel) kvs = true) := by
  unfold decProtected at h
  split at h
  · rename_i hw enc
    exact ⟨hw, enc, rfl, protected_accept_untagged enc pm h⟩
  · cases h

/-- composed with the envelope theorem: in an accepted COSE_Sign1 the protected bucket, as
    received, has no tag 55799 in a label nor in the value of a type-checked label (and the
    unprotected bucket, inside the tag-free envelope, has no tag at all) -/
theorem sign1_accept_untagged (tagged : Bool) (b : Bytes) (m : Sign1Msg)
    (h : Sign1.unmarshal tagged b = .ok m) :
    ∃ (hw : HW) (p u pl sg : Wire) (hwp : HW) (enc : Bytes),
      b = (if tagged then 0xd2 :: (Wire.arr hw [p, u, pl, sg]).bytes
           else (Wire.arr hw [p, u, pl, sg]).bytes) ∧
      p = .bstr hwp enc ∧ u.hasTag = false ∧
      (enc = [] ∨ ∃ hw' kvs, parseTop true enc = some (.map hw' kvs) ∧
        Wire.pairsUntagged (some typeCheckedHeaderLabel) kvs = true) := by
  obtain ⟨hw, p, u, pl, sg, arr, hb, harr, -, hnt, -, -, -, hp, -, -, -⟩ :=
    sign1_accept_envelope tagged b m h
  obtain ⟨hwp, enc, hpe, hs⟩ := decProtected_accept_untagged p _ hp
  subst harr
  refine ⟨hw, p, u, pl, sg, hwp, enc, hb, hpe, ?_, hs⟩
  simp only [Wire.hasTag, Wire.hasTagList, Bool.or_eq_false_iff] at hnt
  exact hnt.2.1

end C05

namespace C13

/-- read entry by entry: in an accepted protected bucket no label holds tag 55799, and the
    value of every type-checked label (1–7, 9, 11, 12, 16, 258–260, whatever head width the
    label is written with) is free of it — on the bytes as received, before any decoding -/
theorem protected_typechecked_values_untagged (enc : Bytes) (m : GoMap)
    (h : decProtectedContent enc = .ok m) (hne : enc ≠ []) :
    ∃ hw kvs, parseTop true enc = some (.map hw kvs) ∧
      ∀ p ∈ kvs, p.1.hasSelfDescribed = false ∧
        ∀ w n, p.1 = .uint w n → typeCheckedHeaderLabel n = true →
          p.2.hasSelfDescribed = false := by
  rcases C05.protected_accept_untagged enc m h with he | ⟨hw, kvs, hp, hs⟩
  · exact absurd he hne
  · refine ⟨hw, kvs, hp, fun p hpm => ?_⟩
    obtain ⟨h1, h2⟩ := (Wire.pairsUntagged_iff _ kvs).mp hs p hpm
    refine ⟨h1, fun w n hk hc => h2 ?_⟩
    rw [hk]
    simpa [Wire.labelChecked] using hc

theorem unprotected_typechecked_values_untagged (data : Bytes) (m : GoMap)
    (h : Unprotected.unmarshal data = .ok m) :
    ∃ hw kvs, parseTop true data = some (.map hw kvs) ∧
      ∀ p ∈ kvs, p.1.hasSelfDescribed = false ∧
        ∀ w n, p.1 = .uint w n → typeCheckedHeaderLabel n = true →
          p.2.hasSelfDescribed = false := by
  obtain ⟨hw, kvs, hp, hs⟩ := C05.unprotected_accept_untagged data m h
  refine ⟨hw, kvs, hp, fun p hpm => ?_⟩
  obtain ⟨h1, h2⟩ := (Wire.pairsUntagged_iff _ kvs).mp hs p hpm
  refine ⟨h1, fun w n hk hc => h2 ?_⟩
  rw [hk]
  simpa [Wire.labelChecked] using hc

end C13

namespace C15

/-- an accepted COSE_Key does not start with a tag head, parses to a map, and that map —
    as received — holds tag 55799 nowhere (every label is checked) -/
theorem key_accept_untagged (data : Bytes) (k : Key) (h : Key.unmarshal data = .ok k) :
    isTagByte data = false ∧
    ∃ hw kvs, parseTop true data = some (.map hw kvs) ∧
      Wire.hasSelfDescribedPairs kvs = false := by
  unfold Key.unmarshal at h
  split at h
  · cases h
  · rename_i ht
    refine ⟨by simpa using ht, ?_⟩
    split at h
    · cases h
    · rename_i hw kvs hp
      split at h
      · cases h
      · rename_i hs
        simp only [Bool.not_eq_true', Bool.not_eq_false] at hs
        have := C05.scanned_parse none hp hs
        rw [Wire.pairsUntagged_none] at this
        exact ⟨hw, kvs, hp, by simpa using this⟩
    · cases h

/-- the first byte of an accepted COSE_Key is a map head (major type 5) -/
theorem key_accept_first_byte (data : Bytes) (k : Key) (h : Key.unmarshal data = .ok k) :
    ∃ b0 r, data = b0 :: r ∧ b0.toNat / 32 = 5 := by
  obtain ⟨-, hw, kvs, hp, -⟩ := key_accept_untagged data k h
  obtain ⟨rfl, hwf, -⟩ := parseTop_sound hp
  exact Wire.bytes_major hwf

end C15

namespace C07

/-- no over-refusal: the scan lets through every well-formed map whose labels are free of
    tag 55799 and whose type-checked labels have values free of it — whatever tags (55799
    included) stand in the values of the other labels -/
theorem scan_accepts {hw : HW} {kvs : List (Wire × Wire)} {t : Bool} {d : Nat}
    (c : Option (Nat → Bool)) (hwf : (Wire.map hw kvs).wf = true)
    (hl : (Wire.map hw kvs).inLimits t d = true)
    (h : ∀ p ∈ kvs, p.1.hasSelfDescribed = false ∧
        (p.1.labelChecked c = true → p.2.hasSelfDescribed = false)) :
    ensureUntaggedHeaderLabels (Wire.map hw kvs).bytes c = true :=
  (C05.ensure_bridge c hwf hl).mpr h

/-- non-vacuity: `{-70001: 55799(5)}` (`a1 3a00011170 d9d9f7 05`) passes the header scan although
    tag 55799 stands in a value — label −70001 is not type-checked … -/
example : headerLabelsUntagged [0xa1, 0x3a, 0x00, 0x01, 0x11, 0x70, 0xd9, 0xd9, 0xf7, 0x05] = true := by
  decide

/-- … and it is an instance of `scan_accepts` with a value that does hold the tag -/
example :
    let kvs : List (Wire × Wire) := [(.nint .w4 70000, .tag .w2 55799 (.uint .imm 5))]
    (Wire.map .imm kvs).bytes = [0xa1, 0x3a, 0x00, 0x01, 0x11, 0x70, 0xd9, 0xd9, 0xf7, 0x05] ∧
    Wire.hasSelfDescribedPairs kvs = true ∧
    ensureUntaggedHeaderLabels (Wire.map .imm kvs).bytes (some typeCheckedHeaderLabel) = true := by
  refine ⟨by decide, by decide, ?_⟩
  apply scan_accepts (t := true) (d := 0) _ (by decide) (by decide)
  intro p hp
  simp only [List.mem_singleton] at hp
  subst hp
  exact ⟨by decide, by simp [Wire.labelChecked]⟩

/-- the same map as a COSE_Key is refused: there every label is checked -/
example : ensureUntaggedHeaderLabels
    [0xa1, 0x3a, 0x00, 0x01, 0x11, 0x70, 0xd9, 0xd9, 0xf7, 0x05] none = false := by decide

end C07

/-! ### concrete inputs -/

namespace C05

/-- `{1: 55799(-7)}`: tagged alg -/
example : headerLabelsUntagged [0xa1, 0x01, 0xd9, 0xd9, 0xf7, 0x26] = false := by decide
example : decProtectedContent [0xa1, 0x01, 0xd9, 0xd9, 0xf7, 0x26] = .err .other := by
  have hp : parseTop true [0xa1, 0x01, 0xd9, 0xd9, 0xf7, 0x26] =
      some (.map .imm [(.uint .imm 1, .tag .w2 55799 (.nint .imm 6))]) :=
    parseTop_complete (w := .map .imm [(.uint .imm 1, .tag .w2 55799 (.nint .imm 6))]) rfl rfl
  rw [decProtectedContent, if_neg (by decide), hp]
  rfl

/-- `{1: -7, 2: [55799(4), 1]}`: tagged entry of crit, at depth -/
example : headerLabelsUntagged [0xa2, 0x01, 0x26, 0x02, 0x82, 0xd9, 0xd9, 0xf7, 0x04, 0x01]
    = false := by decide

/-- `{15: {1: "iss"}, 1: 55799(-7)}`: tagged alg after a map-valued sibling (the scan has to walk
    the sibling to find where the next label starts) -/
example : headerLabelsUntagged
    [0xa2, 0x0f, 0xa1, 0x01, 0x63, 0x69, 0x73, 0x73, 0x01, 0xd9, 0xd9, 0xf7, 0x26] = false := by
  decide

/-- tag number 55799 written under a 4-byte head -/
example : (scanSelfDescribedTag [0xda, 0x00, 0x00, 0xd9, 0xf7] 0).2 = true := by decide
example : headerLabelsUntagged [0xa1, 0x01, 0xda, 0x00, 0x00, 0xd9, 0xf7, 0x26] = false := by decide

/-- `{55799(1): -7}`: tagged label -/
example : headerLabelsUntagged [0xa1, 0xd9, 0xd9, 0xf7, 0x01, 0x26] = false := by decide

/-- `{-70001: 55799(5)}` is accepted by the scan -/
example : headerLabelsUntagged [0xa1, 0x3a, 0x00, 0x01, 0x11, 0x70, 0xd9, 0xd9, 0xf7, 0x05] = true := by
  decide

end C05

namespace C15

/-- a COSE_Key wrapped in a tag is refused on its first byte (`Key.UnmarshalCBOR`, key.go:627) -/
example : (Key.unmarshal [0xd9, 0xd9, 0xf7, 0xa1, 0x01, 0x04]).isOk = false := by decide

/-- `{1: 55799(4), -1: h'aa'}`: tagged kty -/
example : Key.unmarshal [0xa2, 0x01, 0xd9, 0xd9, 0xf7, 0x04, 0x20, 0x41, 0xaa] = .err .other := by
  have hp : parseTop true [0xa2, 0x01, 0xd9, 0xd9, 0xf7, 0x04, 0x20, 0x41, 0xaa] =
      some (.map .imm [(.uint .imm 1, .tag .w2 55799 (.uint .imm 4)),
        (.nint .imm 0, .bstr .imm [0xaa])]) :=
    parseTop_complete (w := .map .imm [(.uint .imm 1, .tag .w2 55799 (.uint .imm 4)),
      (.nint .imm 0, .bstr .imm [0xaa])]) rfl rfl
  rw [Key.unmarshal, if_neg (by decide), hp]
  rfl

end C15
