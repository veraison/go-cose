/-
  Deep/NestedClosures — the end-to-end theorems for header maps whose values are nested
  (`RoundTrip.NestedMap`, `NestedBuckets.NestedMapAt d`: arrays and maps of any shape — `crit`, CWT
  claims, application parameters): COSE_Sign, countersignatures, the hash envelope
  (instances of the generic wire closures of `Deep/WireGeneric`, with the bucket lemmas of
  `Deep/NestedBuckets`) and the clear-raw fixpoint for COSE_Sign1.  The bucket level of that
  fixpoint (`NestedClosures.canonP` / `canonU`, `protected_canonN`, `unprotected_canonN`,
  `layer_cycleN`) stands in `Deep/ClearRaw`, under this namespace, because the scalar theorems
  there are derived from it; this file has the message level.

  Nesting depths: `NestedMapAt d h` says that every value of `h` fits when met at nesting depth
  `d` (the parser counts arrays and maps from 0 at the top item; limit `maxNested` = 32).  Which
  `d` a bucket needs is dictated by where its map item sits on the wire:
    protected bucket, anywhere            d = 1 (`NestedMap`)  a byte string, parsed on its own
    stand-alone unprotected bucket        d = 1                the map item is the top item
    COSE_Sign1 / COSE_Sign body / stand-alone COSE_Countersignature, unprotected
                                          d = 2                map item inside the message array
    signer slot of a COSE_Sign, unprotected
                                          d = 4 (`NestedSlot`) message array ∋ signatures array ∋
                                                               slot array ∋ map item
  Every `FlatMap` is `NestedMapAt d` for every `d`, every `FlatSlot` a `NestedSlot`.

  Hypotheses that remain, and why:
  * the data-model predicates at the depths above — the scope.  The depth is needed: for a signer
    slot `C01.signmsg_wire_nested_needs_depth4` (the decoder counts `MaxNestedLevels` 32 from the
    message; the unprotected encoder's own gate, in `UnprotectedHeader.MarshalCBOR`, counts from
    the bucket's map and lets 1 + 29 levels pass), for body / countersignature / Sign1
    `NestedBuckets.sign1_wire_nested_needs_depth2`; inside the data model `Pairwise KeyDistinct` for
    nested maps is needed (`NestedBuckets.protected_bucket_roundtrip_nested_needs_distinct`).
    Excluded: floats, simple values, `[]byte(nil)`, opaque values, countersignature values
    (labels 7 / 11; see `Deep/CsigClosures`).
  * COSE_Sign, countersignature, hash envelope: `UintOK` on top-level values, `length ≤ maxElems`,
    payload / signatures shorter than 2^64, `int64Range s.alg` (`GoSigner`), `Matches`, no retained
    raw buckets, `hok` / `henc` — as in the flat theorems, for the reasons given in
    `Deep/SignWireClosure` and `Deep/WireClosure`.  The preimage content type of a hash envelope
    stays scalar (the envelope rules accept only uint / text).
  * clear-raw: nothing but the two data-model hypotheses on the decoded maps (`UintOK`, sizes,
    validation, `ensureIV`, `modelledPairs`, the 2^64 bound on the protected content are derived
    from "the decoder accepted it"); `C09.unprotected_clear_raw_fixpoint_nested` keeps `hlim` (the
    item came out of the parser).  One cycle sorts the maps nested inside values too (the decoder
    keeps wire order at every depth: `NestedExamples.decoded_normal_needs_sorted`), so the
    canonical maps are `canonP` / `canonU`, and plain `sortEntries` only when the sender had
    sorted (`C09.clear_raw_sorted_nested`).  `C09.nested_of_plain_items` derives the two
    hypotheses from a condition on the input.
-/
import CoseProofs.Deep.NestedBuckets
import CoseProofs.Deep.SignWireClosure
import CoseProofs.Deep.ClearRaw
open CoseModel CoseSpec RoundTrip

namespace NestedClosures
open WireClosure SignWireClosure NestedBuckets ClearRaw

/-! ## COSE_Sign: the signer entries -/

/-- the scope for one signer slot of a COSE_Sign: no caller-supplied raw buckets, header maps with
    flat labels and nested values — the protected bucket is a byte string parsed on its own, so
    its values are met at depth 1; the slot is the element of an array inside the message array,
    so its unprotected map item sits at depth 3 and the values in it at depth 4 — and room for the
    `alg` entry `Sign` may add -/
def NestedSlot (sg : SigV) : Prop :=
  sg.h.rawP = none ∧ sg.h.rawU = none ∧ NestedMap sg.h.p ∧ NestedMapAt 4 sg.h.u ∧
    (∀ e ∈ sg.h.p, UintOK e.2) ∧ (∀ e ∈ sg.h.u, UintOK e.2) ∧
    sg.h.p.length < maxElems ∧ sg.h.u.length ≤ maxElems

theorem nestedSlot_of_flat {sg : SigV} (h : FlatSlot sg) : NestedSlot sg := by
  obtain ⟨h1, h2, h3, h4, h5, h6, h7, h8⟩ := h
  exact ⟨h1, h2, h3.nested, nestedMapAt_of_flat 4 h4, h5, h6, h7, h8⟩

theorem NestedSlot.wire {sg : SigV} (h : NestedSlot sg) :
    SlotWire (fun g => (sortEntries g).map decEntryN) (fun g => (sortEntries g).map normEntryN)
      sg := by
  obtain ⟨hrp, hru, hfp, hfu, hup, huu, hlp, hlu⟩ := h
  exact ⟨hrp, hru, gatedN hfp hup hlp, unprotWireN hfu huu hlu (by decide)⟩

/-! ## clear-raw with nested header values: what a cycle keeps -/

/-- `Algorithm()` is not changed by a clear-raw cycle.  After it `Algorithm()` is `algSpec m`
    (`algorithmOf_sorted_decEntryN`); before it too, because the value the protected-header
    decoder produced under label 1 is already retyped (`protected_decoded_fixed`). -/
theorem algorithmOf_canonP {enc : Bytes} {m : GoMap} (hd : decProtectedContent enc = .ok m)
    (hf : NestedMap m) : algorithmOf (canonP m) = algorithmOf m := by
  have hok := C13.validate_labels m true (C13.decoded_reencodable enc m hd)
  rw [canonP, algorithmOf_sorted_decEntryN hf.label hok, algSpec_eq, algorithmOf_eq]
  by_cases hex : ∃ e0 ∈ m, normalizeLabel e0.1 = some (lbl 1)
  · obtain ⟨e0, he0, hn0⟩ := hex
    have hk0 : normVal e0.1 = lbl 1 := by
      rw [normalizeLabel_flat (hf e0 he0).1] at hn0; exact Option.some.inj hn0
    have hv : algCast (normVal e0.2) = e0.2 := by
      have h3 := congrArg Prod.snd (protected_decoded_fixed hd e0 he0)
      simp only [decEntry, castEntry, normEntry, hk0] at h3
      rwa [if_pos (by simp [lbl, GoVal.keyEq])] at h3
    rw [lookupLabel_of_mem hok he0 normalizeLabel_lbl1 hn0]
    exact congrArg algOfVal hv
  · rw [lookupLabel_none normalizeLabel_lbl1 (fun e he hc => hex ⟨e, he, hc⟩)]

/-- what one clear-raw cycle keeps of a decoded header layer -/
theorem layer_canonN {d : Nat} {p u : Wire} {h : Hdrs} (D : DecodedLayer d p u h)
    (hfp : NestedMap h.p) (hfu : NestedMapAt (d + 1) h.u) :
    (canonP h.p).Perm (h.p.map decEntryN) ∧ (canonU h.u).Perm (h.u.map normEntryN) ∧
    (∀ e ∈ h.p, ∀ l, normalizeLabel l = normalizeLabel e.1 →
      lookupLabel h.p l = some e.2 ∧ lookupLabel (canonP h.p) l = some (decEntryN e).2) ∧
    (∀ e ∈ h.u, ∀ l, normalizeLabel l = normalizeLabel e.1 →
      lookupLabel h.u l = some e.2 ∧ lookupLabel (canonU h.u) l = some (normValN e.2)) ∧
    algorithmOf (canonP h.p) = algorithmOf h.p ∧ NestedMap (canonP h.p) ∧
    NestedMapAt (d + 1) (canonU h.u) := by
  obtain ⟨hw, enc, rfl, hpc, -⟩ := D.content
  exact ⟨(sortEntries_perm _).map decEntryN, (sortEntries_perm _).map normEntryN,
    C08.protected_lookup_roundtrip_nested h.p hfp (C13.decoded_reencodable enc _ hpc),
    C08.unprotected_lookup_roundtrip_nested h.u
      (NestedMapAt.mono (d := d + 1) (d' := 1) (by omega) hfu)
      (C13.decoded_unprot_reencodable u _ D.decU),
    algorithmOf_canonP hpc hfp,
    nestedMap_canonP hfp, nestedMapAt_canonU hfu⟩

/-- (nested form of `ClearRaw.clear_raw_core`) a decoded COSE_Sign1 whose header values are
    in the nested data model, raw bytes discarded, is emitted as bytes `b'` that decode to the
    canonical message, and that canonical message, raw bytes discarded, is emitted as `b'` again -/
theorem clear_raw_core_nested (tagged : Bool) (b : Bytes) (m : Sign1Msg)
    (hd : Sign1.unmarshal tagged b = .ok m) (hfp : NestedMap m.h.p) (hfu : NestedMapAt 2 m.h.u) :
    ∃ (b' : Bytes) (mc : Sign1Msg), Sign1.marshal tagged (clearRaw m) = .ok b' ∧
      Sign1.unmarshal tagged b' = .ok mc ∧ Sign1.marshal tagged (clearRaw mc) = .ok b' ∧
      mc.payload = m.payload ∧ mc.sig = m.sig ∧
      mc.h.p = canonP m.h.p ∧ mc.h.u = canonU m.h.u := by
  obtain ⟨p, u, D⟩ := sign1_decodedLayer hd
  obtain ⟨content, -, L⟩ := layer_cycleN D hfp hfu
  obtain ⟨b', h1, h2, h3⟩ := sign1_cycle tagged hd L
  exact ⟨b', _, h1, h2, h3, rfl, rfl, rfl, rfl⟩

/-! ## clear-raw with nested header values: one cycle reaches the fixpoint; decoded maps -/

/-- `canonP` is idempotent on validated buckets of the nested data model: a second clear-raw
    cycle changes nothing -/
theorem canonP_idem {m : GoMap} (hf : NestedMap m) (hu : ∀ e ∈ m, UintOK e.2)
    (hv : validateHeaderParameters m true = true) (hlen : m.length ≤ maxElems) :
    canonP (canonP m) = canonP m := by
  obtain ⟨content, -, hc0, hc1, hD, -⟩ := protected_canonN hf hu hv hlen
  obtain ⟨content2, -, hc0', hc1', hD', -⟩ :=
    protected_canonN (nestedMap_canonP hf) (protected_decoded_uintOK hD)
      (C13.decoded_reencodable _ _ hD) (by rw [canonP_length]; exact hlen)
  have hcc : content2 = content := by
    by_cases hne : m = []
    · subst hne
      rw [hc0 rfl, hc0' (by simp [canonP, sortEntries_nil])]
    · rw [hc1 hne, hc1' (canonP_ne_nil hne), canonP, mapWireN_canonP]
  rw [hcc, hD] at hD'
  exact (Out.ok.inj hD').symm

/-- the same for the unprotected bucket -/
theorem canonU_idem {d : Nat} {um : GoMap} (hf : NestedMapAt (d + 1) um)
    (hu : ∀ e ∈ um, UintOK e.2) (hv : validateHeaderParameters um false = true)
    (hlen : um.length ≤ maxElems) (hd : d + 1 ≤ maxNested) : canonU (canonU um) = canonU um := by
  obtain ⟨-, -, -, hD, -⟩ := unprotected_canonN hf hu hv hlen hd
  obtain ⟨-, -, -, hD', -⟩ := unprotected_canonN (nestedMapAt_canonU hf)
    (unprotected_decoded_uintOK hD) (C13.decoded_unprot_reencodable _ _ hD)
    (by rw [canonU_length]; exact hlen) hd
  rw [canonU, mapWireN_canonU, hD] at hD'
  exact (Out.ok.inj hD').symm

/-! ### a wire-side condition that puts the decoded maps in the nested data model -/

/-- if every value item of the map inside the protected byte string is plain (no
    float, no simple value other than false / true / null / undefined, at any depth), the decoded
    map is in the nested data model (nested form of `ClearRaw.protected_flat_of_scalar`) -/
theorem protected_nested_of_plain {enc : Bytes} {m : GoMap} (hd : decProtectedContent enc = .ok m)
    (hs : ∀ hw kvs, enc = (Wire.map hw kvs).bytes → (Wire.map hw kvs).wf = true →
      ∀ kv ∈ kvs, Plain kv.2 = true) : NestedMap m :=
  protected_decoded_vals hd rtVal_algCast
    (fun hw kvs he hwf kv hkv v hv hw2 hl2 =>
      rtVal_of_decoded kv.2 v true 1 hv hw2 hl2 (hs hw kvs he hwf kv hkv))

/-- unprotected, map item met at depth `d`: plain value items and no countersignature label
    (7, 11 — their values are typed `*Countersignature`, outside the data model) -/
theorem unprotected_nested_of_plain {hw : HW} {kvs : List (Wire × Wire)} {um : GoMap}
    {t : Bool} {d : Nat}
    (hd : decUnprot (.map hw kvs) = .ok um) (hwf : (Wire.map hw kvs).wf = true)
    (hlim : (Wire.map hw kvs).inLimits t d = true)
    (hs : ∀ kv ∈ kvs, Plain kv.2 = true) (hnc : ∀ e ∈ um, isCsigLabel e.1 = false) :
    NestedMapAt (d + 1) um :=
  unprotected_decoded_vals hd hwf hlim
    (fun kv hkv v hv hw2 hl2 => rtVal_of_decoded kv.2 v t (d + 1) hv hw2 hl2 (hs kv hkv))
    (fun _ _ e he hc _ => by rw [hnc e he] at hc; cases hc)

/-! ## hash envelope with nested header values: tools -/

theorem kind_normValN {d : Nat} {v : GoVal} (hv : RTVal d v) (hu : UintOK v) :
    (algKind v = true → algKind (normValN v) = true) ∧
    (canUint v = true → canUint (normValN v) = true) ∧
    (canText v = true → canText (normValN v) = true) := by
  cases hn : isNode v with
  | false =>
    rw [normValN_leaf hn]
    exact kind_normVal ((rtVal_leaf d hn).mp hv) hu
  | true =>
    cases v <;> simp only [isNode, reduceCtorEq] at hn <;>
      exact ⟨fun h => Bool.noConfusion h, fun h => Bool.noConfusion h, fun h => Bool.noConfusion h⟩

theorem hashWireN {du : Nat} {p u : GoMap} (hf : NestedMap p) (hu : ∀ e ∈ p, UintOK e.2)
    (hlen : p.length ≤ maxElems) (hfu : NestedMapAt du u) :
    HashWire p ((sortEntries p).map decEntryN) u ((sortEntries u).map normEntryN) where
  prot := protWireN hf hu hlen
  rules := hashRules_decoded decEntryN normEntryN
    (fun e he b hb => by
      obtain ⟨k1, k2, k3⟩ := kind_normValN (hf e he).2 (hu e he)
      exact protEntry_castEntry (protEntry_congr (e' := normEntryN e)
        (normalizeLabel_normVal (hf e he).1) k1 k2 k3 hb))
    (fun e he => by simp only [normEntryN]; exact normalizeLabel_normVal (hfu e he).1)
  alg hv := payloadHashAlgorithm_decoded decEntryN (C08.protected_lookup_roundtrip_nested p hf hv)
    (fun e he hne hv2 => by
      have hk : normVal e.1 = lbl 258 := by
        rw [normalizeLabel_flat (hf e he).1] at hne; exact Option.some.inj hne
      simp only [decEntryN, castEntry, normEntryN, hk, hv2]
      rw [if_neg (by simp [lbl, GoVal.keyEq])]
      rfl)

end NestedClosures

/-! ## COSE_Sign and countersignatures, nested header values -/

namespace C01
open WireClosure SignWireClosure NestedBuckets NestedClosures

/-- countersignature, end to end, every parent kind, nested header values (the nested form
    of `countersignature_wire_flat`): a stand-alone COSE_Countersignature is a top-level 3-array,
    so — exactly as for COSE_Sign1 — the protected values are met at depth 1 (`NestedMap`) and
    the unprotected values at depth 2 (`NestedMapAt 2`).  Additionally names the decoded header
    maps. -/
theorem countersignature_wire_nested (cs : SigV) (s : Signer) (v : Verifier) (parent : Parent)
    (ext : Option Bytes) (b : Bytes) (hm : Matches s v)
    (hrp : cs.h.rawP = none) (hru : cs.h.rawU = none)
    (hfp : NestedMap cs.h.p) (hfu : NestedMapAt 2 cs.h.u)
    (hup : ∀ e ∈ cs.h.p, UintOK e.2) (huu : ∀ e ∈ cs.h.u, UintOK e.2)
    (hlp : cs.h.p.length < maxElems) (hlu : cs.h.u.length ≤ maxElems)
    (halg : int64Range s.alg)
    (hsl : ∀ t sg, s.sign t = .ok sg → sg.length < 18446744073709551616)
    (hok : (Countersignature.sign cs s parent ext).out = .ok ())
    (henc : Signature.marshal (Countersignature.sign cs s parent ext).state = .ok b) :
    ∃ c2, Signature.unmarshal b = .ok c2 ∧ (Countersignature.verify c2 v parent ext).1 = .ok () ∧
      c2.sig = (Countersignature.sign cs s parent ext).state.sig ∧
      c2.h.p = (sortEntries (Countersignature.sign cs s parent ext).state.h.p).map decEntryN ∧
      c2.h.u = (sortEntries cs.h.u).map normEntryN := by
  obtain ⟨c2, h1, h2, h3, h4, h5, -⟩ :=
    countersignature_wire _ cs s parent ext b hrp hru (gatedN hfp hup hlp)
      (unprotWireN hfu huu hlu (by decide)) halg hsl hok henc
  exact ⟨c2, h1, h2 v hm, h3, h4, h5⟩

/-- COSE_Sign (any number n ≥ 1 of signers), end to end, nested header values (the nested
    form of `signmsg_wire_flat`): a message whose body and signer slots have header maps with flat
    labels and values in the nested data model that the library signed and encoded is decoded by
    the library, the decoded message verifies under the positionally matching verifiers with the
    same external data, and carries the signed payload, as many signer entries, and the signers'
    signatures.  Depths: body protected / slot protected values at depth 1 (`NestedMap`: a
    protected bucket is a byte string parsed on its own), body unprotected values at depth 2
    (`NestedMapAt 2`), slot unprotected values at depth 4 (`NestedSlot`).  Additionally names the
    decoded body header maps. -/
theorem signmsg_wire_nested (m : SignMsg) (ext : Option Bytes) (ss : List Signer)
    (vs : List Verifier) (b : Bytes) (hlen : ss.length = vs.length)
    (hm : ∀ i (h1 : i < ss.length) (h2 : i < vs.length), Matches ss[i] vs[i])
    (hrp : m.h.rawP = none) (hru : m.h.rawU = none)
    (hfp : NestedMap m.h.p) (hfu : NestedMapAt 2 m.h.u)
    (hup : ∀ e ∈ m.h.p, UintOK e.2) (huu : ∀ e ∈ m.h.u, UintOK e.2)
    (hlp : m.h.p.length ≤ maxElems) (hlu : m.h.u.length ≤ maxElems)
    (hslots : ∀ sg ∈ m.sigs, NestedSlot sg) (hn : m.sigs.length ≤ maxElems)
    (hpl : blen m.payload < 18446744073709551616) (hgs : ∀ s ∈ ss, GoSigner s)
    (hok : (Sign.sign m ext ss).out = .ok ())
    (henc : Sign.marshal (Sign.sign m ext ss).state = .ok b) :
    ∃ m2, Sign.unmarshal b = .ok m2 ∧ (Sign.verify m2 ext vs).1 = .ok () ∧
      m2.payload = m.payload ∧ m2.sigs.length = m.sigs.length ∧
      (∀ i (h1 : i < m2.sigs.length) (h2 : i < (Sign.sign m ext ss).state.sigs.length),
        m2.sigs[i].sig = (Sign.sign m ext ss).state.sigs[i].sig) ∧
      m2.h.p = (sortEntries m.h.p).map decEntryN ∧ m2.h.u = (sortEntries m.h.u).map normEntryN := by
  obtain ⟨m2, h1, h2, h3, h4, h5, h6, h7, -⟩ :=
    signmsg_wire _ _ m ext ss b hrp hru (protWireN hfp hup hlp)
      (unprotWireN hfu huu hlu (by decide)) (fun sg hsg => (hslots sg hsg).wire) hn hpl hgs
      hok henc
  exact ⟨m2, h1, h2 vs hlen hm, h3, h4, h5, h6, h7⟩

/-- COSE_Sign with detached payload, end to end, nested header values -/
theorem signmsg_wire_detached_nested (m : SignMsg) (ext : Option Bytes) (ss : List Signer)
    (vs : List Verifier) (b : Bytes) (hlen : ss.length = vs.length)
    (hm : ∀ i (h1 : i < ss.length) (h2 : i < vs.length), Matches ss[i] vs[i])
    (hrp : m.h.rawP = none) (hru : m.h.rawU = none)
    (hfp : NestedMap m.h.p) (hfu : NestedMapAt 2 m.h.u)
    (hup : ∀ e ∈ m.h.p, UintOK e.2) (huu : ∀ e ∈ m.h.u, UintOK e.2)
    (hlp : m.h.p.length ≤ maxElems) (hlu : m.h.u.length ≤ maxElems)
    (hslots : ∀ sg ∈ m.sigs, NestedSlot sg) (hn : m.sigs.length ≤ maxElems)
    (hgs : ∀ s ∈ ss, GoSigner s)
    (hok : (Sign.sign m ext ss).out = .ok ())
    (henc : Sign.marshal { (Sign.sign m ext ss).state with payload := none } = .ok b) :
    ∃ m2, Sign.unmarshal b = .ok m2 ∧
      (Sign.verify { m2 with payload := m.payload } ext vs).1 = .ok () ∧ m2.payload = none ∧
      m2.sigs.length = m.sigs.length := by
  obtain ⟨m2, hdec, hpay, hver, hl2, -⟩ :=
    signmsg_wire_with _ _ m ext ss none b hrp hru (protWireN hfp hup hlp)
      (unprotWireN hfu huu hlu (by decide)) (fun sg hsg => (hslots sg hsg).wire) hn
      (by simp [blen]) hgs hok henc
  exact ⟨m2, hdec, hver vs hlen hm, hpay, hl2⟩

end C01

/-! ## clear-raw fixpoint, nested header values -/

namespace C09
open WireClosure NestedBuckets NestedClosures ClearRaw

/-- protected bucket, clear-raw fixpoint, nested values (the nested form of
    `protected_clear_raw_fixpoint`).  Whatever content `ProtectedHeader.UnmarshalCBOR` accepted
    (any head widths, any key order at any depth), if the decoded parameters are in the nested
    data model then encoding the decoded map (no retained bytes) succeeds, gives a byte string
    whose content is not longer than the original, which decodes to `m' = (sortEntries m).map
    decEntryN` — the same labels, entries in the encoder's order, every map nested inside a value
    sorted; `m'` is again in the data model, `Algorithm()` and every lookup (up to `normValN` of
    the value) agree, and one cycle is enough: encoding `m'` gives the same bytes again and `m'`
    is its own canonical form. -/
theorem protected_clear_raw_fixpoint_nested (enc : Bytes) (m : GoMap)
    (hd : decProtectedContent enc = .ok m) (hf : NestedMap m) :
    ∃ (content : Bytes) (m' : GoMap),
      encodeBucket encCfg true none m = some (encBstr content) ∧
      content.length ≤ enc.length ∧
      decProtectedContent content = .ok m' ∧
      m' = (sortEntries m).map decEntryN ∧ m'.Perm (m.map decEntryN) ∧
      (∀ e ∈ m, ∀ l, normalizeLabel l = normalizeLabel e.1 →
        lookupLabel m l = some e.2 ∧ lookupLabel m' l = some (decEntryN e).2) ∧
      algorithmOf m' = algorithmOf m ∧ NestedMap m' ∧
      encodeBucket encCfg true none m' = some (encBstr content) ∧
      (sortEntries m').map decEntryN = m' := by
  have hv := C13.decoded_reencodable enc m hd
  obtain ⟨content, hle, h1, -, -, h4, h5⟩ := protected_decoded_canonN hd hf
  exact ⟨content, canonP m, h1, hle, h4, rfl, (sortEntries_perm m).map decEntryN,
    fun e he l hl => C08.protected_lookup_roundtrip_nested m hf hv e he l hl,
    algorithmOf_canonP hd hf, nestedMap_canonP hf, h5,
    canonP_idem hf (protected_decoded_uintOK hd) hv (protected_decoded_length hd)⟩

/-- unprotected bucket (stand-alone), clear-raw fixpoint, nested values.  `hlim`: the item
    came out of the parser (at most 131072 pairs). -/
theorem unprotected_clear_raw_fixpoint_nested (u : Wire) (um : GoMap) (hd : decUnprot u = .ok um)
    (hf : NestedMap um) {t : Bool} {d : Nat} (hlim : u.inLimits t d = true) :
    ∃ (u' : Wire) (um' : GoMap),
      encodeBucket encCfg false none um = some u'.bytes ∧
      u'.wf = true ∧ (∀ t, parseTop t u'.bytes = some u') ∧
      decUnprot u' = .ok um' ∧
      um' = (sortEntries um).map normEntryN ∧ um'.Perm (um.map normEntryN) ∧
      (∀ e ∈ um, ∀ l, normalizeLabel l = normalizeLabel e.1 →
        lookupLabel um l = some e.2 ∧ lookupLabel um' l = some (normValN e.2)) ∧
      NestedMap um' ∧
      encodeBucket encCfg false none um' = some u'.bytes ∧
      (sortEntries um').map normEntryN = um' := by
  have hd0 : 0 + 1 ≤ maxNested := by unfold maxNested; omega
  have hv := C13.decoded_unprot_reencodable u um hd
  have hu := unprotected_decoded_uintOK hd
  have hlen := unprotected_decoded_length hd hlim
  obtain ⟨h1, h2, h3, h4, h5⟩ := unprotected_canonN (d := 0) hf hu hv hlen hd0
  refine ⟨mapWireN um, canonU um, h1, h2, ?_, h4, rfl, (sortEntries_perm um).map normEntryN, ?_,
    nestedMapAt_canonU hf, h5,
    canonU_idem (d := 0) hf hu hv hlen hd0⟩
  · intro t
    exact parseTop_complete h2 (h3 t 0 (Nat.le_refl _))
  · intro e he l hl
    exact C08.unprotected_lookup_roundtrip_nested um hf hv e he l hl

/-- The nested form of `clear_raw_decodable`.
    A COSE_Sign1 the library decoded, whose decoded header values are in the nested data model
    (protected at depth 1, unprotected at depth 2 — where the parser met them), is re-encodable
    after the application discards the retained raw header bytes, and what is emitted is
    decodable again: same payload, same signature, the same header parameters in both buckets —
    entries in the encoder's order, maps nested inside values sorted (`decEntryN` / `normEntryN`;
    a decoded map is its own normal form only if the sender sorted it:
    `NestedExamples.decoded_normal_needs_sorted`) — every lookup agrees up to that normalisation,
    `Algorithm()` agrees, and the new maps are again in the data model. -/
theorem clear_raw_decodable_nested (tagged : Bool) (b : Bytes) (m : Sign1Msg)
    (hd : Sign1.unmarshal tagged b = .ok m) (hfp : NestedMap m.h.p) (hfu : NestedMapAt 2 m.h.u) :
    ∃ b', Sign1.marshal tagged { m with h := { m.h with rawP := none, rawU := none } } = .ok b' ∧
      ∃ m', Sign1.unmarshal tagged b' = .ok m' ∧ m'.payload = m.payload ∧ m'.sig = m.sig ∧
        m'.h.p = (sortEntries m.h.p).map decEntryN ∧
        m'.h.u = (sortEntries m.h.u).map normEntryN ∧
        m'.h.p.Perm (m.h.p.map decEntryN) ∧ m'.h.u.Perm (m.h.u.map normEntryN) ∧
        (∀ e ∈ m.h.p, ∀ l, normalizeLabel l = normalizeLabel e.1 →
          lookupLabel m.h.p l = some e.2 ∧ lookupLabel m'.h.p l = some (decEntryN e).2) ∧
        (∀ e ∈ m.h.u, ∀ l, normalizeLabel l = normalizeLabel e.1 →
          lookupLabel m.h.u l = some e.2 ∧ lookupLabel m'.h.u l = some (normValN e.2)) ∧
        algorithmOf m'.h.p = algorithmOf m.h.p ∧
        NestedMap m'.h.p ∧ NestedMapAt 2 m'.h.u := by
  obtain ⟨b', mc, h1, h2, -, hpay, hsig, hcp, hcu⟩ := clear_raw_core_nested tagged b m hd hfp hfu
  obtain ⟨p, u, D⟩ := sign1_decodedLayer hd
  refine ⟨b', h1, mc, h2, hpay, hsig, hcp, hcu, ?_⟩
  rw [hcp, hcu]
  exact layer_canonN D hfp hfu

/-- The nested form of `clear_raw_fixpoint`.  With `b'`, `m'` as in `clear_raw_decodable_nested`
    (any result of encoding the cleared message and decoding that):
    discarding the raw bytes of `m'` and encoding again gives `b'` again — the canonical form is
    reached after one cycle, although the first cycle may have re-sorted maps nested inside header
    values — and decoding it gives `m'` again (exactly, raw fields included). -/
theorem clear_raw_fixpoint_nested (tagged : Bool) (b : Bytes) (m : Sign1Msg)
    (hd : Sign1.unmarshal tagged b = .ok m) (hfp : NestedMap m.h.p) (hfu : NestedMapAt 2 m.h.u)
    (b' : Bytes) (m' : Sign1Msg)
    (he : Sign1.marshal tagged { m with h := { m.h with rawP := none, rawU := none } } = .ok b')
    (hd' : Sign1.unmarshal tagged b' = .ok m') :
    ∃ b'', Sign1.marshal tagged { m' with h := { m'.h with rawP := none, rawU := none } }
        = .ok b'' ∧ b'' = b' ∧ Sign1.unmarshal tagged b'' = .ok m' := by
  obtain ⟨b₁, mc, h1, h2, h3, -⟩ := clear_raw_core_nested tagged b m hd hfp hfu
  exact fixpoint_of_core (e := Sign1.marshal tagged) (c := clearRaw) h1 h2 h3 he hd'

/-- the decode / discard-raw / encode cycle `clearCycle` is idempotent on inputs whose
    decoded header values are in the nested data model -/
theorem clearCycle_idempotent_nested (tagged : Bool) (b b1 : Bytes)
    (hnest : ∀ m, Sign1.unmarshal tagged b = .ok m → NestedMap m.h.p ∧ NestedMapAt 2 m.h.u)
    (h : clearCycle tagged b = .ok b1) : clearCycle tagged b1 = .ok b1 := by
  refine idempotent_of_core (e := Sign1.marshal tagged) (c := clearRaw) (fun m hd => ?_) h
  obtain ⟨b₁, mc, h1, h2, h3, -⟩ :=
    clear_raw_core_nested tagged b m hd (hnest m hd).1 (hnest m hd).2
  exact ⟨b₁, mc, h1, h2, h3⟩

/-- when the sender had sorted every map nested inside the header values, the clear-raw cycle
    only reorders the top-level entries, exactly as in the flat case: `m'.h.p = sortEntries
    m.h.p`, `m'.h.u = sortEntries m.h.u` -/
theorem clear_raw_sorted_nested (tagged : Bool) (b : Bytes) (m : Sign1Msg)
    (hd : Sign1.unmarshal tagged b = .ok m)
    (hsp : ∀ e ∈ m.h.p, SortedN e.2) (hsu : ∀ e ∈ m.h.u, SortedN e.2) :
    (sortEntries m.h.p).map decEntryN = sortEntries m.h.p ∧
      (sortEntries m.h.u).map normEntryN = sortEntries m.h.u := by
  obtain ⟨p, u, D⟩ := sign1_decodedLayer hd
  obtain ⟨hw, enc, rfl, hpc, -⟩ := D.content
  exact ⟨canonP_of_sorted hpc hsp, canonU_of_sorted D.decU hsu⟩

/-- A condition on the wire that gives the two data-model hypotheses of the clear-raw theorems
    (the nested form of `flat_of_scalar_items`): the accepted input is the (unique) well-formed tree
    `[bstr enc, {kvsu}, pl, sg]`; every value item of the unprotected map, and of the map inside
    the protected byte string (if any), is plain (`Plain`: no float and no simple value other than
    false / true / null / undefined at any depth; arrays and maps of any shape are fine), and the
    unprotected map has no countersignature label (7, 11). -/
theorem nested_of_plain_items (tagged : Bool) (b : Bytes) (m : Sign1Msg)
    (hd : Sign1.unmarshal tagged b = .ok m)
    (hwp hwu : HW) (enc : Bytes) (kvsu : List (Wire × Wire)) (pl sg : Wire)
    (hb : b = (if tagged then [0xd2] else []) ++
      (Wire.arr .imm [.bstr hwp enc, .map hwu kvsu, pl, sg]).bytes)
    (hwf : (Wire.arr .imm [.bstr hwp enc, .map hwu kvsu, pl, sg]).wf = true)
    (hsp : ∀ hw kvs, enc = (Wire.map hw kvs).bytes → (Wire.map hw kvs).wf = true →
      ∀ kv ∈ kvs, Plain kv.2 = true)
    (hsu : ∀ kv ∈ kvsu, Plain kv.2 = true) (hnc : ∀ e ∈ m.h.u, isCsigLabel e.1 = false) :
    NestedMap m.h.p ∧ NestedMapAt 2 m.h.u := by
  have D := sign1_decodedLayer_of_tree hd hb hwf
  exact ⟨protected_nested_of_plain (enc := enc) D.decP hsp,
    unprotected_nested_of_plain (d := 1) D.decU D.wfU D.limU hsu hnc⟩

end C09

/-! ## the hash envelope, nested header values -/

namespace C12
open WireClosure NestedBuckets NestedClosures

/-- hash envelope, closed loop across the wire, end to end, nested header values (the nested
    form of `henv_closed_flat`): what `SignHashEnvelope` emits for caller headers whose values are
    in the nested data model (`crit`, CWT claims, application arrays / maps; no retained raw
    unprotected bytes), `VerifyHashEnvelope` with the matching verifier accepts, returning the
    signed hash value.  The preimage content type stays a scalar (the hash-envelope rules accept
    only an unsigned integer or a text there). -/
theorem henv_closed_nested (s : Signer) (v : Verifier) (h : Hdrs) (p : HashPayload) (b : Bytes)
    (hm : C01.Matches s v) (hru : h.rawU = none)
    (hfp : NestedMap h.p) (hfu : NestedMapAt 2 h.u)
    (hup : ∀ e ∈ h.p, UintOK e.2) (huu : ∀ e ∈ h.u, UintOK e.2)
    (hlp : h.p.length + 3 < maxElems) (hlu : h.u.length ≤ maxElems)
    (hpa : int64Range p.alg) (hpct : ∀ x, p.pct = some x → FlatVal x ∧ UintOK x)
    (hloc : utf8Valid p.location = true ∧ p.location.length < 18446744073709551616)
    (halg : int64Range s.alg)
    (hsl : ∀ t sg, s.sign t = .ok sg → sg.length < 18446744073709551616)
    (hpl : hashSize p.alg = 0 → blen p.value < 18446744073709551616)
    (hsign : (signHashEnvelope s h p).1 = .ok b) :
    ∃ m3, (verifyHashEnvelope v b).1 = .ok m3 ∧ m3.payload = p.value := by
  refine henv_closed (fun g => (sortEntries g).map decEntryN) s v h p b hm hru (fun ha hg => ?_)
    (unprotWireN hfu huu hlu (by decide)) halg hsl hpl hsign
  have hfprot : NestedMap (setHashEnvelopeProtectedHeader h.p p) :=
    hashProt_keeps (C := NestedMapAt 1) hfp
      (fun _ hg => nestedMapAt_set hg (flatLabel_lbl (by decide))
        (RTVal.of_flat 1 (v := .alg p.alg) hpa))
      (fun _ x hx hg => nestedMapAt_set hg (flatLabel_lbl (by decide))
        (RTVal.of_flat 1 (hpct x hx).1))
      (fun _ hg => nestedMapAt_set hg (flatLabel_lbl (by decide))
        (RTVal.of_flat 1 (v := .str p.location) hloc))
  obtain ⟨hf', hu', hl'⟩ :=
    sign_gate_nested hg hfprot (hashProt_uintOK hup fun x hx => (hpct x hx).2) ha
  have := hashProt_length h.p p
  exact hashWireN hf' hu' (by omega) hfu

end C12

/-! ## non-vacuity: COSE_Sign with nested header values

In the examples of this file `exS7`, `exV7`, `exSV7`, `ex_det2` come from `Deep/Chain`, `exF_mpP`,
`exS7_go` from `Deep/WireClosure`, `exHd*`, `exPar` from `Deep/SignWireClosure`, `exNest*` from
`Deep/NestedBuckets`. -/

namespace C01
open WireClosure SignWireClosure NestedBuckets NestedClosures

/-- slot headers with a nested array value in the unprotected bucket: protected `{1: ES256}`,
    unprotected `{99: [1, [2]]}` -/
def exHdA : Hdrs :=
  { p := [(lbl 1, .alg (-7))], u := [(lbl 99, .arr [.int .i 1, .arr [.int .i 2]])] }

/-- the unprotected bucket `{99: [1, [2]]}` is emitted as `a1 18 63 82 01 81 02`, whatever Go
    integer type the elements have -/
theorem ex99_enc (k : IntKind) :
    encodeBucket encCfg false none [(lbl 99, .arr [.int k 1, .arr [.int k 2]])]
      = some [0xa1, 0x18, 0x63, 0x82, 0x01, 0x81, 0x02] := by
  have hw := wellformedNoTags_bytes
    (w := .map .imm [(.uint .w1 99, .arr .imm [.uint .imm 1, .arr .imm [.uint .imm 2]])])
    (by decide) (by decide)
  rw [encodeBucket_lbl99]
  simp only [encodeAny, encodeList, Option.bind_some, Bool.false_eq_true, if_false]
  exact if_pos hw

theorem exHdA_mpU : marshalUnprotected exHdA = .ok [0xa1, 0x18, 0x63, 0x82, 0x01, 0x81, 0x02] :=
  ClearRaw.marshalUnprotected_of_bucket rfl (by decide) (ex99_enc .i)

theorem exHdA_marshal : exHdA.marshal
    = .ok ([0x43, 0xa1, 0x01, 0x26], [0xa1, 0x18, 0x63, 0x82, 0x01, 0x81, 0x02]) :=
  ClearRaw.hdrs_marshal_of (by decide) exF_mpP exHdA_mpU

theorem exHdA_slot : NestedSlot { h := exHdA } := by
  refine ⟨rfl, rfl, ?_, ?_, ?_, ?_, by simp [exHdA, maxElems], by simp [exHdA, maxElems]⟩ <;>
    intro e he <;> simp only [exHdA, List.mem_singleton] at he <;> subst he
  · simp [lbl, FlatLabel, RTVal, FlatVal, int64Range]
  · simp [lbl, FlatLabel, RTVal, RTList, FlatVal, int64Range, maxNested, maxElems]
  · simp [UintOK]
  · simp [UintOK]

/-- a COSE_Sign whose body is `exNest.h` — protected `{1: ES256, 2: [int(-70001)],
    -70001: [1, {2: true}]}` (a `crit` parameter naming an application parameter whose value is an
    array holding a map), unprotected `{15: {4: 1700000000, 1: "iss"}}` — with two signer slots:
    the flat `exHd` and `exHdA` (unprotected `{99: [1, [2]]}`) -/
def exMsgNest : SignMsg :=
  { h := exNest.h, payload := some [1, 2, 3], sigs := [{ h := exHd }, { h := exHdA }] }

/-- a signer slot with protected `{1: ES256}` is signed by `exS7` over any body protected bytes
    `bp` that are a deterministic byte string -/
theorem exSlot_sign (hd : Hdrs) {bp bp' : Bytes} (hrp : hd.rawP = none)
    (hp : hd.p = [(lbl 1, .alg (-7))])
    (hmp : marshalProtected hd = .ok [0x43, 0xa1, 0x01, 0x26])
    (hb : bodyProtOK bp = true) (hdet : detBstr bp = .ok bp') :
    (Signature.sign { h := hd } exS7 bp (some [1, 2, 3]) none).out = .ok () ∧
    (Signature.sign { h := hd } exS7 bp (some [1, 2, 3]) none).state
      = { h := hd, sig := some [7] } := by
  obtain ⟨rp, p, ru, u⟩ := hd
  simp only at hrp hp
  subst hrp hp
  have hg : ensureSigningAlgorithm none [(lbl 1, .alg (-7))] (-7) none
      = .ok [(lbl 1, .alg (-7))] := by rfl
  obtain ⟨t, ht⟩ : ∃ t, Signature.toBeSigned
      { h := { rawP := none, p := [(lbl 1, .alg (-7))], rawU := ru, u := u }, sig := none }
      bp (some [1, 2, 3]) none = .ok t := by
    simp [Signature.toBeSigned, hmp, ex_det2, hdet, bind, Out.bind]
  simp [Signature.sign, blen, hb, hg, ht, exS7]

theorem exMsgNest_sign : (Sign.sign exMsgNest none [exS7, exS7]).out = .ok () ∧
    (Sign.sign exMsgNest none [exS7, exS7]).state =
      { h := exNest.h, payload := some [1, 2, 3],
        sigs := [{ h := exHd, sig := some [7] }, { h := exHdA, sig := some [7] }] } := by
  have hp : exMsgNest.payload = some [1, 2, 3] := rfl
  have hh : exMsgNest.h = exNest.h := rfl
  have hsg : exMsgNest.sigs = [{ h := exHd }, { h := exHdA }] := rfl
  have s1 := exSlot_sign exHd rfl rfl exHd_mpP (by decide) exNest_det
  have s2 := exSlot_sign exHdA rfl rfl exF_mpP (by decide) exNest_det
  simp [Sign.sign, hp, hh, hsg, exNest_mpP, signLoop, s1.1, s1.2, s2.1, s2.2]

theorem exMsgNest_marshal :
    ∃ b, Sign.marshal (Sign.sign exMsgNest none [exS7, exS7]).state = .ok b := by
  rw [exMsgNest_sign.2]
  have hs1 := ClearRaw.signature_marshal_of_hdrs (s := { h := exHd, sig := some [7] })
    (by decide) exHd_marshal
  have hs2 := ClearRaw.signature_marshal_of_hdrs (s := { h := exHdA, sig := some [7] })
    (by decide) exHdA_marshal
  exact ⟨_, ClearRaw.sign_marshal_of_hdrs (by simp)
    (ClearRaw.hdrs_marshal_of (by decide) exNest_mpP exNest_mpU)
    (by simp only [marshalSigs, hs1, hs2]; rfl)⟩

/-- non-vacuity of `signmsg_wire_nested` with two signer slots: every hypothesis holds for
    `exMsgNest` (body protected bucket with `crit` and an array-of-map parameter, body unprotected
    bucket with CWT claims, one slot with a nested array in its unprotected bucket) with the
    matching pairs `exS7`/`exV7`; the theorem yields the decoded message, which verifies, carries
    the payload and two signer entries, and whose body header maps are the decoded normal forms
    spelt out in `exNest_decP` / `exNest_decU` -/
example : ∃ b m2, Sign.marshal (Sign.sign exMsgNest none [exS7, exS7]).state = .ok b ∧
    Sign.unmarshal b = .ok m2 ∧ (Sign.verify m2 none [exV7, exV7]).1 = .ok () ∧
    m2.payload = some [1, 2, 3] ∧ m2.sigs.length = 2 ∧
    m2.h.p = [(lbl 1, .alg (-7)), (lbl 2, .arr [.int .i64 (-70001)]),
              (lbl (-70001), .arr [.int .i64 1, .map [(.int .i64 2, .bool true)]])] ∧
    m2.h.u = [(lbl 15, .map [(.int .i64 1, .str [0x69, 0x73, 0x73]),
                             (.int .i64 4, .int .i64 1700000000)])] := by
  obtain ⟨b, hb⟩ := exMsgNest_marshal
  obtain ⟨h1, h2, h3, h4⟩ := exNest_model
  obtain ⟨m2, hdec, hver, hpay, hl2, -, hp2, hu2⟩ :=
    signmsg_wire_nested exMsgNest none [exS7, exS7] [exV7, exV7] b rfl
      (by
        intro i h1 h2
        have : i = 0 ∨ i = 1 := by simp at h1; omega
        rcases this with rfl | rfl <;> exact exSV7)
      rfl rfl h1 h2 h3 h4 (by simp [exMsgNest, exNest, maxElems])
      (by simp [exMsgNest, exNest, maxElems])
      (by
        intro sg hsg
        simp only [exMsgNest, List.mem_cons, List.not_mem_nil, or_false] at hsg
        rcases hsg with rfl | rfl
        · exact nestedSlot_of_flat exHd_flatSlot
        · exact exHdA_slot)
      (by simp [exMsgNest, maxElems]) (by simp [exMsgNest, blen])
      (by
        intro s hs
        simp only [List.mem_cons, List.not_mem_nil, or_false, or_self] at hs
        subst hs
        exact exS7_go)
      exMsgNest_sign.1 hb
  exact ⟨b, m2, hb, hdec, hver, hpay, hl2, hp2.trans exNest_decP, hu2.trans exNest_decU⟩

end C01

/-! ## non-vacuity: clear-raw on a message whose nested maps are not canonical on the wire -/

namespace NestedClearRawExamples
open WireClosure NestedBuckets NestedClosures ClearRaw

/-- the map inside the protected bucket, as sent: `{2: [-70001], 1: -7, -70001: {2: true, 1: 0}}`
    — a `crit` parameter naming the application parameter -70001, top-level keys out of order
    (`02` before `01`), and the keys of the nested map out of order too -/
def exPMapN : Wire :=
  .map .imm [(.uint .imm 2, .arr .imm [.nint .w4 70000]), (.uint .imm 1, .nint .imm 6),
    (.nint .w4 70000, .map .imm [(.uint .imm 2, .prim .imm 21), (.uint .imm 1, .uint .imm 0)])]

def exPContN : Bytes :=
  [0xa3, 0x02, 0x81, 0x3a, 0x00, 0x01, 0x11, 0x70, 0x01, 0x26, 0x3a, 0x00, 0x01, 0x11, 0x70,
   0xa2, 0x02, 0xf5, 0x01, 0x00]

/-- the protected bucket: a 20-byte byte string -/
def exPuN : Wire := .bstr .imm exPContN

/-- unprotected bucket `a1 18 63 82 01 81 02`: `{99: [1, [2]]}` -/
def exUnN : Wire := .map .imm [(.uint .w1 99, .arr .imm [.uint .imm 1, .arr .imm [.uint .imm 2]])]

/-- `18([h'a302…0100', {99: [1, [2]]}, h'010203', h'07'])` -/
def exBN : Bytes :=
  [0xd2, 0x84, 0x54, 0xa3, 0x02, 0x81, 0x3a, 0x00, 0x01, 0x11, 0x70, 0x01, 0x26, 0x3a, 0x00, 0x01,
   0x11, 0x70, 0xa2, 0x02, 0xf5, 0x01, 0x00, 0xa1, 0x18, 0x63, 0x82, 0x01, 0x81, 0x02,
   0x43, 1, 2, 3, 0x41, 7]

/-- the same message after one clear-raw cycle: protected
    `a3 01 26 02 81 3a00011170 3a00011170 a2 01 00 02 f5` (both levels sorted) -/
def exBN' : Bytes :=
  [0xd2, 0x84, 0x54, 0xa3, 0x01, 0x26, 0x02, 0x81, 0x3a, 0x00, 0x01, 0x11, 0x70, 0x3a, 0x00, 0x01,
   0x11, 0x70, 0xa2, 0x01, 0x00, 0x02, 0xf5, 0xa1, 0x18, 0x63, 0x82, 0x01, 0x81, 0x02,
   0x43, 1, 2, 3, 0x41, 7]

/-- the decoded protected map: wire order kept at both levels -/
def exPmN : GoMap :=
  [(lbl 2, .arr [.int .i64 (-70001)]), (lbl 1, .alg (-7)),
   (lbl (-70001), .map [(.int .i64 2, .bool true), (.int .i64 1, .int .i64 0)])]

def exUmN : GoMap := [(lbl 99, .arr [.int .i64 1, .arr [.int .i64 2]])]

/-- the protected map after one cycle: top level and nested map sorted -/
def exPmN' : GoMap :=
  [(lbl 1, .alg (-7)), (lbl 2, .arr [.int .i64 (-70001)]),
   (lbl (-70001), .map [(.int .i64 1, .int .i64 0), (.int .i64 2, .bool true)])]

theorem exN_decPu : decProtected exPuN = .ok exPmN := by
  show decProtectedContent exPMapN.bytes = _
  rw [exPMapN, decProtectedContent_map (by decide) (by decide) (by decide)]
  rfl

theorem exN_decUn : decUnprot exUnN = .ok exUmN := by rfl

theorem exBN_tree : exBN = (if true then [0xd2] else []) ++
    (Wire.arr .imm [exPuN, exUnN, .bstr .imm [1, 2, 3], .bstr .imm [7]]).bytes := by decide

theorem exN_tree_wf :
    (Wire.arr .imm [exPuN, exUnN, .bstr .imm [1, 2, 3], .bstr .imm [7]]).wf = true := by decide

theorem exN_unmarshal : Sign1.unmarshal true exBN =
    .ok { h := { rawP := some exPuN.bytes, p := exPmN, rawU := some exUnN.bytes, u := exUmN },
          payload := some [1, 2, 3], sig := some [7] } := by
  rw [exBN_tree]
  exact C07.wf_sign1_accepted_full true (p := exPuN) (u := exUnN) (pl := .bstr .imm [1, 2, 3])
    (hw := .imm) (c := [7]) exN_tree_wf (by decide) exN_decPu exN_decUn (by decide)
    (.inr ⟨_, _, rfl⟩) (by decide)

/-- the data-model hypotheses follow from the wire-side condition `C09.nested_of_plain_items` -/
theorem exN_nested : NestedMap exPmN ∧ NestedMapAt 2 exUmN := by
  refine C09.nested_of_plain_items true exBN _ exN_unmarshal .imm .imm exPContN
    [(.uint .w1 99, .arr .imm [.uint .imm 1, .arr .imm [.uint .imm 2]])] (.bstr .imm [1, 2, 3])
    (.bstr .imm [7]) exBN_tree exN_tree_wf ?_ (by decide) (by decide)
  intro hw kvs he hwf
  have h2 := Reencode.bytes_inj (x := exPMapN) (by decide) hwf (by rw [← he]; decide)
  simp only [exPMapN, Wire.map.injEq] at h2
  obtain ⟨-, rfl⟩ := h2
  decide

/-- discarding the raw bytes and encoding gives `exBN'` -/
theorem exN_marshal_cleared (m : Sign1Msg) (hd : Sign1.unmarshal true exBN = .ok m) :
    Sign1.marshal true { m with h := { m.h with rawP := none, rawU := none } } = .ok exBN' := by
  cases exN_unmarshal.symm.trans hd
  have hP : encodeBucket encCfg true none exPmN
      = some [0x54, 0xa3, 0x01, 0x26, 0x02, 0x81, 0x3a, 0x00, 0x01, 0x11, 0x70, 0x3a, 0x00, 0x01,
             0x11, 0x70, 0xa2, 0x01, 0x00, 0x02, 0xf5] := by
    have hv : encCfg.validate exPmN true = true := by decide
    unfold exPmN lbl at hv ⊢
    simp only [encodeBucket, hv, encodePairs, encodeAny, encodeList, Bool.not_true,
      Bool.false_eq_true, if_false, if_true]
    rw [sortPairs_eq_of_perm (l' := [(encInt 1, encInt 0), (encInt 2, [0xf5])]) (.swap ..)
        (by decide) (by decide),
      sortPairs_eq_of_perm (l' := [(encInt 1, encInt (-7)), (encInt 2, _), (encInt (-70001), _)])
        (.swap ..) (by decide) (by decide)]
    rfl
  rw [sign1_marshal_of (by decide) (by decide) (marshalProtected_of_bucket rfl (by decide) hP)
    (marshalUnprotected_of_bucket rfl (by decide) (C01.ex99_enc .i64))]
  rfl

/-- what the cycle makes of the protected map: `decEntryN` sorts the nested map as well -/
theorem exN_sorted : sortEntries exPmN =
    [(lbl 1, .alg (-7)), (lbl 2, .arr [.int .i64 (-70001)]),
     (lbl (-70001), .map [(.int .i64 2, .bool true), (.int .i64 1, .int .i64 0)])] :=
  sortEntries_eq_of_perm (.swap ..) (by decide) (by decide)

theorem exN_canonP : (sortEntries exPmN).map decEntryN = exPmN' := by
  have hin : normValN (.map [(.int .i64 2, .bool true), (.int .i64 1, .int .i64 0)])
      = .map [(.int .i64 1, .int .i64 0), (.int .i64 2, .bool true)] := by
    rw [normValN_map, sortEntries_eq_of_perm (.swap ..) (by decide) (by decide)]
    rfl
  rw [exN_sorted]
  simp only [List.map, decEntryN, normEntryN, hin]
  rfl

/-- non-vacuity of `clear_raw_decodable_nested` / `clear_raw_fixpoint_nested`.  `exBN` decodes;
    its protected bucket holds `crit` and a nested map whose keys are not in the encoder's order;
    the decoded header values are in the nested data model (by the wire-side condition); the
    theorems apply: the cleared message encodes to `exBN' ≠ exBN`, `exBN'` decodes to a message
    with the same payload and signature whose protected map is `exPmN'` — top level and nested
    map sorted — with the same `Algorithm()`, and clearing and encoding that gives `exBN'`
    again. -/
example : ∃ m m', Sign1.unmarshal true exBN = .ok m ∧ m.h.p = exPmN ∧
    Sign1.marshal true { m with h := { m.h with rawP := none, rawU := none } } = .ok exBN' ∧
    exBN' ≠ exBN ∧
    Sign1.unmarshal true exBN' = .ok m' ∧ m'.payload = some [1, 2, 3] ∧ m'.sig = some [7] ∧
    m'.h.p = exPmN' ∧ m'.h.p ≠ sortEntries m.h.p ∧ algorithmOf m'.h.p = .found (-7) ∧
    Sign1.marshal true { m' with h := { m'.h with rawP := none, rawU := none } } = .ok exBN' := by
  obtain ⟨hfp, hfu⟩ := exN_nested
  obtain ⟨b', h1, m', h2, hpay, hsig, hp', -, -, -, -, -, halg, -, -⟩ :=
    C09.clear_raw_decodable_nested true exBN _ exN_unmarshal hfp hfu
  have hb : b' = exBN' := Out.ok.inj (h1.symm.trans (exN_marshal_cleared _ exN_unmarshal))
  subst hb
  obtain ⟨b'', h3, rfl, -⟩ :=
    C09.clear_raw_fixpoint_nested true exBN _ exN_unmarshal hfp hfu _ m' h1 h2
  have hp'' : m'.h.p = exPmN' := hp'.trans exN_canonP
  refine ⟨_, m', exN_unmarshal, rfl, h1, by decide, h2, hpay, hsig, hp'', ?_, ?_, h3⟩
  · rw [hp'', exN_sorted]
    simp [exPmN']
  · rw [halg]
    rfl

/-- the bucket theorem on the same data: the non-canonical protected content re-encodes to the
    canonical content, which decodes to `exPmN'`, a fixpoint -/
example : ∃ content, encodeBucket encCfg true none exPmN = some (encBstr content) ∧
    content.length ≤ exPContN.length ∧ decProtectedContent content = .ok exPmN' ∧
    encodeBucket encCfg true none exPmN' = some (encBstr content) ∧
    (sortEntries exPmN').map decEntryN = exPmN' := by
  obtain ⟨content, m', h1, h2, h3, h4, -, -, -, -, h5, h6⟩ :=
    C09.protected_clear_raw_fixpoint_nested exPContN exPmN exN_decPu exN_nested.1
  rw [exN_canonP] at h4
  subst h4
  exact ⟨content, h1, h2, h3, h5, h6⟩

end NestedClearRawExamples

/-! ## why a signer slot's unprotected values must fit at depth 4 -/

namespace NestedClosures
open WireClosure SignWireClosure NestedBuckets NestedExamples

/-- slot headers: protected `{1: ES256}`, unprotected `{99: [[…[nil]…]]}` with 29 nested arrays -/
def exHdDeep : Hdrs := { p := [(lbl 1, .alg (-7))], u := [(lbl 99, nestArr 29)] }

/-- a COSE_Sign with the flat body `exHd` and one signer slot with headers `exHdDeep` -/
def exMsgDeep : SignMsg :=
  { h := C01.exHd, payload := some [1, 2, 3], sigs := [{ h := exHdDeep }] }

def exDeepSU : Bytes := 0xa1 :: 0x18 :: 0x63 :: (List.replicate 29 0x81 ++ [0xf6])

theorem exHdDeep_mpU : marshalUnprotected exHdDeep = .ok exDeepSU := by
  refine ClearRaw.marshalUnprotected_of_bucket rfl
    ((modelledPairs_lbl99 _).trans (nestArr_modelled 29)) ?_
  show encodeBucket encCfg false none [(lbl 99, nestArr 29)] = _
  rw [encodeBucket_lbl99, nestArr_enc]
  exact if_pos (nestBucket_gate_ok (n := 29) (by decide))

theorem exHdDeep_marshal : exHdDeep.marshal = .ok ([0x43, 0xa1, 0x01, 0x26], exDeepSU) :=
  ClearRaw.hdrs_marshal_of (by decide) C01.exF_mpP exHdDeep_mpU

/-- the slot satisfies `NestedSlot` with depth 3 in place of depth 4 -/
theorem exHdDeep_slot3 : exHdDeep.rawP = none ∧ exHdDeep.rawU = none ∧ NestedMap exHdDeep.p ∧
    NestedMapAt 3 exHdDeep.u ∧ (∀ e ∈ exHdDeep.p, UintOK e.2) ∧ (∀ e ∈ exHdDeep.u, UintOK e.2) ∧
    exHdDeep.p.length < maxElems ∧ exHdDeep.u.length ≤ maxElems := by
  refine ⟨rfl, rfl, ?_, ?_, ?_, ?_, by simp [exHdDeep, maxElems], by simp [exHdDeep, maxElems]⟩ <;>
    intro e he <;> simp only [exHdDeep, List.mem_singleton] at he <;> subst he
  · simp [lbl, FlatLabel, RTVal, FlatVal, int64Range]
  · exact ⟨by simp [lbl, FlatLabel, int64Range], nestArr_rt 29 3 (by unfold maxNested; omega)⟩
  · simp [UintOK]
  · simp [UintOK, nestArr]

theorem exMsgDeep_sign : (Sign.sign exMsgDeep none [C01.exS7]).out = .ok () ∧
    (Sign.sign exMsgDeep none [C01.exS7]).state =
      { h := C01.exHd, payload := some [1, 2, 3], sigs := [{ h := exHdDeep, sig := some [7] }] } := by
  have hp : exMsgDeep.payload = some [1, 2, 3] := rfl
  have hh : exMsgDeep.h = C01.exHd := rfl
  have hsg : exMsgDeep.sigs = [{ h := exHdDeep }] := rfl
  have s1 := C01.exSlot_sign exHdDeep rfl rfl C01.exF_mpP (by decide) C01.ex_det2
  simp [Sign.sign, hp, hh, hsg, C01.exHd_mpP, signLoop, s1.1, s1.2]

/-- the bytes `MarshalCBOR` returns for the signed `exMsgDeep` -/
def exDeepSB : Bytes :=
  0xd8 :: 0x62 :: 0x84 :: 0x43 :: 0xa1 :: 0x01 :: 0x26 :: 0xa1 :: 0x04 :: 0x42 :: 0x31 :: 0x31 ::
  0x43 :: 1 :: 2 :: 3 :: 0x81 :: 0x83 :: 0x43 :: 0xa1 :: 0x01 :: 0x26 :: 0xa1 :: 0x18 :: 0x63 ::
  (List.replicate 29 0x81 ++ [0xf6, 0x41, 7])

theorem exMsgDeep_marshal :
    Sign.marshal (Sign.sign exMsgDeep none [C01.exS7]).state = .ok exDeepSB := by
  rw [exMsgDeep_sign.2]
  have hs := ClearRaw.signature_marshal_of_hdrs (s := { h := exHdDeep, sig := some [7] })
    (by decide) exHdDeep_marshal
  rw [ClearRaw.sign_marshal_of_hdrs (by simp) C01.exHd_marshal
    (by simp only [marshalSigs, hs]; rfl)]
  rfl

theorem exDeepS_parse (tail : Bytes) (hdeep : ∀ f, parseItem false f 4 tail = none) (f : Nat) :
    parseItem false (f + 13) 0
      (0x84 :: 0x43 :: 0xa1 :: 0x01 :: 0x26 :: 0xa1 :: 0x04 :: 0x42 :: 0x31 :: 0x31 ::
       0x43 :: 1 :: 2 :: 3 :: 0x81 :: 0x83 :: 0x43 :: 0xa1 :: 0x01 :: 0x26 :: 0xa1 :: 0x18 ::
       0x63 :: tail) = none := by
  simp [parseItem, parseItems, parsePairs, parseHead, maxNested, maxElems, hdeep]

end NestedClosures

namespace C01
open WireClosure SignWireClosure NestedBuckets NestedClosures NestedExamples

/-- In `signmsg_wire_nested` the unprotected values of a signer slot must fit at depth 4
    (`NestedSlot`: `NestedMapAt 4`): the slot is an array (depth 2) inside the signatures array
    (depth 1) inside the message array (depth 0), its unprotected map item sits at depth 3.
    `exMsgDeep` — flat body, one slot with unprotected `{99: [[…[nil]…]]}`, 29 nested arrays —
    satisfies every hypothesis with depth 3 in place of 4 (so the same headers make the round
    trip as a stand-alone COSE_Countersignature or in a COSE_Sign1: `NestedMapAt 2`); the
    library signs and encodes the message, and `UnmarshalCBOR` refuses the bytes (nesting level
    33 > 32).  The decoder has `MaxNestedLevels` 32 counted from the message; the gate in
    `UnprotectedHeader.MarshalCBOR` applies the same limit to the slot's bucket
    alone, which has 30 levels (`C08.unprotected_depth_gate`). -/
theorem signmsg_wire_nested_needs_depth4 :
    (exHdDeep.rawP = none ∧ exHdDeep.rawU = none ∧ NestedMap exHdDeep.p ∧
      NestedMapAt 3 exHdDeep.u ∧ (∀ e ∈ exHdDeep.p, UintOK e.2) ∧ (∀ e ∈ exHdDeep.u, UintOK e.2) ∧
      exHdDeep.p.length < maxElems ∧ exHdDeep.u.length ≤ maxElems) ∧
    (Sign.sign exMsgDeep none [exS7]).out = .ok () ∧
    Sign.marshal (Sign.sign exMsgDeep none [exS7]).state = .ok exDeepSB ∧
    Sign.unmarshal exDeepSB = .err .other := by
  refine ⟨exHdDeep_slot3, exMsgDeep_sign.1, exMsgDeep_marshal, ?_⟩
  have hdeep := fun f => parseItem_too_deep false [0xf6, 0x41, 7] 29 f 4
    (by unfold maxNested; omega) (by unfold maxNested; omega)
  have hf : fuelFor (0x84 :: 0x43 :: 0xa1 :: 0x01 :: 0x26 :: 0xa1 :: 0x04 :: 0x42 :: 0x31 ::
      0x31 :: 0x43 :: 1 :: 2 :: 3 :: 0x81 :: 0x83 :: 0x43 :: 0xa1 :: 0x01 :: 0x26 :: 0xa1 ::
      0x18 :: 0x63 :: (List.replicate 29 0x81 ++ [0xf6, 0x41, 7])) = 99 + 13 := by
    simp [fuelFor]
  simp only [exDeepSB, Sign.unmarshal, parseTop, hf, exDeepS_parse _ hdeep]

/-! ## non-vacuity: a countersignature and a hash envelope with nested header values -/

theorem exCsN_sign :
    (Countersignature.sign { h := exNest.h } exS7 (.sign1 exPar) none).out = .ok () ∧
    (Countersignature.sign { h := exNest.h } exS7 (.sign1 exPar) none).state
      = { h := exNest.h, sig := some [7] } := by
  have hps : exPar.sig = some [7] := rfl
  have hph : exPar.h = exHd := rfl
  have hpp : exPar.payload = some [1, 2, 3] := rfl
  have hg : ensureSigningAlgorithm exNest.h.rawP exNest.h.p (-7) none = .ok exNest.h.p := by rfl
  have hmp : marshalProtected
      { rawP := exNest.h.rawP, p := exNest.h.p, rawU := exNest.h.rawU, u := exNest.h.u }
      = .ok exNestP := exNest_mpP
  obtain ⟨t, ht⟩ : ∃ t, Countersignature.toBeSigned
      { h := { rawP := exNest.h.rawP, p := exNest.h.p, rawU := exNest.h.rawU, u := exNest.h.u },
        sig := none } (.sign1 exPar) none = .ok t := by
    simp [Countersignature.toBeSigned, countersignToBeSigned, hmp, exHd_mpP, hps, hph, hpp, blen,
      ex_det2, exNest_det, bind, Out.bind]
  simp [Countersignature.sign, blen, hg, ht, exS7]

/-- non-vacuity of `countersignature_wire_nested`: a fresh countersignature whose headers are
    `exNest.h` (protected bucket with `crit` and an array-of-map parameter, unprotected bucket
    with CWT claims) on a signed COSE_Sign1, with the matching pair `exS7`/`exV7` -/
example : ∃ b c2,
    Signature.marshal (Countersignature.sign { h := exNest.h } exS7 (.sign1 exPar) none).state
      = .ok b ∧ Signature.unmarshal b = .ok c2 ∧
    (Countersignature.verify c2 exV7 (.sign1 exPar) none).1 = .ok () ∧ c2.sig = some [7] ∧
    c2.h.p = [(lbl 1, .alg (-7)), (lbl 2, .arr [.int .i64 (-70001)]),
              (lbl (-70001), .arr [.int .i64 1, .map [(.int .i64 2, .bool true)]])] := by
  have hiv : ensureIV exNest.h.p exNest.h.u = true := by decide
  have hbm : exNest.h.marshal = .ok (exNestP, exNestU) := by
    simp [Hdrs.marshal, hiv, exNest_mpP, exNest_mpU, bind, Out.bind]
  have hb : Signature.marshal
      (Countersignature.sign { h := exNest.h } exS7 (.sign1 exPar) none).state
      = .ok (0x83 :: (exNestP ++ (exNestU ++ encBstr [7]))) := by
    rw [exCsN_sign.2]
    simp [Signature.marshal, hbm, blen, bind, Out.bind]
  obtain ⟨h1, h2, h3, h4⟩ := exNest_model
  obtain ⟨c2, hdec, hver, hsig, hp2, -⟩ :=
    countersignature_wire_nested { h := exNest.h } exS7 exV7 (.sign1 exPar) none _ exSV7 rfl rfl
      h1 h2 h3 h4 (by simp [exNest, maxElems]) (by simp [exNest, maxElems])
      exS7_go.1 exS7_go.2 exCsN_sign.1 hb
  refine ⟨_, c2, hb, hdec, hver, by rw [hsig, exCsN_sign.2], ?_⟩
  rw [hp2, exCsN_sign.2]
  exact exNest_decP

end C01

namespace C12
open WireClosure NestedBuckets NestedClosures

/-- the protected map `SignHashEnvelope` builds from the caller's `exNest.h.p` (`crit`, an
    array-of-map parameter) for a SHA-256 hash payload -/
def exHprotN : GoMap :=
  [(lbl 1, .alg (-7)), (lbl 2, .arr [.int .i (-70001)]),
   (lbl (-70001), .arr [.int .i 1, .map [(.int .i 2, .bool true)]]), (lbl 258, .alg (-16))]

def exHPN : Bytes :=
  [0x58, 0x18, 0xa4, 0x01, 0x26, 0x02, 0x81, 0x3a, 0x00, 0x01, 0x11, 0x70, 0x19, 0x01, 0x02, 0x2f,
   0x3a, 0x00, 0x01, 0x11, 0x70, 0x82, 0x01, 0xa1, 0x02, 0xf5]

theorem exHN_prot : setHashEnvelopeProtectedHeader C01.exNest.h.p exHp = exHprotN := by rfl

theorem exHN_sort :
    sortPairs [([1], [38]), ([2], [129, 58, 0, 1, 17, 112]),
               ([58, 0, 1, 17, 112], [130, 1, 161, 2, 245]), ([25, 1, 2], [47])]
      = [([1], [38]), ([2], [129, 58, 0, 1, 17, 112]), ([25, 1, 2], [47]),
         ([58, 0, 1, 17, 112], [130, 1, 161, 2, 245])] := by
  rw [sortPairs_perm_invariant _ [([1], [38]), ([2], [129, 58, 0, 1, 17, 112]), ([25, 1, 2], [47]),
    ([58, 0, 1, 17, 112], [130, 1, 161, 2, 245])]
    (List.Perm.cons _ (List.Perm.cons _ (List.Perm.swap ..))) (by decide)]
  exact sortPairs_of_sorted _ (by decide)

theorem exHN_valP : validateHeaderParameters exHprotN true = true := by decide

theorem exHN_mpP : marshalProtected { p := exHprotN, u := C01.exNest.h.u } = .ok exHPN := by
  have hv : validateHeaderParameters exHprotN true = true := exHN_valP
  simp only [exHprotN, lbl] at hv
  simp [marshalProtected, exHprotN, exHPN, GoVal.modelledPairs, GoVal.modelled,
    GoVal.modelledList, encodeBucket, encCfg, hv, lbl, encodePairs, encodeAny, encodeList, encInt,
    encHead, encBstr, HW.shortest, headBytes, sortPairs_one, exHN_sort, concatPairs]

theorem exHN_det : detBstr exHPN = .ok exHPN := by
  simp [exHPN, detBstr, parseTop, parseItem, fuelFor, parseHead]

def exHmN : Sign1Msg :=
  { h := { p := exHprotN, u := C01.exNest.h.u }, payload := some exHval, sig := none }

theorem exHN_sign : (Sign1.sign exHmN none C01.exS7).out = .ok () ∧
    (Sign1.sign exHmN none C01.exS7).state = { exHmN with sig := some [7] } := by
  have hg : ensureSigningAlgorithm none exHprotN (-7) none = .ok exHprotN := by rfl
  obtain ⟨t, ht⟩ : ∃ t, Sign1.toBeSigned
      { h := { p := exHprotN, u := C01.exNest.h.u }, payload := some exHval } none = .ok t :=
    ⟨_, C01.toBeSigned1_of
      (m := { h := { p := exHprotN, u := C01.exNest.h.u }, payload := some exHval })
      exHN_mpP exHN_det⟩
  simp [Sign1.sign, exHmN, blen, hg, ht, C01.exS7]

theorem exHN_signs :
    ∃ b, (signHashEnvelope C01.exS7 { p := C01.exNest.h.p, u := C01.exNest.h.u } exHp).1
      = .ok b := by
  have hvh : validateHash exHp.alg exHp.value = true := by
    simp [validateHash, exHp, hashSize, blen, exHval_len]
  have hr : validateHashEnvelopeHeaders exHprotN C01.exNest.h.u = true := by
    simp [validateHashEnvelopeHeaders, exHprotN, C01.exNest, hashProtLoop, hashUnprotOK,
      normalizeLabel, wrap64, lbl]
  have hmU : marshalUnprotected { p := exHprotN, u := C01.exNest.h.u } = .ok C01.exNestU :=
    C01.exNest_mpU
  have hiv : ensureIV exHprotN C01.exNest.h.u = true := by decide
  refine ⟨0xd2 :: 0x84 :: (exHPN ++ (C01.exNestU ++
    (optBytesEnc (some exHval) ++ encBstr [7]))), ?_⟩
  have hhelp : sign1Helper true { p := exHprotN, u := C01.exNest.h.u } (some exHval) none C01.exS7 =
      (Sign1.marshal true { exHmN with sig := some [7] },
        (Sign1.sign exHmN none C01.exS7).calls) := by
    have h1 : (Sign1.sign { h := { p := exHprotN, u := C01.exNest.h.u }, payload := some exHval }
        none C01.exS7).out = .ok () := exHN_sign.1
    have h2 : (Sign1.sign { h := { p := exHprotN, u := C01.exNest.h.u }, payload := some exHval }
        none C01.exS7).state = { exHmN with sig := some [7] } := exHN_sign.2
    simp only [sign1Helper, h1, h2]
    rfl
  have hunf : signHashEnvelope C01.exS7 { p := C01.exNest.h.p, u := C01.exNest.h.u } exHp =
      sign1Helper true { p := exHprotN, u := C01.exNest.h.u } (some exHval) none C01.exS7 := by
    simp only [signHashEnvelope, hvh, exHN_prot, hr, Bool.not_true, Bool.false_eq_true,
      if_false]
    rfl
  rw [hunf, hhelp]
  simp [Sign1.marshal, Sign1.content, Hdrs.marshal, exHmN, exHN_mpP, hmU, hiv, blen, bind,
    Out.bind]

/-- non-vacuity of `henv_closed_nested`: a SHA-256 hash envelope over caller headers with a
    `crit` parameter, an array-of-map application parameter and CWT claims -/
example : ∃ b m3,
    (signHashEnvelope C01.exS7 { p := C01.exNest.h.p, u := C01.exNest.h.u } exHp).1 = .ok b ∧
    (verifyHashEnvelope C01.exV7 b).1 = .ok m3 ∧ m3.payload = some exHval := by
  obtain ⟨b, hb⟩ := exHN_signs
  obtain ⟨g1, g2, g3, g4⟩ := C01.exNest_model
  obtain ⟨m3, h1, h2⟩ := henv_closed_nested C01.exS7 C01.exV7
    { p := C01.exNest.h.p, u := C01.exNest.h.u } exHp b C01.exSV7 rfl g1 g2 g3 g4
    (by simp [C01.exNest, maxElems]) (by simp [C01.exNest, maxElems])
    (by simp [exHp, int64Range]) (by intro x hx; cases hx)
    (by simp [exHp, utf8Valid]) (by simp [C01.exS7, int64Range])
    (by intro t sg h; cases h; simp) (by intro hz; simp [exHp, hashSize] at hz) hb
  exact ⟨b, m3, hb, h1, h2⟩

end C12
