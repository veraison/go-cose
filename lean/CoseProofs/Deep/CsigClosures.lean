/-
  Deep/CsigClosures — the end-to-end theorems for header buckets that carry countersignature
  values (unprotected labels 7 / 11, `GoVal.csig` / `GoVal.csigs`, to any nesting depth the decoder
  admits): COSE_Sign (body and signer slots) and the stand-alone countersignature as instances of
  the generic wire closures, on the buckets of `Deep/CsigRoundTrip`; and the clear-raw fixpoint for
  a decoded COSE_Sign1 whose unprotected bucket holds decoded countersignatures, where the
  application discards the retained raw bytes at every level (`clearRawDeep`, `clearV`: they
  mirror `clearRawVal none` / `Hdrs.clearRawTo none` of `CoseModel/Driver.lean`, the
  differential-test driver).

  Nesting depths are counted as in `Deep/NestedClosures`; a countersignature adds two levels, its
  3-array and its unprotected map.  `HMap d u`: the values of `u` are met at depth `d`.
    COSE_Sign body / stand-alone COSE_Countersignature, unprotected      `HMap 2`
    signer slot of a COSE_Sign, unprotected                               `HMap 4` (`CsigSlot`)
  so a countersignature in a slot has its own unprotected values at depth 6.  Every
  `NestedMapAt d` with `UintOK` values is an `HMap d`, every `NestedSlot` a `CsigSlot`.

  The value-level reasons for clear-raw: `clearV_csigOK` (a decoded, validated countersignature
  value of the data model, raw bytes discarded, is in the region `CsigOK` of `Deep/CsigRoundTrip`),
  `cnorm_clearV` / `cwire_clearV` (normal form and emitted item do not depend on retained raw
  bytes), `cwire_clear_cnorm` (`clearV (cnorm v)` is emitted as the same item as `v`), `decOK_cnorm`
  (what the decoder returns is again in the data model).

  Hypotheses that remain, and why:
  * wire closures: those of `signmsg_wire_nested` / `countersignature_wire_nested` with `HMap` in
    place of `NestedMapAt` + `UintOK` for the unprotected buckets (`HMap` contains `UintOK` for the
    plain values and everything the encoder checks for a countersignature: `CsigOK`).
  * clear-raw: only the two data-model hypotheses on the decoded maps.  `DMap d u`: every value is
    `RTVal d` (the nested data model, at the depth the parser met it) or a decoded
    countersignature value `DecOK d`: protected map a `NestedMap`, unprotected map a `DMap` again
    (depth + 2), and — the one clause that is not about header values — the retained
    `RawProtected` of every countersignature is shorter than 2^64 bytes.  That clause is true of
    every Go slice; it is there because `CsigRT.ProtOK` asks for the whole re-encoded protected
    item, head included, to be shorter than 2^64 bytes, and the re-encoding is never longer than
    the retained raw bytes (`protOK_of_decoded`, `shortest_head_mono`).  Labels need no
    hypothesis (`FlatLabel` is derived from the wire), nor do validation, `ensureIV`,
    `isCsigLabel`, sizes, depths, signatures.
  Re-encoding a countersignature whose protected bucket was not canonical changes its protected
  bytes, hence its `ToBeSigned`: expected clear-raw behaviour, outside these statements.  Not
  covered: the driver's `r = some []` variant (`RawX = RawX[:0]`; `encodeBucket` treats it like
  `none`, but `CsigOK` asks for `none`); a wire-side sufficient condition for `DMap`.
-/
import CoseProofs.Deep.CsigRoundTrip
import CoseProofs.Deep.NestedClosures
open CoseModel CoseSpec RoundTrip NestedBuckets

namespace CsigClosures
open CsigRT WireClosure SignWireClosure ClearRaw NestedClosures

/-! ### discarding the retained raw bytes, at every level -/

mutual
/-- `RawProtected = nil`, `RawUnprotected = nil` in every countersignature inside the value
    (mirrors `CoseModel.clearRawVal none` of the differential-test driver) -/
def clearV : GoVal → GoVal
  | .csig _ p _ u sg => .csig none p none (clearPairs u) sg
  | .csigs cs => .csigs (clearList cs)
  | v => v
def clearList : List GoVal → List GoVal
  | [] => []
  | x :: xs => clearV x :: clearList xs
def clearPairs : List (GoVal × GoVal) → List (GoVal × GoVal)
  | [] => []
  | (k, v) :: r => (k, clearV v) :: clearPairs r
end

def clearEntry (e : GoVal × GoVal) : GoVal × GoVal := (e.1, clearV e.2)

/-- the decoded message with all retained raw header bytes discarded: its own two buckets and,
    recursively, those of every countersignature in its unprotected bucket
    (mirrors `Hdrs.clearRawTo none` of the driver on the `h` field) -/
def clearRawDeep (m : Sign1Msg) : Sign1Msg :=
  { h := { rawP := none, p := m.h.p, rawU := none, u := clearPairs m.h.u },
    payload := m.payload, sig := m.sig }

theorem clearList_eq (xs : List GoVal) : clearList xs = xs.map clearV := by
  induction xs with
  | nil => rfl
  | cons x r ih => simp only [clearList, ih, List.map_cons]

theorem clearPairs_eq (g : GoMap) : clearPairs g = g.map clearEntry := by
  induction g with
  | nil => rfl
  | cons e r ih => obtain ⟨k, v⟩ := e; simp only [clearPairs, ih, List.map_cons, clearEntry]

theorem clearV_csig (rp ru sg : Option Bytes) (p u : GoMap) :
    clearV (.csig rp p ru u sg) = .csig none p none (u.map clearEntry) sg := by
  simp only [clearV, clearPairs_eq]

theorem clearV_csigs (cs : List GoVal) : clearV (.csigs cs) = .csigs (cs.map clearV) := by
  simp only [clearV, clearList_eq]

theorem clearV_other {v : GoVal} (h : isCs v = false) : clearV v = v := by
  cases v <;> simp only [isCs, reduceCtorEq] at h <;> simp only [clearV]

theorem isCs_clearV (v : GoVal) : isCs (clearV v) = isCs v := by
  cases v <;> simp only [clearV, isCs]

theorem isCs_normValN {v : GoVal} (h : isCs v = false) : isCs (normValN v) = false := by
  cases v <;> simp only [isCs, reduceCtorEq] at h <;> simp [normValN, normVal, isCs]

/-! ### entry-wise maps that keep what is emitted -/

theorem umapWire_sortEntries (g : GoMap) : umapWire (sortEntries g) = umapWire g := by
  unfold umapWire
  rw [sortEntries_sortEntries, sortEntries_length]

/-- an entry-wise map that keeps the emitted entry keeps the emitted map item -/
theorem umapWire_map (f : GoVal × GoVal → GoVal × GoVal)
    (hk : ∀ e, valWire (f e).1 = valWire e.1) (g : GoMap)
    (hf : ∀ e ∈ g, centryWire (f e) = centryWire e) : umapWire (g.map f) = umapWire g := by
  unfold umapWire
  rw [List.length_map, sortEntries_map_congr centryWire f hk g hf]

/-- the emitted item does not depend on the retained raw bytes … -/
theorem cwire_clearV : ∀ v : GoVal, cwire (clearV v) = cwire v := by
  intro v
  induction v using cs_ind with
  | hcsig rp p ru u sg ih =>
    rw [clearV_csig, cwire_csig, cwire_csig,
      umapWire_map clearEntry (fun _ => rfl) u
        (fun e he => by simp only [centryWire, clearEntry, ih e he])]
  | hcsigs cs ih =>
    rw [clearV_csigs, cwire_csigs, cwire_csigs, List.length_map, List.map_map]
    congr 1
    exact List.map_congr_left (fun x hx => ih x hx)
  | hother v hn => rw [clearV_other hn]

/-- … nor does the decoded normal form -/
theorem cnorm_clearV : ∀ v : GoVal, cnorm (clearV v) = cnorm v := by
  intro v
  induction v using cs_ind with
  | hcsig rp p ru u sg ih =>
    rw [clearV_csig, cnorm_csig, cnorm_csig,
      umapWire_map clearEntry (fun _ => rfl) u
        (fun e he => by simp only [centryWire, clearEntry, cwire_clearV]),
      sortEntries_map_congr cnormEntry clearEntry (fun _ => rfl) u
        (fun e he => by simp only [cnormEntry, clearEntry, ih e he])]
  | hcsigs cs ih =>
    rw [clearV_csigs, cnorm_csigs, cnorm_csigs, List.map_map]
    congr 1
    exact List.map_congr_left (fun x hx => ih x hx)
  | hother v hn => rw [clearV_other hn]

theorem cnormEntry_clearEntry (e : GoVal × GoVal) : cnormEntry (clearEntry e) = cnormEntry e := by
  simp only [cnormEntry, clearEntry, cnorm_clearV]

theorem centryWire_clearEntry (e : GoVal × GoVal) : centryWire (clearEntry e) = centryWire e := by
  simp only [centryWire, clearEntry, cwire_clearV]

theorem umapWire_clear (u : GoMap) : umapWire (u.map clearEntry) = umapWire u :=
  umapWire_map clearEntry (fun _ => rfl) u (fun e _ => centryWire_clearEntry e)

theorem cnormSorted_clear (u : GoMap) :
    (sortEntries (u.map clearEntry)).map cnormEntry = (sortEntries u).map cnormEntry :=
  sortEntries_map_congr cnormEntry clearEntry (fun _ => rfl) u
    (fun e _ => cnormEntry_clearEntry e)

theorem protWire_canonP (p : GoMap) : protWire ((sortEntries p).map decEntryN) = protWire p := by
  have hc : protContent ((sortEntries p).map decEntryN) = protContent p := by
    unfold protContent
    cases p with
    | nil => simp [sortEntries_nil]
    | cons e es =>
      have hne : ((sortEntries (e :: es)).map decEntryN).isEmpty = false := by
        rw [List.isEmpty_eq_false_iff]
        intro hc
        have := congrArg List.length hc
        simp [sortEntries_length] at this
      rw [hne, mapWireN_canonP]
      rfl
  unfold protWire
  rw [hc]

/-- what one clear-raw cycle makes of a decoded unprotected map: entries in the encoder's order,
    every value in the decoder's normal form (`cnorm`: countersignatures decoded again from the
    canonical bytes, retaining those as their raw buckets) -/
def canonUC (u : GoMap) : GoMap := (sortEntries u).map cnormEntry

/-- the canonical map, raw bytes discarded again, is emitted as the item of the original map as
    soon as that holds of every value in it -/
theorem umapWire_clear_canonUC_of {u : GoMap}
    (h : ∀ e ∈ u, cwire (clearV (cnorm e.2)) = cwire e.2) :
    umapWire ((canonUC u).map clearEntry) = umapWire u := by
  unfold canonUC
  rw [List.map_map,
    umapWire_map (clearEntry ∘ cnormEntry)
      (fun e => by simp only [Function.comp, clearEntry, cnormEntry, valWire_of_normVal])
      (sortEntries u)
      (fun e he => by
        simp only [Function.comp, centryWire, clearEntry, cnormEntry, valWire_of_normVal,
          h e ((sortEntries_perm u).mem_iff.mp he)]),
    umapWire_sortEntries]

/-- the decoded form, raw bytes discarded at every level, is emitted as the very same item: the
    value-level reason why one clear-raw cycle reaches the fixpoint -/
theorem cwire_clear_cnorm : ∀ v : GoVal, cwire (clearV (cnorm v)) = cwire v := by
  intro v
  induction v using cs_ind with
  | hcsig rp p ru u sg ih =>
    rw [cnorm_csig, clearV_csig, cwire_csig, cwire_csig, protWire_canonP]
    exact congrArg (fun w => Wire.arr .imm [protWire p, w, sigWire sg]) (umapWire_clear_canonUC_of ih)
  | hcsigs cs ih =>
    rw [cnorm_csigs, clearV_csigs, cwire_csigs, cwire_csigs, List.length_map, List.length_map,
      List.map_map, List.map_map]
    congr 1
    exact List.map_congr_left (fun x hx => ih x hx)
  | hother v hn =>
    rw [cnorm_other hn, clearV_other (isCs_normValN hn), cwire_other (isCs_normValN hn),
      cwire_other hn, wireN_normValN]

theorem umapWire_clear_canonUC (u : GoMap) :
    umapWire ((canonUC u).map clearEntry) = umapWire u :=
  umapWire_clear_canonUC_of (fun e _ => cwire_clear_cnorm e.2)

/-! ### the data model for decoded unprotected buckets -/

mutual
/-- `DecOK d v`: the decoded countersignature value `v`, met at nesting depth `d`, has its header
    values in the data model: the protected map of every countersignature is a `NestedMap`, the
    values of its unprotected map are `RTVal` at the depth the parser met them or again decoded
    countersignature values; and the retained `RawProtected` is shorter than 2^64 bytes (true of
    every Go slice).  Everything else `CsigOK` demands is derived from "the decoder accepted". -/
def DecOK : Nat → GoVal → Prop
  | d, .csig rp p _ u _ =>
      (∀ r, rp = some r → r.length < 18446744073709551616) ∧ NestedMap p ∧ DPairs (d + 2) u
  | d, .csigs cs => DElems (d + 1) cs
  | _, _ => False
def DElems : Nat → List GoVal → Prop
  | _, [] => True
  | d, x :: xs => DecOK d x ∧ DElems d xs
def DPairs : Nat → List (GoVal × GoVal) → Prop
  | _, [] => True
  | d, (_, v) :: r => (RTVal d v ∨ DecOK d v) ∧ DPairs d r
end

/-- a decoded unprotected map whose values, met at depth `d`, are in the nested data model or are
    decoded countersignature values with headers in the data model -/
def DMap (d : Nat) (u : GoMap) : Prop := ∀ e ∈ u, RTVal d e.2 ∨ DecOK d e.2

theorem dPairs_iff (d : Nat) (u : GoMap) : DPairs d u ↔ DMap d u := by
  unfold DMap
  induction u with
  | nil => simp [DPairs]
  | cons e r ih =>
    obtain ⟨k, v⟩ := e
    simp only [DPairs, ih, List.forall_mem_cons]

theorem dElems_iff (d : Nat) (l : List GoVal) : DElems d l ↔ ∀ x ∈ l, DecOK d x := by
  induction l with
  | nil => simp [DElems]
  | cons e r ih => simp only [DElems, ih, List.forall_mem_cons]

theorem DecOK.isCs {d : Nat} {v : GoVal} (h : DecOK d v) : isCs v = true := by
  cases v <;> simp only [DecOK] at h <;> rfl

theorem DMap.of_nested {d : Nat} {u : GoMap} (hf : NestedMapAt d u) : DMap d u :=
  fun e he => .inl (hf e he).2

/-! ### header validation does not look at retained raw bytes -/

theorem isCsig1_clearV (x : GoVal) : isCsig1 (clearV x) = isCsig1 x := by
  cases x <;> simp only [clearV, isCsig1]

theorem isCsigValue_clearV (v : GoVal) (h : isCsigValue v = true) :
    isCsigValue (clearV v) = true := by
  rw [isCsigValue_eq] at h
  cases v <;> simp only [Bool.false_eq_true] at h
  case csig rp p ru u sg => rw [clearV_csig]; rfl
  case csigs cs =>
    rw [clearV_csigs, isCsigValue_eq]
    simp only [Bool.and_eq_true, Bool.not_eq_true', List.isEmpty_eq_false_iff, List.all_eq_true,
      ne_eq, List.map_eq_nil_iff, List.mem_map, forall_exists_index, and_imp,
      forall_apply_eq_imp_iff₂] at h ⊢
    exact ⟨h.1, fun x hx => by rw [isCsig1_clearV]; exact h.2 x hx⟩

/-- a countersignature value passes none of the type checks of the other labels -/
theorem cs_no_other_kind (v : GoVal) : isCs v = true → ∀ g : GoMap,
    (match v with | .alg _ => true | _ => canInt v || canTstr v) = false ∧
      ensureCritical v g = false ∧ tstrOrUintOK v = false ∧ canBstr v = false := by
  intro hcs g
  cases v <;> simp only [isCs, Bool.false_eq_true] at hcs <;> exact ⟨rfl, rfl, rfl, rfl⟩

theorem checkParam_clearV (g : GoMap) (prot : Bool) (l v : GoVal)
    (h : checkParam g prot l v = true) : checkParam g prot l (clearV v) = true := by
  cases hcs : isCs v with
  | false => rw [clearV_other hcs]; exact h
  | true =>
    obtain ⟨k1, k2, k3, k4⟩ := cs_no_other_kind v hcs g
    exact checkParam_mono g prot l (fun h1 => Bool.noConfusion (h1.symm.trans k1))
      (fun h2 => Bool.noConfusion (h2.symm.trans k2)) (fun h3 => Bool.noConfusion (h3.symm.trans k3))
      (fun h4 => Bool.noConfusion (h4.symm.trans k4)) (isCsigValue_clearV v) h

theorem normLabels_clear (g : GoMap) : normLabels (g.map clearEntry) = normLabels g := by
  unfold normLabels
  rw [List.map_map]
  rfl

theorem hasLabel_clear (g : GoMap) (x : GoVal) (hx : normalizeLabel x ≠ none) :
    hasLabel (g.map clearEntry) x = hasLabel g x :=
  C13.hasLabel_congr_norm _ _ (normLabels_clear g) x x rfl hx

theorem validate_clear {g : GoMap} (hv : validateHeaderParameters g false = true) :
    validateHeaderParameters (g.map clearEntry) false = true :=
  RoundTrip.validate_map clearEntry (fun _ _ => rfl) (fun e _ l _ hc => checkParam_clearV g false l e.2 hc)
    hv

theorem ensureIV_clear (p u : GoMap) : ensureIV p (u.map clearEntry) = ensureIV p u := by
  have h5 : hasLabel (u.map clearEntry) (lbl 5) = hasLabel u (lbl 5) :=
    hasLabel_clear u _ (by simp [lbl, normalizeLabel])
  have h6 : hasLabel (u.map clearEntry) (lbl 6) = hasLabel u (lbl 6) :=
    hasLabel_clear u _ (by simp [lbl, normalizeLabel])
  unfold ensureIV
  rw [h5, h6]

/-- under a countersignature label validation demands a countersignature value -/
theorem isCsigValue_of_check {g : GoMap} {l' l v : GoVal} (hc : isCsigLabel l' = true)
    (hl : normalizeLabel l' = some l) (h : checkParam g false l v = true) :
    isCsigValue v = true := by
  unfold isCsigLabel at hc
  rw [hl] at hc
  split at hc
  next heq =>
    cases heq
    simpa [checkParam] using h
  next heq =>
    cases heq
    simpa [checkParam] using h
  next => cases hc

/-- the generic decoder never produces a countersignature object -/
theorem decodeAny_not_cs {w : Wire} {v : GoVal} (h : decodeAny w = .ok v) : isCs v = false := by
  rcases decodeAny_ok h with ⟨_, _, -, -, rfl⟩ | ⟨_, _, -, -, rfl⟩ | ⟨_, _, -, rfl⟩ |
    ⟨_, _, -, -, rfl⟩ | ⟨_, -, -, rfl | rfl | rfl⟩ | ⟨_, _, -, -, rfl | rfl⟩ |
    ⟨_, _, _, -, -, rfl⟩ | ⟨_, _, _, -, -, rfl⟩
  all_goals rfl

/-! ### the protected bucket of a decoded countersignature -/

/-- the shortest head of a smaller argument is not longer than any head of a larger one: the
    width `w` fits the smaller argument too, and the length of a head depends on its width only -/
theorem shortest_head_mono (m : Nat) {n n' : Nat} {w : HW} (hle : n ≤ n')
    (hf : w.fits n' = true) :
    (headBytes m (HW.shortest n) n).length ≤ (headBytes m w n').length := by
  have hf' : w.fits n = true := by
    cases w <;> simp only [HW.fits, decide_eq_true_eq] at hf ⊢ <;> omega
  have := C09.shortest_head_le m hf'
  rwa [HeadersDeep.headBytes_length, HeadersDeep.headBytes_length] at this ⊢

/-- a decoded protected bucket of the data model, re-encoded from its map, is a `ProtOK` bucket;
    the re-encoding is not longer than the retained raw bytes -/
theorem protOK_of_decoded {hw : HW} {enc : Bytes} {p : GoMap}
    (hd : decProtectedContent enc = .ok p) (hwf : hw.fits enc.length = true) (hf : NestedMap p)
    (hsz : (Wire.bstr hw enc).bytes.length < 18446744073709551616) : ProtOK p := by
  refine ⟨hf, protected_decoded_uintOK hd, C13.decoded_reencodable enc p hd,
    protected_decoded_length hd, ?_⟩
  intro b hb
  obtain ⟨content, hle, hE1, -⟩ := protected_decoded_canonN hd hf
  rw [hE1] at hb
  cases hb
  have hh := shortest_head_mono 2 hle hwf
  simp only [Wire.bytes, List.length_append] at hsz
  simp only [encBstr, encHead, List.length_append]
  omega

/-! ### the decoded value, raw bytes discarded, is in the region of `Deep/CsigRoundTrip` -/

/-- what is shown, by induction, of one decoded countersignature value -/
def ClearVOK (v : GoVal) : Prop :=
  ∀ (d : Nat) (w : Wire) (t : Bool), decCsigValue w = .ok v → w.wf = true →
    w.inLimits t d = true → DecOK d v → isCsigValue v = true → CsigOK d (clearV v)

/-- one decoded unprotected bucket whose map item was met at depth `d`: with the raw bytes inside
    discarded it is a validated `HMap (d + 1)` within the decoder's size limits -/
theorem hmap_clear_of_decoded {d : Nat} {t : Bool} {uw : Wire} {u : GoMap}
    (hd : decUnprot uw = .ok u) (hwf : uw.wf = true) (hlim : uw.inLimits t d = true) (hm : DMap (d + 1) u)
    (ih : ∀ e ∈ u, ClearVOK e.2) :
    HMap (d + 1) (u.map clearEntry) ∧
      validateHeaderParameters (u.map clearEntry) false = true ∧
      (u.map clearEntry).length ≤ maxElems ∧ d + 1 ≤ maxNested := by
  have hlen := unprotected_decoded_length hd hlim
  have huok := unprotected_decoded_uintOK hd
  obtain ⟨hw, kvs, rfl, -, hdp, hv⟩ := C05.decUnprot_ok hd
  have hok := C13.validate_labels u false hv
  simp only [Wire.wf, Bool.and_eq_true, wfPairs_iff] at hwf
  simp only [Wire.inLimits, Bool.and_eq_true, decide_eq_true_eq, inLimitsPairs_iff] at hlim
  refine ⟨?_, validate_clear hv, by rw [List.length_map]; exact hlen, hlim.1.1⟩
  intro e' he'
  obtain ⟨e, he, rfl⟩ := List.mem_map.mp he'
  obtain ⟨kv, hkv, h1, h2⟩ := (decUnprotPairs_rel kvs u hdp).mem_right e he
  refine ⟨flatLabel_of_dec h1 (hwf.2 kv hkv).1 (hok.1 e he), ?_⟩
  simp only [clearEntry]
  rcases hm e he with hrt | hdo
  · rw [clearV_other (isCs_rtVal hrt)]
    exact .inl ⟨hrt, huok e he⟩
  · rcases h2 with ⟨-, h2⟩ | ⟨hc, h2⟩
    · have := hdo.isCs
      rw [decodeAny_not_cs h2] at this
      cases this
    · obtain ⟨l, hl, hchk⟩ := ((C13.validate_iff u false).mp hv).2 e he
      exact .inr ⟨hc, ih e he (d + 1) kv.2 t h2 (hwf.2 kv hkv).2 (hlim.2 kv hkv).2 hdo
        (isCsigValue_of_check hc hl hchk)⟩

theorem clearV_csigOK_csig (rp ru sg : Option Bytes) (p u : GoMap)
    (ih : ∀ e ∈ u, ClearVOK e.2) :
    ClearVOK (.csig rp p ru u sg) := by
  intro d w t hdec hwf hlim hdo _
  simp only [DecOK, dPairs_iff] at hdo
  obtain ⟨hraw, hfp, hmu⟩ := hdo
  have hc : ∃ xs, w = .arr .imm xs ∧ decSigFields xs = .ok (.csig rp p ru u sg) := by
    rcases C05.csig_value_accept w _ hdec with ⟨xs, hx, c, hc, hv⟩ | ⟨_, _, l, -, -, hv⟩ | ⟨-, hv⟩
    · exact ⟨xs, hx, hv ▸ hc⟩
    · cases hv
    · cases hv
  obtain ⟨xs, rfl, hsf⟩ := hc
  obtain ⟨pw, uw, sgw, sig, pm, um, rfl, hsg, hz, hp, hu, hiv, hv⟩ := C05.decSigFields_ok hsf
  cases hv
  obtain ⟨hws, c, rfl, hcne, rfl⟩ := Accept.wfsig_of_dec hsg hz
  obtain ⟨hwp, enc, rfl, -⟩ := C05.protected_is_bstr_of_map pw _ hp
  have hpc : decProtectedContent enc = .ok p := hp
  simp only [Wire.wf, Wire.wfList, Bool.and_eq_true] at hwf
  obtain ⟨-, hpwf, huwf, hsgwf, -⟩ := hwf
  simp only [Wire.inLimits, Wire.inLimitsList, Bool.and_eq_true, decide_eq_true_eq] at hlim
  obtain ⟨⟨hd1, -⟩, -, hulim, -⟩ := hlim
  obtain ⟨hmap, hval, hlen, hd2⟩ := hmap_clear_of_decoded hu huwf hulim hmu ih
  rw [clearV_csig]
  simp only [CsigOK, hPairs_iff]
  refine ⟨trivial, trivial, ⟨c, rfl, hcne, HW.fits_lt hsgwf⟩, hd2,
    protOK_of_decoded hpc hpwf hfp (hraw _ rfl), hval, hlen, ?_, hmap⟩
  rw [ensureIV_clear]
  exact hiv

theorem clearV_csigOK_csigs (cs : List GoVal) (ih : ∀ x ∈ cs, ClearVOK x) :
    ClearVOK (.csigs cs) := by
  intro d w t hdec hwf hlim hdo hcv
  simp only [DecOK, dElems_iff] at hdo
  rw [isCsigValue_eq] at hcv
  simp only [Bool.and_eq_true, Bool.not_eq_true', List.isEmpty_eq_false_iff,
    List.all_eq_true] at hcv
  obtain ⟨hne, hall⟩ := hcv
  have hc : ∃ hw xs, w = .arr hw xs ∧ decCsigList xs = .ok cs := by
    rcases C05.csig_value_accept w _ hdec with ⟨xs, -, c, hc, hv⟩ | ⟨hw, xs, l, hx, hl, hv⟩ | ⟨-, hv⟩
    · obtain ⟨_, _, _, _, _, _, -, -, -, -, -, -, rfl⟩ := C05.decSigFields_ok hc
      cases hv
    · cases hv
      exact ⟨hw, xs, hx, hl⟩
    · cases hv
  obtain ⟨hw, xs, rfl, hl⟩ := hc
  obtain ⟨hlen, hidx⟩ := C05.csig_list_accept xs cs hl
  simp only [Wire.wf, Bool.and_eq_true, wfList_iff] at hwf
  simp only [Wire.inLimits, Bool.and_eq_true, decide_eq_true_eq, inLimitsList_iff] at hlim
  rw [clearV_csigs]
  simp only [CsigOK, csigElems_iff]
  refine ⟨by simpa using hne, by rw [List.length_map, hlen]; exact hlim.1.2, hlim.1.1, ?_⟩
  intro x' hx'
  obtain ⟨x, hx, rfl⟩ := List.mem_map.mp hx'
  obtain ⟨i, hi, rfl⟩ := List.getElem_of_mem hx
  have hi' : i < xs.length := by omega
  have h1 := hall _ hx
  rw [isCsig1_clearV]
  refine ⟨h1, ?_⟩
  rcases hidx i hi' hi with ⟨-, hnil⟩ | ⟨ys, hys, hsf⟩
  · rw [hnil] at h1; cases h1
  · have hmem : xs[i] ∈ xs := List.getElem_mem hi'
    have hcv : isCsigValue cs[i] = true := by
      generalize cs[i] = y at h1
      cases y <;> simp only [isCsig1, Bool.false_eq_true] at h1
      rfl
    have hw1 := hwf.2 _ hmem
    have hl1 := hlim.2 _ hmem
    rw [hys] at hw1 hl1
    exact ih _ hx (d + 1) (.arr .imm ys) t (decCsigValue_single hsf) hw1 hl1 (hdo _ hx) hcv

/-- A countersignature value the decoder returned (under label 7 / 11, so validated:
    `isCsigValue`) for a well-formed item within the parser's limits at depth `d`, whose header
    values are in the data model, is — once all its retained raw bytes are discarded — a value of
    the region `CsigOK d` of `Deep/CsigRoundTrip`: the encoder accepts it and the round-trip
    theorems there apply. -/
theorem clearV_csigOK : ∀ v : GoVal, ClearVOK v := by
  intro v
  induction v using cs_ind with
  | hcsig rp p ru u sg ih => exact clearV_csigOK_csig rp ru sg p u ih
  | hcsigs cs ih => exact clearV_csigOK_csigs cs ih
  | hother v hn =>
    intro d w t _ _ _ hdo _
    rw [hdo.isCs] at hn
    cases hn

/-! ### what the decoder returns for the region is again a decoded value of the data model -/

theorem dmap_cnorm_of {d : Nat} {u : GoMap} (hm : HMap d u)
    (ih : ∀ e ∈ u, CsigOK d e.2 → DecOK d (cnorm e.2)) :
    DMap d ((sortEntries u).map cnormEntry) := by
  intro e' he'
  obtain ⟨e, he, rfl⟩ := List.mem_map.mp he'
  have hem : e ∈ u := (sortEntries_perm u).mem_iff.mp he
  simp only [cnormEntry]
  rcases (hm e hem).2 with ⟨hrt, -⟩ | ⟨-, hc⟩
  · rw [cnorm_other (isCs_rtVal hrt)]
    exact .inl (C08.normValN_closed encCfg e.2 d hrt).1
  · exact .inr (ih e hem hc)

theorem decOK_cnorm : ∀ (v : GoVal) (d : Nat), CsigOK d v → DecOK d (cnorm v) := by
  intro v
  induction v using cs_ind with
  | hcsig rp p ru u sg ih =>
    intro d h
    simp only [CsigOK, hPairs_iff] at h
    obtain ⟨-, -, -, -, hp, -, -, -, hm⟩ := h
    rw [cnorm_csig]
    simp only [DecOK, dPairs_iff]
    obtain ⟨hnest, -, -, -, hshort⟩ := id hp
    refine ⟨?_, nestedMap_canonP hnest,
      dmap_cnorm_of hm (fun e he => ih e he (d + 2))⟩
    intro r hr
    cases hr
    exact hshort _ (prot_ok hp).1
  | hcsigs cs ih =>
    intro d h
    simp only [CsigOK, csigElems_iff] at h
    obtain ⟨-, -, -, hel⟩ := h
    rw [cnorm_csigs]
    simp only [DecOK, dElems_iff]
    intro x' hx'
    obtain ⟨x, hx, rfl⟩ := List.mem_map.mp hx'
    exact ih x hx (d + 1) (hel x hx).2
  | hother v hn =>
    intro d h
    rw [h.isCs] at hn
    cases hn

theorem dmap_cnorm {d : Nat} {u : GoMap} (hm : HMap d u) :
    DMap d ((sortEntries u).map cnormEntry) :=
  dmap_cnorm_of hm (fun e _ => decOK_cnorm e.2 d)

/-! ### every value of the region is a value whose encoding the model mirrors -/

theorem hmap_modelled_of {d : Nat} {u : GoMap} (hm : HMap d u)
    (ih : ∀ e ∈ u, ∀ d, CsigOK d e.2 → e.2.modelled = true) : GoVal.modelledPairs u = true := by
  rw [C01.modelledPairs_iff]
  intro e he
  refine ⟨flatVal_modelled (hm e he).1.flatVal, ?_⟩
  rcases (hm e he).2 with ⟨hrt, -⟩ | ⟨-, hc⟩
  · exact rtVal_modelled e.2 _ hrt
  · exact ih e he _ hc

theorem csigOK_modelled : ∀ (v : GoVal) (d : Nat), CsigOK d v → v.modelled = true := by
  intro v
  induction v using cs_ind with
  | hcsig rp p ru u sg ih =>
    intro d h
    simp only [CsigOK, hPairs_iff] at h
    obtain ⟨-, -, -, -, hp, -, -, -, hm⟩ := h
    simp only [GoVal.modelled, Bool.and_eq_true]
    exact ⟨nested_modelled hp.1, hmap_modelled_of hm ih⟩
  | hcsigs cs ih =>
    intro d h
    simp only [CsigOK, csigElems_iff] at h
    obtain ⟨-, -, -, hel⟩ := h
    simp only [GoVal.modelled]
    rw [modelledList_iff]
    exact fun x hx => ih x hx _ (hel x hx).2
  | hother v hn =>
    intro d h
    rw [h.isCs] at hn
    cases hn

theorem hmap_modelled {d : Nat} {u : GoMap} (hm : HMap d u) : GoVal.modelledPairs u = true :=
  hmap_modelled_of hm (fun e _ => csigOK_modelled e.2)

/-! ### the unprotected bucket of a decoded layer: one clear-raw cycle -/

/-- the bucket level: a decoded unprotected bucket (map item met at depth `d`) of the data
    model.  With all raw bytes discarded it is encoded as the item `umapWire u`, which the decoder
    accepts and reads back as `canonUC u`; and `canonUC u`, raw bytes discarded again, is encoded
    as the very same bytes. -/
theorem unprotected_canonC {d : Nat} {t : Bool} {uw : Wire} {u : GoMap}
    (hd : decUnprot uw = .ok u) (hwf : uw.wf = true) (hlim : uw.inLimits t d = true)
    (hm : DMap (d + 1) u) :
    HMap (d + 1) (u.map clearEntry) ∧ HMap (d + 1) ((canonUC u).map clearEntry) ∧
      encodeBucket encCfg false none (u.map clearEntry) = some (umapWire u).bytes ∧
      (umapWire u).wf = true ∧ (∀ t, (umapWire u).inLimits t d = true) ∧
      (umapWire u).hasTag = false ∧
      decUnprot (umapWire u) = .ok (canonUC u) ∧ DMap (d + 1) (canonUC u) ∧
      encodeBucket encCfg false none ((canonUC u).map clearEntry) = some (umapWire u).bytes := by
  obtain ⟨hmap, hval, hlen, hd1⟩ :=
    hmap_clear_of_decoded hd hwf hlim hm (fun e _ => clearV_csigOK e.2)
  obtain ⟨hE, hWf, hLim, hTag, hDec⟩ :=
    ubucket_ok d _ (hmap_entries hmap hval (fun e _ => cok_of_csigOK e.2 (d + 1))) hval
      (validate_sorted_cnorm hmap hval) hlen hd1
  rw [umapWire_clear] at hE hWf hLim hTag hDec
  rw [cnormSorted_clear] at hDec
  have hDec : decUnprot (umapWire u) = .ok (canonUC u) := hDec
  have hdm : DMap (d + 1) (canonUC u) := by
    have := dmap_cnorm hmap
    rw [cnormSorted_clear] at this
    exact this
  obtain ⟨hmap2, hval2, hlen2, -⟩ :=
    hmap_clear_of_decoded (t := t) hDec hWf (hLim t) hdm (fun e _ => clearV_csigOK e.2)
  obtain ⟨hE2, -, -, -, -⟩ :=
    ubucket_ok d _ (hmap_entries hmap2 hval2 (fun e _ => cok_of_csigOK e.2 (d + 1))) hval2
      (validate_sorted_cnorm hmap2 hval2) hlen2 hd1
  rw [umapWire_clear_canonUC] at hE2
  exact ⟨hmap, hmap2, hE, hWf, hLim, hTag, hDec, hdm, hE2⟩

/-! ### one header layer; COSE_Sign1 -/

/-- lookups in a decoded unprotected bucket, before and after one deep clear-raw cycle, under any
    spelling of a label -/
theorem unprotected_lookup_canonUC {u : GoMap} (hv : validateHeaderParameters u false = true)
    (hfl : ∀ e ∈ u, FlatLabel e.1) (e : GoVal × GoVal) (he : e ∈ u) (l : GoVal)
    (hl : normalizeLabel l = normalizeLabel e.1) :
    lookupLabel u l = some e.2 ∧ lookupLabel (canonUC u) l = some (cnorm e.2) := by
  have hok := C13.validate_labels u false hv
  have hn := normalizeLabel_flat (hfl e he)
  refine ⟨lookupLabel_of_mem hok he (hl.trans hn) hn, ?_⟩
  have hes : e ∈ sortEntries u := (sortEntries_perm u).mem_iff.mpr he
  have hfls : ∀ x ∈ sortEntries u, FlatLabel x.1 :=
    fun x hx => hfl x ((sortEntries_perm u).mem_iff.mp hx)
  exact lookupLabel_of_mem (labelsOK_cnormEntry hfls (labelsOK_sorted hok))
    (List.mem_map_of_mem (f := cnormEntry) hes) (hl.trans hn)
    (by simp only [cnormEntry]; rw [normalizeLabel_normVal (hfl e he), hn])

/-- a decoded header layer of the data model (`DMap` at depth `d + 1` in the unprotected bucket)
    goes through a deep clear-raw cycle: the maps come back as `canonP h.p`, `canonUC h.u`, the
    latter again in the data model; the labels of `h.u` are flat -/
theorem layer_cycleC {d : Nat} {p u : Wire} {h : Hdrs} (D : DecodedLayer d p u h)
    (hfp : NestedMap h.p) (hfu : DMap (d + 1) h.u) :
    ∃ content, ((h.p = [] → content = []) ∧ (h.p ≠ [] → content = (mapWireN h.p).bytes)) ∧
      (∀ e ∈ h.u, FlatLabel e.1) ∧ DMap (d + 1) (canonUC h.u) ∧
      LayerCycle d { p := h.p, u := clearPairs h.u }
        { rawP := some (encBstr content), p := canonP h.p,
          rawU := some (umapWire h.u).bytes, u := canonUC h.u }
        { p := canonP h.p, u := clearPairs (canonUC h.u) }
        (.bstr (HW.shortest content.length) content) (umapWire h.u) := by
  obtain ⟨hw, enc, rfl, hpc, henc⟩ := D.content
  obtain ⟨content, hle, hE1, hc0, hc1, hD, hE2⟩ := protected_decoded_canonN hpc hfp
  obtain ⟨hmap1, hmap2, hU1, hUwf, hUlim, -, hDu, hdm, hU2⟩ :=
    unprotected_canonC (d := d) D.decU D.wfU D.limU hfu
  have hflu : ∀ e ∈ h.u, FlatLabel e.1 :=
    fun e he => (hmap1 (clearEntry e) (List.mem_map_of_mem he)).1
  have hiv' : ensureIV (canonP h.p) (canonUC h.u) = true := ensureIV_cdecoded hfp hflu D.iv
  refine ⟨content, ⟨hc0, hc1⟩, hflu, hdm, ?_, C08.shortest_fits _ (Nat.lt_of_le_of_lt hle henc),
    hUwf, hUlim false,
    C09.decHeaders_of (p := .bstr (HW.shortest content.length) content) hD hDu hiv', ?_⟩
  · rw [clearPairs_eq]
    exact hdrs_marshal_of_buckets (nested_modelled hfp) (hmap_modelled hmap1)
      (by rw [ensureIV_clear]; exact D.iv) hE1 hU1
  · rw [clearPairs_eq]
    exact hdrs_marshal_of_buckets (nested_modelled (nestedMap_canonP hfp)) (hmap_modelled hmap2)
      (by rw [ensureIV_clear]; exact hiv') hE2 hU2

/-- what one deep clear-raw cycle keeps of a decoded header layer -/
theorem layer_canonC {d : Nat} {p u : Wire} {h : Hdrs} (D : DecodedLayer d p u h)
    (hfp : NestedMap h.p) (hfu : DMap (d + 1) h.u) :
    (canonP h.p).Perm (h.p.map decEntryN) ∧ (canonUC h.u).Perm (h.u.map cnormEntry) ∧
    (∀ e ∈ h.p, ∀ l, normalizeLabel l = normalizeLabel e.1 →
      lookupLabel h.p l = some e.2 ∧ lookupLabel (canonP h.p) l = some (decEntryN e).2) ∧
    (∀ e ∈ h.u, ∀ l, normalizeLabel l = normalizeLabel e.1 →
      lookupLabel h.u l = some e.2 ∧ lookupLabel (canonUC h.u) l = some (cnorm e.2)) ∧
    algorithmOf (canonP h.p) = algorithmOf h.p ∧ NestedMap (canonP h.p) ∧
    DMap (d + 1) (canonUC h.u) := by
  obtain ⟨content, -, hflu, hdm, -⟩ := layer_cycleC D hfp hfu
  obtain ⟨hw, enc, rfl, hpc, -⟩ := D.content
  exact ⟨(sortEntries_perm _).map decEntryN, (sortEntries_perm _).map cnormEntry,
    C08.protected_lookup_roundtrip_nested h.p hfp (C13.decoded_reencodable enc _ hpc),
    unprotected_lookup_canonUC (C13.decoded_unprot_reencodable u _ D.decU) hflu,
    algorithmOf_canonP hpc hfp, nestedMap_canonP hfp, hdm⟩

/-- (the form of `NestedClosures.clear_raw_core_nested` with countersignatures) a decoded
    COSE_Sign1 whose header values are in the data model, all raw bytes discarded, is emitted as
    bytes `b'` that decode to the canonical message, and that canonical message, all raw bytes
    discarded, is emitted as `b'` again -/
theorem clear_raw_core_csig (tagged : Bool) (b : Bytes) (m : Sign1Msg)
    (hd : Sign1.unmarshal tagged b = .ok m) (hfp : NestedMap m.h.p) (hfu : DMap 2 m.h.u) :
    ∃ (b' : Bytes) (mc : Sign1Msg), Sign1.marshal tagged (clearRawDeep m) = .ok b' ∧
      Sign1.unmarshal tagged b' = .ok mc ∧ Sign1.marshal tagged (clearRawDeep mc) = .ok b' ∧
      mc.payload = m.payload ∧ mc.sig = m.sig ∧
      mc.h.p = canonP m.h.p ∧ mc.h.u = canonUC m.h.u := by
  obtain ⟨p, u, D⟩ := sign1_decodedLayer hd
  obtain ⟨content, -, -, -, L⟩ := layer_cycleC D hfp hfu
  obtain ⟨b', h1, h2, h3⟩ := sign1_cycle tagged hd L
  exact ⟨b', _, h1, h2, h3, rfl, rfl, rfl, rfl⟩

/-! ## COSE_Sign and stand-alone countersignatures: tools -/

/-- the scope for one signer slot of a COSE_Sign whose unprotected bucket may carry
    countersignatures: `NestedClosures.NestedSlot` with `HMap 4` (the slot's unprotected values are
    met at depth 4, so a countersignature there has its own unprotected values at depth 6) -/
def CsigSlot (sg : SigV) : Prop :=
  sg.h.rawP = none ∧ sg.h.rawU = none ∧ NestedMap sg.h.p ∧ HMap 4 sg.h.u ∧
    (∀ e ∈ sg.h.p, UintOK e.2) ∧ sg.h.p.length < maxElems ∧ sg.h.u.length ≤ maxElems

theorem csigSlot_of_nested {sg : SigV} (h : NestedSlot sg) : CsigSlot sg := by
  obtain ⟨h1, h2, h3, h4, h5, h6, h7, h8⟩ := h
  exact ⟨h1, h2, h3, HMap.of_nested h4 h6, h5, h7, h8⟩

theorem CsigSlot.wire {sg : SigV} (h : CsigSlot sg) :
    SlotWire (fun g => (sortEntries g).map decEntryN) (fun g => (sortEntries g).map cnormEntry)
      sg := by
  obtain ⟨hrp, hru, hfp, hfu, hup, hlp, hlu⟩ := h
  exact ⟨hrp, hru, gatedN hfp hup hlp, unprotWireC hfu hlu (by decide)⟩

end CsigClosures

/-! ## COSE_Sign and stand-alone countersignatures, countersignature values -/

namespace C01
open CsigRT WireClosure SignWireClosure NestedBuckets NestedClosures CsigClosures

/-- stand-alone countersignature, end to end, every parent kind, its own unprotected bucket
    carrying countersignatures (`countersignature_wire_nested` with `HMap 2`): a countersignature on
    a countersignature is a legal parent / child arrangement, and the child may be stored in the
    parent's unprotected bucket under label 7 / 11.  A stand-alone COSE_Countersignature is a
    top-level 3-array, so its unprotected values are met at depth 2.  The decoded unprotected map
    is the entry-wise normal form (`cnormEntry`: countersignatures in decoded form). -/
theorem countersignature_wire_csig (cs : SigV) (s : Signer) (v : Verifier) (parent : Parent)
    (ext : Option Bytes) (b : Bytes) (hm : Matches s v)
    (hrp : cs.h.rawP = none) (hru : cs.h.rawU = none)
    (hfp : NestedMap cs.h.p) (hfu : HMap 2 cs.h.u) (hup : ∀ e ∈ cs.h.p, UintOK e.2)
    (hlp : cs.h.p.length < maxElems) (hlu : cs.h.u.length ≤ maxElems)
    (halg : int64Range s.alg)
    (hsl : ∀ t sg, s.sign t = .ok sg → sg.length < 18446744073709551616)
    (hok : (Countersignature.sign cs s parent ext).out = .ok ())
    (henc : Signature.marshal (Countersignature.sign cs s parent ext).state = .ok b) :
    ∃ c2, Signature.unmarshal b = .ok c2 ∧ (Countersignature.verify c2 v parent ext).1 = .ok () ∧
      c2.sig = (Countersignature.sign cs s parent ext).state.sig ∧
      c2.h.p = (sortEntries (Countersignature.sign cs s parent ext).state.h.p).map decEntryN ∧
      c2.h.u = (sortEntries cs.h.u).map cnormEntry := by
  obtain ⟨c2, h1, h2, h3, h4, h5, -⟩ :=
    countersignature_wire _ cs s parent ext b hrp hru (gatedN hfp hup hlp)
      (unprotWireC hfu hlu (by decide)) halg hsl hok henc
  exact ⟨c2, h1, h2 v hm, h3, h4, h5⟩

/-- COSE_Sign (any number n ≥ 1 of signers), end to end, countersignature values in the
    unprotected buckets (`signmsg_wire_nested` with `HMap` for the unprotected buckets): the body's
    unprotected bucket (`HMap 2`: its values are met at depth 2, so a countersignature there has
    its own unprotected values at depth 4) and every signer slot's unprotected bucket
    (`CsigSlot`: `HMap 4`) may carry, under labels 7 / 11, `CsigOK` countersignature values —
    single or list, nested to any depth the decoder admits.  A message the library signed and
    encoded is decoded by the library, the decoded message verifies under the positionally
    matching verifiers with the same external data, carries the signed payload, as many signer
    entries and the signers' signatures; the decoded unprotected maps of the body and of every
    signer slot are the entry-wise normal forms — every countersignature in decoded form
    (`cnorm`). -/
theorem signmsg_wire_csig (m : SignMsg) (ext : Option Bytes) (ss : List Signer)
    (vs : List Verifier) (b : Bytes) (hlen : ss.length = vs.length)
    (hm : ∀ i (h1 : i < ss.length) (h2 : i < vs.length), Matches ss[i] vs[i])
    (hrp : m.h.rawP = none) (hru : m.h.rawU = none)
    (hfp : NestedMap m.h.p) (hfu : HMap 2 m.h.u) (hup : ∀ e ∈ m.h.p, UintOK e.2)
    (hlp : m.h.p.length ≤ maxElems) (hlu : m.h.u.length ≤ maxElems)
    (hslots : ∀ sg ∈ m.sigs, CsigSlot sg) (hn : m.sigs.length ≤ maxElems)
    (hpl : blen m.payload < 18446744073709551616) (hgs : ∀ s ∈ ss, GoSigner s)
    (hok : (Sign.sign m ext ss).out = .ok ())
    (henc : Sign.marshal (Sign.sign m ext ss).state = .ok b) :
    ∃ m2, Sign.unmarshal b = .ok m2 ∧ (Sign.verify m2 ext vs).1 = .ok () ∧
      m2.payload = m.payload ∧ m2.sigs.length = m.sigs.length ∧
      (∀ i (h1 : i < m2.sigs.length) (h2 : i < (Sign.sign m ext ss).state.sigs.length),
        m2.sigs[i].sig = (Sign.sign m ext ss).state.sigs[i].sig) ∧
      m2.h.p = (sortEntries m.h.p).map decEntryN ∧ m2.h.u = (sortEntries m.h.u).map cnormEntry ∧
      (∀ i (h1 : i < m2.sigs.length) (h2 : i < m.sigs.length),
        m2.sigs[i].h.u = (sortEntries m.sigs[i].h.u).map cnormEntry) := by
  obtain ⟨m2, h1, h2, h3, h4, h5, h6, h7, h8, -⟩ :=
    signmsg_wire _ _ m ext ss b hrp hru (protWireN hfp hup hlp)
      (unprotWireC hfu hlu (by decide)) (fun sg hsg => (hslots sg hsg).wire) hn hpl hgs hok henc
  exact ⟨m2, h1, h2 vs hlen hm, h3, h4, h5, h6, h7, h8⟩

/-- COSE_Sign with detached payload, end to end, countersignature values in the unprotected
    buckets -/
theorem signmsg_wire_detached_csig (m : SignMsg) (ext : Option Bytes) (ss : List Signer)
    (vs : List Verifier) (b : Bytes) (hlen : ss.length = vs.length)
    (hm : ∀ i (h1 : i < ss.length) (h2 : i < vs.length), Matches ss[i] vs[i])
    (hrp : m.h.rawP = none) (hru : m.h.rawU = none)
    (hfp : NestedMap m.h.p) (hfu : HMap 2 m.h.u) (hup : ∀ e ∈ m.h.p, UintOK e.2)
    (hlp : m.h.p.length ≤ maxElems) (hlu : m.h.u.length ≤ maxElems)
    (hslots : ∀ sg ∈ m.sigs, CsigSlot sg) (hn : m.sigs.length ≤ maxElems)
    (hgs : ∀ s ∈ ss, GoSigner s)
    (hok : (Sign.sign m ext ss).out = .ok ())
    (henc : Sign.marshal { (Sign.sign m ext ss).state with payload := none } = .ok b) :
    ∃ m2, Sign.unmarshal b = .ok m2 ∧
      (Sign.verify { m2 with payload := m.payload } ext vs).1 = .ok () ∧ m2.payload = none ∧
      m2.sigs.length = m.sigs.length ∧ m2.h.u = (sortEntries m.h.u).map cnormEntry ∧
      (∀ i (h1 : i < m2.sigs.length) (h2 : i < m.sigs.length),
        m2.sigs[i].h.u = (sortEntries m.sigs[i].h.u).map cnormEntry) := by
  obtain ⟨m2, hdec, hpay, hver, hl2, -, -, hu2, hsu, -⟩ :=
    signmsg_wire_with _ _ m ext ss none b hrp hru (protWireN hfp hup hlp)
      (unprotWireC hfu hlu (by decide)) (fun sg hsg => (hslots sg hsg).wire) hn
      (by simp [blen]) hgs hok henc
  exact ⟨m2, hdec, hver vs hlen hm, hpay, hl2, hu2, hsu⟩

end C01

/-! ## clear-raw with countersignatures in the unprotected bucket -/

namespace C08
open CsigRT CsigClosures

/-- one decoded countersignature value, clear-raw fixpoint.  `v` is what the unprotected-bucket
    decoder returned under label 7 / 11 (`decCsigValue w = .ok v`, validated: `isCsigValue`) for a
    well-formed item `w` within the parser's limits at depth `d`, and its header values are in the
    data model (`DecOK d v`).  Then `v` with all retained raw bytes discarded is encoded as one
    item `w'`, well formed and within the limits at the same depth; the decoder reads `w'` back as
    the normal form `cnorm v`; `cnorm v` itself (raw bytes retained) and `cnorm v` with its raw
    bytes discarded again are both encoded as the very same bytes: one cycle is enough. -/
theorem csig_value_clear_raw_fixpoint (d : Nat) (w : Wire) (t : Bool) (v : GoVal)
    (hd : decCsigValue w = .ok v) (hwf : w.wf = true) (hlim : w.inLimits t d = true)
    (hm : DecOK d v) (hcv : isCsigValue v = true) :
    ∃ w' : Wire, encodeAny encCfg (clearV v) = some w'.bytes ∧ w'.wf = true ∧
      (∀ t, w'.inLimits t d = true) ∧ w'.hasTag = false ∧ decCsigValue w' = .ok (cnorm v) ∧
      DecOK d (cnorm v) ∧
      encodeAny encCfg (cnorm v) = some w'.bytes ∧
      encodeAny encCfg (clearV (cnorm v)) = some w'.bytes := by
  have hok := clearV_csigOK v d w t hd hwf hlim hm hcv
  obtain ⟨⟨h1, h2, h3, h4⟩, h5, -⟩ := cok_of_csigOK _ d hok
  rw [cnorm_clearV] at h5
  have hdo : DecOK d (cnorm v) := by
    have := decOK_cnorm _ d hok
    rwa [cnorm_clearV] at this
  have hcv' : isCsigValue (cnorm v) = true := by
    have := isCsigValue_cnorm _ (isCsigValue_clearV v hcv)
    rwa [cnorm_clearV] at this
  have hok2 := clearV_csigOK (cnorm v) d _ t h5 h2 (h3 t) hdo hcv'
  have h6 := (cok_of_csigOK _ d hok2).enc
  have h7 := reencode_cnorm _ d hok
  rw [cnorm_clearV] at h7
  rw [cwire_clear_cnorm, ← cwire_clearV] at h6
  exact ⟨cwire (clearV v), h1, h2, h3, h4, h5, hdo, h7, h6⟩

end C08

namespace C09
open CsigRT WireClosure ClearRaw NestedClosures CsigClosures

/-- stand-alone unprotected bucket with countersignatures, clear-raw fixpoint (the form of
    `unprotected_clear_raw_fixpoint_nested`).  Whatever map item `UnprotectedHeader.UnmarshalCBOR`
    accepted, if the decoded values are in the data model then encoding the decoded map with all
    raw bytes inside discarded succeeds, the bytes parse in either mode, decode to
    `um' = (sortEntries um).map cnormEntry`, which is again in the data model, and encoding `um'`
    with its raw bytes discarded gives the same bytes again. -/
theorem unprotected_clear_raw_fixpoint_csig (u : Wire) (um : GoMap) (hd : decUnprot u = .ok um)
    (hwf : u.wf = true) {t : Bool} (hlim : u.inLimits t 0 = true) (hm : DMap 1 um) :
    ∃ (u' : Wire) (um' : GoMap),
      encodeBucket encCfg false none (clearPairs um) = some u'.bytes ∧
      u'.wf = true ∧ (∀ t, parseTop t u'.bytes = some u') ∧ u'.hasTag = false ∧
      decUnprot u' = .ok um' ∧
      um' = (sortEntries um).map cnormEntry ∧ um'.Perm (um.map cnormEntry) ∧ DMap 1 um' ∧
      encodeBucket encCfg false none (clearPairs um') = some u'.bytes := by
  obtain ⟨-, -, h1, h2, h3, h4, h5, h6, h7⟩ := unprotected_canonC (d := 0) hd hwf hlim hm
  rw [← clearPairs_eq] at h1 h7
  exact ⟨umapWire um, _, h1, h2, fun t => parseTop_complete h2 (h3 t), h4, h5, rfl,
    (sortEntries_perm um).map cnormEntry, h6, h7⟩

/-- `clear_raw_decodable_nested` with countersignatures in the unprotected bucket (that is, for a
    decoded COSE_Sign1 whose unprotected bucket holds, under labels 7 / 11, decoded
    countersignature values — each retaining its own raw buckets, to any depth).  If the decoded
    header values are in the data model (`NestedMap` for the protected map; `DMap 2` for the
    unprotected one: plain values `RTVal` at the depth the parser met them, countersignatures with
    `NestedMap` protected / `DMap` unprotected maps again), then after the application discards
    the retained raw bytes at every level (`clearRawDeep`) the message is encoded, the bytes are
    decoded again, with the same payload and signature, the protected map in canonical form, and
    the unprotected map in the entry-wise normal form `cnormEntry` — every countersignature
    decoded again from its canonical bytes (`cnorm_csig`: raw buckets = the re-emitted bucket
    bytes, protected map `canonP`, unprotected map sorted and normal, same signature).  Lookups
    under any spelling of a label and `Algorithm()` agree, and the result is again in the data
    model. -/
theorem clear_raw_decodable_csig (tagged : Bool) (b : Bytes) (m : Sign1Msg)
    (hd : Sign1.unmarshal tagged b = .ok m) (hfp : NestedMap m.h.p) (hfu : DMap 2 m.h.u) :
    ∃ b', Sign1.marshal tagged (clearRawDeep m) = .ok b' ∧
      ∃ m', Sign1.unmarshal tagged b' = .ok m' ∧ m'.payload = m.payload ∧ m'.sig = m.sig ∧
        m'.h.p = (sortEntries m.h.p).map decEntryN ∧
        m'.h.u = (sortEntries m.h.u).map cnormEntry ∧
        m'.h.p.Perm (m.h.p.map decEntryN) ∧ m'.h.u.Perm (m.h.u.map cnormEntry) ∧
        (∀ e ∈ m.h.p, ∀ l, normalizeLabel l = normalizeLabel e.1 →
          lookupLabel m.h.p l = some e.2 ∧ lookupLabel m'.h.p l = some (decEntryN e).2) ∧
        (∀ e ∈ m.h.u, ∀ l, normalizeLabel l = normalizeLabel e.1 →
          lookupLabel m.h.u l = some e.2 ∧ lookupLabel m'.h.u l = some (cnorm e.2)) ∧
        algorithmOf m'.h.p = algorithmOf m.h.p ∧
        NestedMap m'.h.p ∧ DMap 2 m'.h.u := by
  obtain ⟨b', mc, h1, h2, -, hpay, hsig, hcp, hcu⟩ := clear_raw_core_csig tagged b m hd hfp hfu
  obtain ⟨p, u, D⟩ := sign1_decodedLayer hd
  refine ⟨b', h1, mc, h2, hpay, hsig, hcp, hcu, ?_⟩
  rw [hcp, hcu]
  exact layer_canonC D hfp hfu

/-- `clear_raw_fixpoint_nested` with countersignatures in the unprotected bucket.  With `b'`, `m'`
    as in `clear_raw_decodable_csig` (any result of encoding the deeply cleared message and decoding
    that): discarding all raw bytes of `m'` — its own and those the decoder retained inside every
    countersignature — and encoding again gives `b'` again, and decoding it gives `m'` again: the
    canonical form is reached after one cycle, at every level of nesting. -/
theorem clear_raw_fixpoint_csig (tagged : Bool) (b : Bytes) (m : Sign1Msg)
    (hd : Sign1.unmarshal tagged b = .ok m) (hfp : NestedMap m.h.p) (hfu : DMap 2 m.h.u)
    (b' : Bytes) (m' : Sign1Msg)
    (he : Sign1.marshal tagged (clearRawDeep m) = .ok b')
    (hd' : Sign1.unmarshal tagged b' = .ok m') :
    ∃ b'', Sign1.marshal tagged (clearRawDeep m') = .ok b'' ∧ b'' = b' ∧
      Sign1.unmarshal tagged b'' = .ok m' := by
  obtain ⟨b₁, mc, h1, h2, h3, -⟩ := clear_raw_core_csig tagged b m hd hfp hfu
  exact fixpoint_of_core (e := Sign1.marshal tagged) (c := clearRawDeep) h1 h2 h3 he hd'

/-- the decode / discard-all-raw / encode cycle -/
def clearCycleDeep (tagged : Bool) (b : Bytes) : Out Bytes := do
  let m ← Sign1.unmarshal tagged b
  Sign1.marshal tagged (clearRawDeep m)

/-- the cycle is idempotent on inputs whose decoded header values are in the data model -/
theorem clearCycleDeep_idempotent_csig (tagged : Bool) (b b1 : Bytes)
    (hdm : ∀ m, Sign1.unmarshal tagged b = .ok m → NestedMap m.h.p ∧ DMap 2 m.h.u)
    (h : clearCycleDeep tagged b = .ok b1) : clearCycleDeep tagged b1 = .ok b1 := by
  refine idempotent_of_core (e := Sign1.marshal tagged) (c := clearRawDeep) (fun m hd => ?_) h
  obtain ⟨b₁, mc, h1, h2, h3, -⟩ := clear_raw_core_csig tagged b m hd (hdm m hd).1 (hdm m hd).2
  exact ⟨b₁, mc, h1, h2, h3⟩

end C09

/-! ## non-vacuity: clear-raw on a decoded COSE_Sign1 with `{11: [cs1, cs2]}`

In the examples of this file `exS7`, `exV7`, `exSV7`, `ex_det2` come from `Deep/Chain`, `exF_mpP`,
`exS7_go` from `Deep/WireClosure`, `exHd*`, `exPar` from `Deep/SignWireClosure`, `exSlot_sign`
from `Deep/NestedClosures`, `exCsm*`, `exU1*`, `exU2*`, `exP7_enc` from `Deep/CsigRoundTrip`. -/

namespace CsigClearRawExamples
open CsigRT CsigExamples CsigClosures WireClosure ClearRaw NestedClosures

/-- the first countersignature as sent: its protected bucket has a non-shortest head
    (`58 03 a10126` instead of `43 a10126`): `83 5803a10126 a1044132 420102` -/
def cs1W : Wire :=
  .arr .imm [.bstr .w1 [0xa1, 0x01, 0x26], .map .imm [(.uint .imm 4, .bstr .imm [0x32])],
    .bstr .imm [1, 2]]

/-- the second one, canonical: `83 43a10127 a0 4103` -/
def cs2W : Wire := .arr .imm [.bstr .imm [0xa1, 0x01, 0x27], .map .imm [], .bstr .imm [3]]

/-- the unprotected bucket `{11: [cs1, cs2]}` as sent -/
def exUnC : Wire := .map .imm [(.uint .imm 11, .arr .imm [cs1W, cs2W])]

def exPuC : Wire := .bstr .imm [0xa1, 0x01, 0x26]

/-- `18([h'a10126', {11: [[h'a10126' (long head), {4: h'32'}, h'0102'], [h'a10127', {}, h'03']]},
    h'010203', h'07'])` -/
def exBC : Bytes :=
  [0xd2, 0x84, 0x43, 0xa1, 0x01, 0x26,
   0xa1, 0x0b, 0x82,
   0x83, 0x58, 0x03, 0xa1, 0x01, 0x26, 0xa1, 0x04, 0x41, 0x32, 0x42, 0x01, 0x02,
   0x83, 0x43, 0xa1, 0x01, 0x27, 0xa0, 0x41, 0x03,
   0x43, 1, 2, 3, 0x41, 7]

/-- the same message after one deep clear-raw cycle: the inner protected bucket re-encoded with
    the shortest head -/
def exBC' : Bytes :=
  [0xd2, 0x84, 0x43, 0xa1, 0x01, 0x26,
   0xa1, 0x0b, 0x82,
   0x83, 0x43, 0xa1, 0x01, 0x26, 0xa1, 0x04, 0x41, 0x32, 0x42, 0x01, 0x02,
   0x83, 0x43, 0xa1, 0x01, 0x27, 0xa0, 0x41, 0x03,
   0x43, 1, 2, 3, 0x41, 7]

/-- the first countersignature as decoded: its `RawProtected` is the 5 bytes as sent -/
def cs1D : GoVal :=
  .csig (some [0x58, 0x03, 0xa1, 0x01, 0x26]) [(lbl 1, .alg (-7))]
    (some [0xa1, 0x04, 0x41, 0x32]) [(lbl 4, .bytes [0x32])] (some [1, 2])

def exUmC : GoMap := [(lbl 11, .csigs [cs1D, cs2N])]

/-- what `clearRawDeep` leaves of it: the constructed `{11: [cs1, cs2]}` -/
def exU3 : GoMap := [(lbl 11, .csigs [cs1, cs2])]

theorem exC_decP7 (hw : HW) :
    decProtected (.bstr hw [0xa1, 0x01, 0x26]) = .ok [(lbl 1, .alg (-7))] := by
  show decProtectedContent (Wire.map .imm [(.uint .imm 1, .nint .imm 6)]).bytes = _
  rw [decProtectedContent_map (by decide) (by decide) (by decide)]
  rfl

theorem exC_decP8 (hw : HW) :
    decProtected (.bstr hw [0xa1, 0x01, 0x27]) = .ok [(lbl 1, .alg (-8))] := by
  show decProtectedContent (Wire.map .imm [(.uint .imm 1, .nint .imm 7)]).bytes = _
  rw [decProtectedContent_map (by decide) (by decide) (by decide)]
  rfl

theorem exC_decU4 : decUnprot (.map .imm [(.uint .imm 4, .bstr .imm [0x32])])
    = .ok [(lbl 4, .bytes [0x32])] := by rfl

theorem exC_decU0 : decUnprot (.map .imm []) = .ok [] := by rfl

theorem exC_cs1 : decSigFields [.bstr .w1 [0xa1, 0x01, 0x26],
    .map .imm [(.uint .imm 4, .bstr .imm [0x32])], .bstr .imm [1, 2]] = .ok cs1D :=
  C09.decSigFields_of (sg := .bstr .imm [1, 2]) rfl (by simp [blen])
    (exC_decP7 .w1) exC_decU4 (by decide)

theorem exC_cs2 : decSigFields [.bstr .imm [0xa1, 0x01, 0x27], .map .imm [], .bstr .imm [3]]
    = .ok cs2N :=
  C09.decSigFields_of (sg := .bstr .imm [3]) rfl (by simp [blen])
    (exC_decP8 .imm) exC_decU0 (by decide)

theorem exC_decUn : decUnprot exUnC = .ok exUmC := by
  have hl : decCsigList [cs1W, cs2W] = .ok [cs1D, cs2N] := by
    rw [decCsigList_cons, decCsigList_cons, decCsigList_nil]
    simp only [cs1W, cs2W, csigOne, exC_cs1, exC_cs2, Out.comb]
  have hv : decCsigValue (.arr .imm [cs1W, cs2W]) = .ok (.csigs [cs1D, cs2N]) :=
    decCsigValue_list (by simp [decSigFields]) hl
  have hp : decUnprotPairs [(.uint .imm 11, .arr .imm [cs1W, cs2W])] = .ok exUmC := by
    rw [decUnprotPairs_cons]
    show Out.comb _ (decCsigValue _) _ = _
    rw [hv]
    rfl
  rw [exUnC, decUnprot_map, hp, if_neg (by decide)]
  rfl

theorem exBC_tree : exBC = (if true then [0xd2] else []) ++
    (Wire.arr .imm [exPuC, exUnC, .bstr .imm [1, 2, 3], .bstr .imm [7]]).bytes := by decide

theorem exC_tree_wf :
    (Wire.arr .imm [exPuC, exUnC, .bstr .imm [1, 2, 3], .bstr .imm [7]]).wf = true := by decide

/-- the decoded message -/
def exMC : Sign1Msg :=
  { h := { rawP := some exPuC.bytes, p := [(lbl 1, .alg (-7))], rawU := some exUnC.bytes,
           u := exUmC },
    payload := some [1, 2, 3], sig := some [7] }

theorem exC_unmarshal : Sign1.unmarshal true exBC = .ok exMC := by
  rw [exBC_tree]
  exact C07.wf_sign1_accepted_full true (p := exPuC) (u := exUnC) (pl := .bstr .imm [1, 2, 3])
    (hw := .imm) (c := [7]) exC_tree_wf (by decide) (exC_decP7 .imm) exC_decUn (by decide)
    (.inr ⟨_, _, rfl⟩) (by decide)

theorem nestedMap_alg {a : Int} (ha : int64Range a) : NestedMap [(lbl 1, .alg a)] := by
  intro e he
  cases List.mem_singleton.mp he
  exact ⟨by simp [lbl, FlatLabel, int64Range], by simpa [RTVal, FlatVal] using ha⟩

/-- the decoded map `{11: [cs1D, cs2N]}` is a `DMap` at any depth -/
theorem exUmC_dmap (d : Nat) : DMap d exUmC := by
  intro e he
  cases List.mem_singleton.mp he
  refine .inr ?_
  simp only [DecOK, dElems_iff]
  intro x hx
  simp only [List.mem_cons, List.not_mem_nil, or_false] at hx
  rcases hx with rfl | rfl
  · simp only [cs1D, DecOK, dPairs_iff]
    refine ⟨by intro r hr; cases hr; simp, nestedMap_alg (by decide), ?_⟩
    intro e he
    cases List.mem_singleton.mp he
    exact .inl (by simp [RTVal, FlatVal])
  · simp only [cs2N, DecOK, dPairs_iff]
    exact ⟨by intro r hr; cases hr; simp, nestedMap_alg (by decide), by intro e he; cases he⟩

/-- the data-model hypotheses -/
theorem exC_model : NestedMap exMC.h.p ∧ DMap 2 exMC.h.u :=
  ⟨nestedMap_alg (by decide), exUmC_dmap 2⟩

theorem exU3_enc : encodeBucket encCfg false none exU3
    = some ([0xa1, 0x0b, 0x82] ++ cs1Bytes ++ cs2Bytes) := by
  have hv : encCfg.validate exU3 false = true := by decide
  have hw := wellformedNoTags_bytes (w := .map .imm [(.uint .imm 11, .arr .imm
      [.arr .imm [.bstr .imm [0xa1, 0x01, 0x26], .map .imm [(.uint .imm 4, .bstr .imm [0x32])],
        .bstr .imm [1, 2]], cs2W])]) (by decide) (by decide)
  unfold exU3 lbl at hv ⊢
  simp only [encodeBucket, hv, encodePairs, encodeAny, encodeList, cs1_enc, cs2_enc, sortPairs_one,
    Bool.not_true, Bool.false_eq_true, if_false]
  exact if_pos hw

/-- discarding all raw bytes (`clearPairs exUmC = exU3`) and encoding gives `exBC'` -/
theorem exC_marshal_cleared : Sign1.marshal true (clearRawDeep exMC) = .ok exBC' := by
  rw [sign1_marshal_of_hdrs (m := clearRawDeep exMC) (by decide)
    (hdrs_marshal_of_buckets (by decide) (by decide) (by decide) exP7_enc exU3_enc)]
  rfl

theorem exC_norm : (sortEntries exUmC).map cnormEntry = [(lbl 11, .csigs [cs1N, cs2N])] := by
  have h1 : cnorm cs1D = cs1N := by
    rw [← cnorm_clearV, ← cs1_norm]
    congr 1
  have h2 : cnorm cs2N = cs2N := by
    rw [← cnorm_clearV]
    exact cs2_norm
  rw [exUmC, sortEntries_one]
  simp [cnormEntry, cnorm_csigs, h1, h2, normVal_lbl]

/-- non-vacuity of `clear_raw_decodable_csig` / `clear_raw_fixpoint_csig`.  `exBC` decodes to a
    message whose unprotected bucket is `{11: [cs1D, cs2N]}` — two decoded countersignatures, each
    retaining its own raw buckets, the first with a non-canonical protected bucket; the
    data-model hypotheses hold; the theorems apply: clearing the raw bytes at every level and
    encoding gives `exBC' ≠ exBC` (the inner protected bucket under the shortest head), `exBC'`
    decodes to a message with the same payload and signature whose unprotected map is
    `{11: [cs1N, cs2N]}` (the decoded normal forms of `Deep/CsigRoundTrip`, raw buckets = the
    canonical bytes), and clearing and encoding that gives `exBC'` again. -/
example : ∃ m', Sign1.unmarshal true exBC = .ok exMC ∧ exMC.h.u = [(lbl 11, .csigs [cs1D, cs2N])] ∧
    Sign1.marshal true (clearRawDeep exMC) = .ok exBC' ∧ exBC' ≠ exBC ∧
    Sign1.unmarshal true exBC' = .ok m' ∧ m'.payload = some [1, 2, 3] ∧ m'.sig = some [7] ∧
    m'.h.p = [(lbl 1, .alg (-7))] ∧ m'.h.u = [(lbl 11, .csigs [cs1N, cs2N])] ∧
    Sign1.marshal true (clearRawDeep m') = .ok exBC' := by
  obtain ⟨hfp, hfu⟩ := exC_model
  obtain ⟨b', h1, m', h2, hpay, hsig, hp', hu', -⟩ :=
    C09.clear_raw_decodable_csig true exBC _ exC_unmarshal hfp hfu
  have hb : b' = exBC' := Out.ok.inj (h1.symm.trans exC_marshal_cleared)
  subst hb
  obtain ⟨b'', h3, rfl, -⟩ :=
    C09.clear_raw_fixpoint_csig true exBC _ exC_unmarshal hfp hfu _ m' h1 h2
  refine ⟨m', exC_unmarshal, rfl, h1, by decide, h2, hpay, hsig, ?_, hu'.trans exC_norm, h3⟩
  rw [hp']
  simp [exMC, sortEntries_one, decEntryN_alg]

end CsigClearRawExamples

/-! ## non-vacuity: COSE_Sign and a stand-alone countersignature carrying countersignatures -/

namespace C01
open CsigRT CsigExamples WireClosure SignWireClosure NestedBuckets NestedClosures CsigClosures

/-- headers with a countersignature in the unprotected bucket: protected `{1: ES256}`, unprotected
    `{7: cs1}` -/
def exHdC : Hdrs := { p := [(lbl 1, .alg (-7))], u := exU2 }

theorem exHdC_marshal : exHdC.marshal = .ok ([0x43, 0xa1, 0x01, 0x26], exU2Bytes) :=
  ClearRaw.hdrs_marshal_of (by decide) exF_mpP
    (ClearRaw.marshalUnprotected_of_bucket rfl (by decide) exU2_enc)

theorem exP7_nested : NestedMap [(lbl 1, GoVal.alg (-7))] ∧
    ∀ e ∈ [(lbl 1, GoVal.alg (-7))], UintOK e.2 :=
  ⟨CsigClearRawExamples.nestedMap_alg (by decide),
    fun e he => by cases List.mem_singleton.mp he; trivial⟩

theorem exHdC_slot : CsigSlot { h := exHdC } :=
  ⟨rfl, rfl, exP7_nested.1, exU2_hmap 4 (by simp [maxNested]), exP7_nested.2,
    by simp [exHdC, maxElems], by simp [exHdC, exU2, maxElems]⟩

/-- a COSE_Sign whose body is `exCsm.h` — protected `{1: ES256}`, unprotected
    `{4: h'3131', 11: [cs1, cs2]}` (a list of two countersignatures) — with two signer slots: the
    flat `exHd` and `exHdC`, whose unprotected bucket is `{7: cs1}` (one countersignature) -/
def exMsgCs : SignMsg :=
  { h := exCsm.h, payload := some [1, 2, 3], sigs := [{ h := exHd }, { h := exHdC }] }

theorem exMsgCs_sign : (Sign.sign exMsgCs none [exS7, exS7]).out = .ok () ∧
    (Sign.sign exMsgCs none [exS7, exS7]).state =
      { h := exCsm.h, payload := some [1, 2, 3],
        sigs := [{ h := exHd, sig := some [7] }, { h := exHdC, sig := some [7] }] } := by
  have hp : exMsgCs.payload = some [1, 2, 3] := rfl
  have hh : exMsgCs.h = exCsm.h := rfl
  have hsg : exMsgCs.sigs = [{ h := exHd }, { h := exHdC }] := rfl
  have s1 := exSlot_sign exHd rfl rfl exHd_mpP (by decide) ex_det2
  have s2 := exSlot_sign exHdC rfl rfl exF_mpP (by decide) ex_det2
  simp [Sign.sign, hp, hh, hsg, exCsm_mpP, signLoop, s1.1, s1.2, s2.1, s2.2]

/-- the bytes `MarshalCBOR` emits for the signed `exMsgCs` -/
def exMsgCsBytes : Bytes :=
  0xd8 :: 0x62 :: 0x84 :: ([0x43, 0xa1, 0x01, 0x26] ++ (exU1Bytes ++ ([0x43, 1, 2, 3] ++ (0x82 ::
    ((0x83 :: ([0x43, 0xa1, 0x01, 0x26] ++ ([0xa1, 0x04, 0x42, 0x31, 0x31] ++ [0x41, 7]))) ++
     (0x83 :: ([0x43, 0xa1, 0x01, 0x26] ++ (exU2Bytes ++ [0x41, 7]))))))))

theorem exMsgCs_marshal :
    Sign.marshal (Sign.sign exMsgCs none [exS7, exS7]).state = .ok exMsgCsBytes := by
  rw [exMsgCs_sign.2]
  have hs1 := ClearRaw.signature_marshal_of_hdrs (s := { h := exHd, sig := some [7] })
    (by decide) exHd_marshal
  have hs2 := ClearRaw.signature_marshal_of_hdrs (s := { h := exHdC, sig := some [7] })
    (by decide) exHdC_marshal
  rw [ClearRaw.sign_marshal_of_hdrs (by simp)
    (ClearRaw.hdrs_marshal_of (by decide) exCsm_mpP exCsm_mpU)
    (by simp only [marshalSigs, hs1, hs2]; rfl)]
  rfl

/-- non-vacuity of `signmsg_wire_csig`: every hypothesis holds for `exMsgCs` — a list of two
    countersignatures under label 11 in the body's unprotected bucket and one countersignature
    under label 7 in the second signer slot's unprotected bucket — with the matching pairs
    `exS7`/`exV7`; the theorem yields the decoded message, which verifies, carries the payload and
    two signer entries, whose body unprotected map is `{4: h'3131', 11: [cs1N, cs2N]}` and whose
    second slot's unprotected map is `{7: cs1N}` (`cs1N`, `cs2N`: the decoded forms spelt out in
    `Deep/CsigRoundTrip`, each retaining its raw buckets). -/
example : ∃ m2, Sign.marshal (Sign.sign exMsgCs none [exS7, exS7]).state = .ok exMsgCsBytes ∧
    Sign.unmarshal exMsgCsBytes = .ok m2 ∧ (Sign.verify m2 none [exV7, exV7]).1 = .ok () ∧
    m2.payload = some [1, 2, 3] ∧ m2.sigs.length = 2 ∧
    m2.h.u = [(lbl 4, .bytes [0x31, 0x31]), (lbl 11, .csigs [cs1N, cs2N])] ∧
    ∃ (h : 1 < m2.sigs.length), m2.sigs[1].h.u = [(lbl 7, cs1N)] := by
  obtain ⟨m2, hdec, hver, hpay, hl2, -, -, hu2, hsu⟩ :=
    signmsg_wire_csig exMsgCs none [exS7, exS7] [exV7, exV7] exMsgCsBytes rfl
      (by
        intro i h1 h2
        have : i = 0 ∨ i = 1 := by simp at h1; omega
        rcases this with rfl | rfl <;> exact exSV7)
      rfl rfl exP7_nested.1 (exU1_hmap 2 (by simp [maxNested])) exP7_nested.2
      (by simp [exMsgCs, exCsm, maxElems]) (by simp [exMsgCs, exCsm, exU1, maxElems])
      (by
        intro sg hsg
        simp only [exMsgCs, List.mem_cons, List.not_mem_nil, or_false] at hsg
        rcases hsg with rfl | rfl
        · exact csigSlot_of_nested (nestedSlot_of_flat exHd_flatSlot)
        · exact exHdC_slot)
      (by simp [exMsgCs, maxElems]) (by simp [exMsgCs, blen])
      (by
        intro s hs
        simp only [List.mem_cons, List.not_mem_nil, or_false, or_self] at hs
        subst hs
        exact exS7_go)
      exMsgCs_sign.1 exMsgCs_marshal
  have h1 : 1 < m2.sigs.length := by rw [hl2]; decide
  exact ⟨m2, exMsgCs_marshal, hdec, hver, hpay, hl2, hu2.trans exU1_norm, h1,
    (hsu 1 h1 (by decide)).trans exU2_norm⟩

theorem exCsC_sign :
    (Countersignature.sign { h := exHdC } exS7 (.sign1 exPar) none).out = .ok () ∧
    (Countersignature.sign { h := exHdC } exS7 (.sign1 exPar) none).state
      = { h := exHdC, sig := some [7] } := by
  have hps : exPar.sig = some [7] := rfl
  have hph : exPar.h = exHd := rfl
  have hpp : exPar.payload = some [1, 2, 3] := rfl
  have hg : ensureSigningAlgorithm exHdC.rawP exHdC.p (-7) none = .ok exHdC.p := by rfl
  have hmp : marshalProtected
      { rawP := exHdC.rawP, p := exHdC.p, rawU := exHdC.rawU, u := exHdC.u }
      = .ok [0x43, 0xa1, 0x01, 0x26] := exF_mpP
  obtain ⟨t, ht⟩ : ∃ t, Countersignature.toBeSigned
      { h := { rawP := exHdC.rawP, p := exHdC.p, rawU := exHdC.rawU, u := exHdC.u },
        sig := none } (.sign1 exPar) none = .ok t := by
    simp [Countersignature.toBeSigned, countersignToBeSigned, hmp, exHd_mpP, hps, hph, hpp, blen,
      ex_det2, bind, Out.bind]
  simp [Countersignature.sign, blen, hg, ht, exS7]

/-- non-vacuity of `countersignature_wire_csig`: a fresh stand-alone countersignature on a signed
    COSE_Sign1 whose own unprotected bucket is `{7: cs1}` — a countersignature carrying a
    countersignature — with the matching pair `exS7`/`exV7`: the emitted bytes
    `83 43a10126 (a1 07 83 43a10126 a1044132 420102) 4107` decode, the decoded countersignature
    verifies on the same parent, and its unprotected map is `{7: cs1N}` -/
example : ∃ c2,
    Signature.marshal (Countersignature.sign { h := exHdC } exS7 (.sign1 exPar) none).state
      = .ok (0x83 :: ([0x43, 0xa1, 0x01, 0x26] ++ (exU2Bytes ++ [0x41, 7]))) ∧
    Signature.unmarshal (0x83 :: ([0x43, 0xa1, 0x01, 0x26] ++ (exU2Bytes ++ [0x41, 7]))) = .ok c2 ∧
    (Countersignature.verify c2 exV7 (.sign1 exPar) none).1 = .ok () ∧ c2.sig = some [7] ∧
    c2.h.p = [(lbl 1, .alg (-7))] ∧ c2.h.u = [(lbl 7, cs1N)] := by
  have hb : Signature.marshal
      (Countersignature.sign { h := exHdC } exS7 (.sign1 exPar) none).state
      = .ok (0x83 :: ([0x43, 0xa1, 0x01, 0x26] ++ (exU2Bytes ++ [0x41, 7]))) := by
    rw [exCsC_sign.2]
    simp [Signature.marshal, exHdC_marshal, blen, bind, Out.bind, encBstr, encHead, HW.shortest,
      headBytes]
  obtain ⟨c2, hdec, hver, hsig, hp2, hu2⟩ :=
    countersignature_wire_csig { h := exHdC } exS7 exV7 (.sign1 exPar) none _ exSV7 rfl rfl
      exP7_nested.1 (exU2_hmap 2 (by simp [maxNested])) exP7_nested.2
      (by simp [exHdC, maxElems]) (by simp [exHdC, exU2, maxElems])
      exS7_go.1 exS7_go.2 exCsC_sign.1 hb
  refine ⟨c2, hb, hdec, hver, by rw [hsig, exCsC_sign.2], ?_, hu2.trans exU2_norm⟩
  rw [hp2, exCsC_sign.2]
  simp [exHdC, sortEntries_one, decEntryN_alg]

end C01
