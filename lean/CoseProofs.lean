/-
  The library: shared lemma modules, the first theorems of each property (Props), the
  developments on top of them (Deep, each after what it imports), the ties of the model to the Go
  source (Ties), the `#audit` command.
-/
import CoseProofs.Lemmas.Head
import CoseProofs.Lemmas.Out
import CoseProofs.Lemmas.Decode
import CoseProofs.Lemmas.Headers
import CoseProofs.Lemmas.Parse
import CoseProofs.Lemmas.Sort
import CoseProofs.Lemmas.Ecdsa
import CoseProofs.Lemmas.Key
import CoseProofs.Lemmas.TagScan
import CoseProofs.Lemmas.Steps
import CoseProofs.Props.C01
import CoseProofs.Props.C02
import CoseProofs.Props.C03
import CoseProofs.Props.C04
import CoseProofs.Props.C05
import CoseProofs.Props.C06
import CoseProofs.Props.C07
import CoseProofs.Props.C08
import CoseProofs.Props.C09
import CoseProofs.Props.C10
import CoseProofs.Props.C11
import CoseProofs.Props.C12
import CoseProofs.Props.C13
import CoseProofs.Props.C14
import CoseProofs.Props.C15
import CoseProofs.Props.C16
import CoseProofs.Props.C17
import CoseProofs.Props.C18
import CoseProofs.Props.C19
import CoseProofs.Props.C20
import CoseProofs.Deep.Tbs
import CoseProofs.Deep.Headers
import CoseProofs.Deep.Reencode
import CoseProofs.Deep.NoPanic
import CoseProofs.Deep.Chain
import CoseProofs.Deep.Keys
import CoseProofs.Deep.Accept
import CoseProofs.Deep.SignMsg
import CoseProofs.Deep.Tamper
import CoseProofs.Deep.RoundTrip
import CoseProofs.Deep.NestedRoundTrip
import CoseProofs.Deep.Verifies
import CoseProofs.Deep.WireGeneric
import CoseProofs.Deep.WireClosure
import CoseProofs.Deep.Signers
import CoseProofs.Deep.SignWireClosure
import CoseProofs.Deep.KeyRoundTrip
import CoseProofs.Deep.NestedBuckets
import CoseProofs.Deep.ClearRaw
import CoseProofs.Deep.NestedClosures
import CoseProofs.Deep.CsigRoundTrip
import CoseProofs.Deep.AlgWire
import CoseProofs.Deep.CsigClosures
import CoseProofs.Deep.SignClear
import CoseProofs.Deep.TagScan
import CoseProofs.Ties.C01
import CoseProofs.Ties.C02
import CoseProofs.Ties.C03
import CoseProofs.Ties.C04
import CoseProofs.Ties.C05
import CoseProofs.Ties.C06
import CoseProofs.Ties.C10
import CoseProofs.Ties.C11
import CoseProofs.Ties.C12
import CoseProofs.Ties.C13
import CoseProofs.Ties.C14
import CoseProofs.Ties.C15
import CoseProofs.Ties.C16
import CoseProofs.Ties.C17
import CoseProofs.Ties.C18
import CoseProofs.Ties.C19
import CoseProofs.Ties.C20
import CoseProofs.Audit
