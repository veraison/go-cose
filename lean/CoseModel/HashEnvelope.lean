/-
  CoseModel.HashEnvelope — hash_envelope.go, and the Sign1 / Sign1Untagged helpers (sign1.go:250,307).
-/
import CoseModel.Messages
namespace CoseModel

/-- `Algorithm.hashFunc().Size()`; 0 = no hash function known for this id (algorithm.go:121) -/
def hashSize (alg : Int) : Nat :=
  if alg = -37 ∨ alg = -7 ∨ alg = -16 then 32
  else if alg = -38 ∨ alg = -35 ∨ alg = -43 then 48
  else if alg = -39 ∨ alg = -36 ∨ alg = -44 then 64
  else 0

/-- `validateHash` -/
def validateHash (alg : Int) (value : Option Bytes) : Bool :=
  hashSize alg = 0 || hashSize alg = blen value

structure HashPayload where
  alg : Int
  value : Option Bytes
  pct : Option GoVal      -- PreimageContentType (nil interface = none)
  location : Bytes        -- "" = absent

/-- `setHashEnvelopeProtectedHeader`: a clone of the caller's map with the governed labels set -/
def setHashEnvelopeProtectedHeader (base : GoMap) (p : HashPayload) : GoMap :=
  let h := base.set (lbl 258) (.alg p.alg)
  let h := match p.pct with | some v => h.set (lbl 259) v | none => h
  if p.location.length > 0 then h.set (lbl 260) (.str p.location) else h

/-- `canText` (hash_envelope.go): a Go string that is valid UTF-8 — what the decoder of the
    envelope demands of a text string -/
def canText : GoVal → Bool
  | .str b => utf8Valid b
  | _ => false

theorem canText_canTstr {v : GoVal} (h : canText v = true) : canTstr v = true := by
  unfold canText at h
  split at h
  · exact h
  · cases h

def hashProtLoop : GoMap → Bool → Option Bool
  | [], found => some found
  | (l, v) :: r, found =>
    match normalizeLabel l with
    | none => none
    | some (.int _ 3) => none
    | some (.int _ 258) =>
      (match v with
       | .alg _ => hashProtLoop r true
       | _ => if canInt v then hashProtLoop r true else none)
    | some (.int _ 259) => if canUint v || canText v then hashProtLoop r found else none
    | some (.int _ 260) => if canText v then hashProtLoop r found else none
    | some _ => hashProtLoop r found

def hashUnprotOK : GoMap → Bool
  | [] => true
  | (l, _) :: r =>
    match normalizeLabel l with
    | none => false
    | some (.int _ 3) => false
    | some (.int _ 258) => false
    | some (.int _ 259) => false
    | some (.int _ 260) => false
    | some _ => hashUnprotOK r

/-- `validateHashEnvelopeHeaders` (on the parsed maps) -/
def validateHashEnvelopeHeaders (p u : GoMap) : Bool :=
  match hashProtLoop p false with
  | some true => hashUnprotOK u
  | _ => false

/-- `Sign1(rand, signer, headers, payload, external)` / `Sign1Untagged`: returned bytes, calls -/
def sign1Helper (tagged : Bool) (h : Hdrs) (payload external : Option Bytes) (s : Signer) :
    Out Bytes × List Bytes :=
  let r := Sign1.sign { h := h, payload := payload, sig := none } external s
  match r.out with
  | .ok _ => (Sign1.marshal tagged r.state, r.calls)
  | .err e => (.err e, r.calls)
  | .panic => (.panic, r.calls)
  | .unmodelled => (.unmodelled, r.calls)

/-- `SignHashEnvelope` -/
def signHashEnvelope (s : Signer) (h : Hdrs) (p : HashPayload) : Out Bytes × List Bytes :=
  if !validateHash p.alg p.value then (.err .other, [])
  else
    let prot := setHashEnvelopeProtectedHeader h.p p
    -- non-empty RawUnprotected is what gets emitted: it is decoded and validated
    let unprot : Out GoMap := match h.rawU with
      | some (b :: bs) => Unprotected.unmarshal (b :: bs)
      | _ => .ok h.u
    match unprot with
    | .ok u =>
      if !validateHashEnvelopeHeaders prot u then (.err .other, [])
      else sign1Helper true { h with p := prot, rawP := none, u := u } p.value none s
    | .err e => (.err e, [])
    | .panic => (.panic, [])
    | .unmodelled => (.unmodelled, [])

/-- `ProtectedHeader.PayloadHashAlgorithm()` -/
def payloadHashAlgorithm (h : GoMap) : AlgLookup :=
  match lookupLabel h (lbl 258) with
  | none => .notFound
  | some (.alg a) => .found a
  | some (.int k v) => if k.signed then .found v else .failed .invalidAlg
  | some _ => .failed .invalidAlg

/-- `VerifyHashEnvelope` -/
def verifyHashEnvelope (v : Verifier) (envelope : Bytes) : Out Sign1Msg × List Bytes :=
  match Sign1.unmarshal true envelope with
  | .ok m =>
    if !validateHashEnvelopeHeaders m.h.p m.h.u then (.err .other, [])
    else
      (match Sign1.verify m none v with
       | (.ok _, calls) =>
         (match payloadHashAlgorithm m.h.p with
          | .found a =>
            let m' : Sign1Msg := { m with h := { m.h with p := m.h.p.set (lbl 258) (.alg a) } }
            if validateHash a m.payload then (.ok m', calls) else (.err .other, calls)
          | .notFound => (.err .algNotFound, calls)
          | .failed e => (.err e, calls))
       | (.err e, calls) => (.err e, calls)
       | (.panic, calls) => (.panic, calls)
       | (.unmodelled, calls) => (.unmodelled, calls))
  | .err e => (.err e, [])
  | .panic => (.panic, [])
  | .unmodelled => (.unmodelled, [])

/-! ### NewSigner / NewVerifier (signer.go:60, verifier.go:51) -/

inductive KeyKind
  | rsa (bits : Nat)
  | ecdsa (ecdhOK : Bool)      -- an ECDSA key; `ecdhOK` = crypto/ecdh accepts curve and point
  | ed25519
  | foreign
  deriving Repr, DecidableEq

/-- the `switch alg` of NewSigner / NewVerifier -/
inductive Family | rsaPss | ecdsa | eddsa | none
  deriving DecidableEq, Repr

def familyOf (alg : Int) : Family :=
  if alg = -37 ∨ alg = -38 ∨ alg = -39 then .rsaPss
  else if alg = -7 ∨ alg = -35 ∨ alg = -36 then .ecdsa
  else if alg = -8 then .eddsa
  else .none

/-- `NewSigner(alg, key)`: the signer's reported algorithm or the error class -/
def newSigner (alg : Int) (k : KeyKind) : Except Err Int :=
  match familyOf alg, k with
  | .rsaPss, .rsa bits => if bits < 2048 then .error .other else .ok alg
  | .rsaPss, _ => .error .invalidPub
  | .ecdsa, .ecdsa _ => .ok alg
  | .ecdsa, _ => .error .invalidPub
  | .eddsa, .ed25519 => .ok (-8)
  | .eddsa, _ => .error .invalidPub
  | .none, _ => .error .algNotSupported

/-- `NewVerifier(alg, key)` -/
def newVerifier (alg : Int) (k : KeyKind) : Except Err Int :=
  match familyOf alg, k with
  | .rsaPss, .rsa bits => if bits < 2048 then .error .other else .ok alg
  | .rsaPss, _ => .error .invalidPub
  | .ecdsa, .ecdsa true => .ok alg
  | .ecdsa, _ => .error .invalidPub
  | .eddsa, .ed25519 => .ok (-8)
  | .eddsa, _ => .error .invalidPub
  | .none, _ => .error .algNotSupported

end CoseModel
